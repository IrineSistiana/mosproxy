/-
  C12 — source facts (regenerated from /repo's working tree on every run) the EDNS0 / ECS model depends on.
-/
import MosVerif.Generated.Facts
namespace MosVerif.C12

/-- (`length4/6`, `family4/6`, the guard `r.opt.ecsEnabled && remoteAddr.IsValid()` of `packReq` and the size floor of
    `newEDNS0` are tied by translation: `Lemmas/TranslatedC12.lean`) -/
theorem pins :
    Facts.udpSize = 1200 ∧ Facts.ecs_mask4 = 24 ∧ Facts.ecs_mask6 = 56 ∧ Facts.ecs_truncated4 = 3 ∧
    Facts.ecs_truncated6 = 7 ∧
    Facts.ecs_unmap = "addr = addr.Unmap()" ∧ Facts.fwd_removeEdns0 = "dnsmsg.RemoveEDNS0(resp)" :=
  ⟨rfl, rfl, rfl, rfl, rfl, rfl, rfl⟩

/-- EDNS0 ends at the proxy: `RemoveEDNS0` (applied to every upstream reply) drops every OPT record of every
    section and keeps the order of the others (`Router.stripOpt`); a query "has an OPT" if one is in any section
    (`Router.queryHasOptAny`); the empty answer of the limiter / overload paths gets the proxy's OPT iff so. -/
theorem pins_opt :
    Facts.opt_support = "clientSupportEDNS0 := queryOpt(m) != nil" ∧
    Facts.queryOpt_body = "{ for _, rs := range [...][]dnsmsg.Resource{m.Additionals, m.Authorities, m.Answers} { for _, rr := range rs { if hdr := rr.Hdr(); hdr.Type == dnsmsg.TypeOPT { return hdr } } } return nil }" ∧
    Facts.removeEDNS0_body = "{ m.Answers = removeOpt(m.Answers) m.Authorities = removeOpt(m.Authorities) m.Additionals = removeOpt(m.Additionals) }" ∧
    Facts.removeOpt_body = "{ n := 0 for _, r := range rs { if r.Hdr().Type == TypeOPT { ReleaseResource(r) continue } rs[n] = r n++ } for i := n; i < len(rs); i++ { rs[i] = nil } return rs[:n] }" ∧
    Facts.fallback_opt = "if queryOpt(query) != nil { resp.Additionals = append(resp.Additionals, newEDNS0(udpSize)) }" :=
  ⟨rfl, rfl, rfl, rfl, rfl⟩

end MosVerif.C12
