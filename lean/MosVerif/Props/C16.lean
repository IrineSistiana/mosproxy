/-
  C16 — A truncated UDP upstream reply is retried over TCP.
  `Model/Fallback.lean` is small enough that every theorem is one evaluation of `exchange`; the tie of the
  TC test to the source is `Lemmas/TranslatedC16.lean`.
-/
import MosVerif.Model.Fallback
import MosVerif.Lemmas.TranslatedC16
import MosVerif.Generated.Facts
namespace MosVerif.C16
open MosVerif.Fallback

/-- ★ TC ⇒ the TCP leg is used exactly once, with the same query, and the caller
    receives the TCP outcome. -/
theorem tc_goes_tcp (q tag : Nat) (t : Leg) :
    exchange q (.msg tag true) t = ⟨t, 1, some q⟩ := rfl

/-- ★ the truncated UDP message itself is never what the caller gets
    (unless the TCP leg independently produced the very same message). -/
theorem never_truncated_udp (q tag : Nat) (t : Leg) (h : t ≠ .msg tag true) :
    (exchange q (.msg tag true) t).result ≠ .msg tag true := by
  simpa [exchange] using h

/-- ★ no TC ⇒ returned as received and no TCP attempt. -/
theorem no_tc_no_tcp (q tag : Nat) (t : Leg) :
    exchange q (.msg tag false) t = ⟨.msg tag false, 0, none⟩ := rfl

/-- a failed UDP exchange is reported, TCP is not tried. -/
theorem udp_err_propagates (q : Nat) (t : Leg) :
    exchange q .err t = ⟨.err, 0, none⟩ := rfl

/-- ★ the model satisfies the executable specification used as the oracle
    for the implementation's observed outcomes — for every query and every
    behaviour of the two legs. -/
theorem model_meets_spec (q : Nat) (u t : Leg) : spec q u t (exchange q u t) = true := by
  cases u with
  | err => rfl
  | msg tag tc =>
    cases tc
    · simp [spec, exchange]
    · simp [spec, exchange]

/-- ★ a run of truncated replies: every caller gets the (non-truncated) TCP reply -/
theorem seq_all_tcp (k : Nat) : ∀ l ∈ seqModel k, ∃ tag, l = .msg tag false := by
  intro l hl
  simp only [seqModel, List.mem_map, List.mem_range] at hl
  obtain ⟨i, _, rfl⟩ := hl
  exact ⟨2000 + i, rfl⟩

/-- ★ the upstream has no memory of a failed TCP leg: in a run of truncated replies during which the TCP server
    fails the first `f` exchanges, exactly those callers get an error and every later caller gets the TCP reply. -/
theorem seq_recovers (f k i : Nat) (hi : i < k) :
    (seqModelF f k)[i]? = some (if i < f then .err else .msg (2000 + i) false) := by
  simp only [seqModelF, List.getElem?_map, List.getElem?_range hi, Option.map_some]
  by_cases h : i < f <;> simp [exchange, h]

theorem seqModelF_zero (k : Nat) : seqModelF 0 k = seqModel k := by
  simp [seqModelF, seqModel]

/-- the specification is not vacuous: it rejects returning the truncated message. -/
example : spec 7 (.msg 1 true) (.msg 2 false) ⟨.msg 1 true, 0, none⟩ = false := by decide
example : spec 7 (.msg 1 true) (.msg 2 false) ⟨.msg 2 false, 1, some 7⟩ = true := by decide
/-- and it rejects an unnecessary TCP attempt. -/
example : spec 7 (.msg 1 false) .err ⟨.msg 1 false, 1, some 7⟩ = false := by decide

/-- tie (pinned source facts): the TCP leg is called with the same context and the same payload `q`.
    That the branch tests the header's TC bit, and the header-only TC test of `ReadMsgFromUDP`, are tied by
    translation (Lemmas/TranslatedC16.lean: `exchange_translated`, `udpTcHeaderOnly_translated`). -/
theorem pins :
    Facts.fallback_tcpCall = "return u.t.ExchangeContext(ctx, q)" ∧
    Facts.fallback_udpCall = "r, err := u.u.ExchangeContext(ctx, q)" ∧
    -- both legs dial the same address
    Facts.fallback_udpDial = "return dialer.DialContext(ctx, \"udp\", dialAddr)" ∧
    Facts.fallback_tcpDial = "return dialer.DialContext(ctx, \"tcp\", dialAddr)" :=
  ⟨rfl, rfl, rfl, rfl⟩

end MosVerif.C16
