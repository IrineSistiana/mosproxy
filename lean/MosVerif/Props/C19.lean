/-
  C19 — Prefetch is single-flight and never delays a cache hit.
  Model: Model/Prefetch (on top of C08's cache model). Lemmas: Lemmas/Prefetch (invariants), PrefetchWave (a wave of
  client threads), PrefetchE2E (the scenario).
-/
import MosVerif.Lemmas.TranslatedC19
import MosVerif.Lemmas.Prefetch
import MosVerif.Lemmas.PrefetchE2E
import MosVerif.Generated.Facts
namespace MosVerif.C19
open MosVerif.Ttl MosVerif.Prefetch

/-! ### the refresh window -/

/-- ★ `needPrefetch` says yes exactly when the remaining lifetime is below ⌊lifespan / 4⌋ (Go's arithmetic
    shift is the floor division, also for negative spans), i.e. exactly when 4·remain + 4 ≤ lifespan, on int64
    nanoseconds. -/
theorem window_exact (stored expire now : Int) :
    (needPrefetch stored expire now = true ↔ expire - now < (expire - stored) / 4) ∧
    (needPrefetch stored expire now = true ↔ 4 * (expire - now) + 4 ≤ expire - stored) := by
  have hs : (expire - stored) >>> 2 = (expire - stored) / 4 := by
    rw [Int.shiftRight_eq_div_pow]; rfl
  unfold needPrefetch
  simp only [hs, decide_eq_true_eq]
  constructor
  · trivial
  · omega

example : needPrefetch 0 4000 2999 = false ∧ needPrefetch 0 4000 3000 = false ∧ needPrefetch 0 4000 3001 = true := by decide
example : needPrefetch 0 4003 3003 = false ∧ needPrefetch 0 4003 3004 = true := by decide

/-! ### single flight -/

/-- ★ For every number of client threads, every assignment of questions to them, every initial cache content and
    EVERY interleaving of their steps with the steps of the refresh goroutines (any upstream outcomes and
    latencies): at any time at most one refresh per prefetch key is in flight — counting a goroutine from the
    moment `reserve` succeeded until it has executed `done`. -/
theorem single_flight (P : Params) (mem : Mem) (keys : List Nat) (n : Nat) (labels : List Label) (pk : Nat) :
    let s := Prefetch.run P (init mem keys n) labels
    s.clients.countP (Client.spawningOn P pk) + inflight s pk ≤ 1 := by
  have h := sf_run P labels _ (sf_init P mem keys n) pk
  simp only [inflight]
  split at h <;> omega

/-- in particular at most one goroutine per question (keyForPrefetch is a function of the question and the
    client group, so equal questions share the key; a hash collision can only suppress a refresh) -/
theorem single_flight_per_question (P : Params) (mem : Mem) (keys : List Nat) (n : Nat) (labels : List Label)
    (key : Nat) :
    ((Prefetch.run P (init mem keys n) labels).refreshers.countP
      (fun r => r.key == key && r.pk == P.pkey key && (match r.pc with | .finished => false | _ => true))) ≤ 1 := by
  have h := single_flight P mem keys n labels (P.pkey key)
  simp only [inflight] at h
  refine Nat.le_trans (List.countP_mono_left ?_) (Nat.le_trans (Nat.le_add_left _ _) h)
  intro r _ hr
  simp only [Bool.and_eq_true, beq_iff_eq] at hr
  simp only [Refresher.inflightOn, Bool.and_eq_true, beq_iff_eq]
  exact ⟨hr.1.2, hr.2⟩

/-- the queue and the in-flight count agree: a key is reserved iff exactly one holder exists -/
theorem queue_exact (P : Params) (mem : Mem) (keys : List Nat) (n : Nat) (labels : List Label) (pk : Nat) :
    let s := Prefetch.run P (init mem keys n) labels
    s.clients.countP (Client.spawningOn P pk) + inflight s pk = if s.queue pk then 1 else 0 :=
  sf_run P labels _ (sf_init P mem keys n) pk

/-- non-vacuity: three clients hit the same entry in its last quarter; one refresh is spawned, all three respond -/
example :
    let P := e2eParams
    let mem0 := cacheStore P.clock P.cfg Mem.empty 0 (some (aRecord 4)) 0 0 1
    let s := Prefetch.run P (init mem0 [0, 0, 0] 2) (waveLabels 0 3 (3300 * msNs))
    (s.refreshers.length, inflight s 0, (waveResult s 0 3)) = (1, 1, (3, 1)) := by decide

/-! ### a hit is never blocked -/

/-- ★ From ANY state (whatever the refresh goroutines are doing — e.g. stuck in a slow upstream exchange forever)
    a client thread that has reached the cache lookup finishes with at most four steps of its own; no step of
    any refresh goroutine or of another client is needed in between. -/
theorem hit_not_blocked (P : Params) (s : State) (i : Nat) (hi : i < s.clients.length) (t1 t2 t3 t4 : Nat) :
    ∃ pc, clientPc (Prefetch.run P s [.client i t1, .client i t2, .client i t3, .client i t4]) i = some pc ∧
      pc.rank = 0 := by
  have h0 : ∃ pc, clientPc s i = some pc := by
    simp [clientPc, List.getElem?_eq_getElem hi]
  obtain ⟨pc0, h0⟩ := h0
  obtain ⟨pc1, h1, r1, -⟩ := clientStep_self P s i t1 pc0 h0
  obtain ⟨pc2, h2, r2, -⟩ := clientStep_self P _ i t2 pc1 h1
  obtain ⟨pc3, h3, r3, -⟩ := clientStep_self P _ i t3 pc2 h2
  obtain ⟨pc4, h4, r4, -⟩ := clientStep_self P _ i t4 pc3 h3
  refine ⟨pc4, h4, ?_⟩
  have : pc0.rank ≤ 4 := by cases pc0 <;> simp [CPc.rank]
  omega

/-- rank 0 means: the response is out (or the lookup missed and the miss path — not this property's subject —
    takes over) -/
theorem rank_zero (pc : CPc) (h : pc.rank = 0) : (∃ hit, pc = .responded hit) ∨ pc = .missed := by
  cases pc <;> simp [CPc.rank] at h ⊢

/-- ★ …and what it responds is what its own lookup found: no step of anybody else (refresh goroutines, other
    clients) changes a client thread's state, and its own steps keep the hit it holds. Hence for every
    interleaving the response to a hit is the cache content at the time of the lookup, whatever the refresh does. -/
theorem response_fixed_at_lookup (P : Params) (s : State) (i : Nat) (pc : CPc) (hit : Hit)
    (h : clientPc s i = some pc) (hh : pc.hit = some hit) (labels : List Label) :
    ∃ pc', clientPc (Prefetch.run P s labels) i = some pc' ∧ pc'.hit = some hit := by
  induction labels generalizing s pc with
  | nil => exact ⟨pc, h, hh⟩
  | cons l ls ih =>
    simp only [Prefetch.run]
    by_cases hl : ∃ now, l = .client i now
    · obtain ⟨now, rfl⟩ := hl
      obtain ⟨pc1, h1, -, k1⟩ := clientStep_self P s i now pc h
      exact ih (step P s (.client i now)) pc1 h1 (k1 hit hh)
    · have hsame : clientPc (step P s l) i = clientPc s i := by
        cases l with
        | client i' now =>
          have : i' ≠ i := fun e => hl ⟨now, by rw [e]⟩
          exact clientStep_other P s i i' now this
        | forward j out => simp [clientPc, step_refresher_clients P s (.forward j out) (by intro _ _ h; cases h)]
        | store j now d => simp [clientPc, step_refresher_clients P s (.store j now d) (by intro _ _ h; cases h)]
        | done j => simp [clientPc, step_refresher_clients P s (.done j) (by intro _ _ h; cases h)]
      exact ih (step P s l) pc (by rw [hsame]; exact h) hh

/-! ### what a refresh does to the cache -/

/-- ★ A successful refresh of a positive answer (rcode 0, not truncated) is stored with Set: whatever the key
    held is replaced by a node with the new message, stored "now" — so later hits carry renewed TTLs: the new
    TTLs aged by the time since the refresh, not since the original fetch. -/
theorem refresh_replaces_positive (P : Params) (s : State) (j : Nat) (r : Refresher) (m : Msg) (now delay : Nat)
    (hr : s.refreshers[j]? = some r) (hpc : r.pc = .fetched m) (hb : P.cfg.hasBackend = true)
    (htc : m.tc = false) (hpos : m.rcode = 0) :
    ∃ e, (step P s (.store j now delay)).mem r.key = some e ∧ e.msg = m ∧ e.stored = now ∧ e.id = s.nextId ∧
      ∀ t, cacheGet P.clock (step P s (.store j now delay)).mem r.key t = none ∨
           cacheGet P.clock (step P s (.store j now delay)).mem r.key t
             = some (subtractTTL m (elapsedDelta (t - now)), e) := by
  obtain ⟨e, he, hm, hid, hst⟩ := cacheStore_pos P.clock P.cfg s.mem r.key m now delay s.nextId hb htc hpos
  have hmem : (step P s (.store j now delay)).mem = cacheStore P.clock P.cfg s.mem r.key (some m) now delay s.nextId := by
    show (storeStep P s j now delay).mem = _
    simp [storeStep, hr, hpc]
  refine ⟨e, by rw [hmem]; exact he, hm, hst, hid, ?_⟩
  intro t
  rw [hmem]
  cases hg : cacheGet P.clock (cacheStore P.clock P.cfg s.mem r.key (some m) now delay s.nextId) r.key t with
  | none => exact .inl rfl
  | some p =>
    obtain ⟨served, e'⟩ := p
    obtain ⟨he', -, hs⟩ := cacheGet_some _ _ _ _ _ _ hg
    rw [he] at he'
    cases he'
    exact .inr (by rw [hs, hm, hst])

/-- ★ A failed refresh (the upstream exchange returns an error) never reaches `Store`: the goroutine goes from
    `spawned` straight to `done`; the cache is exactly what it was — the old entry is served until it expires —
    and the reservation is released, so a later hit may try again. -/
theorem failed_refresh_keeps_entry (P : Params) (s : State) (j : Nat) (r : Refresher) (t d : Nat)
    (hr : s.refreshers[j]? = some r) (hpc : r.pc = .spawned) :
    let s' := Prefetch.run P s [.forward j .err, .store j t d, .done j]
    s'.mem = s.mem ∧ s'.queue r.pk = false ∧ (∀ k now, cacheGet P.clock s'.mem k now = cacheGet P.clock s.mem k now) ∧
    (∃ r', s'.refreshers[j]? = some r' ∧ r'.pc = .finished) := by
  obtain ⟨hj, -⟩ := List.getElem?_eq_some_iff.1 hr
  intro s'
  rw [show s' = _ from refresh_run P s j r .err t d hr hpc]
  exact ⟨rfl, by simp [done], fun _ _ => rfl, _, List.getElem?_set_self hj, rfl⟩

/-- a refresh that brings an error *response* (e.g. NXDOMAIN, SERVFAIL) is stored set-if-absent (C08): it does
    not displace the entry as long as that entry is alive on the cache clock -/
theorem negative_refresh_keeps_entry (P : Params) (s : State) (j : Nat) (r : Refresher) (m : Msg) (now delay : Nat)
    (e : Entry) (hr : s.refreshers[j]? = some r) (hpc : r.pc = .fetched m) (hneg : m.rcode ≠ 0)
    (hpres : s.mem r.key = some e) (hlive : P.clock (now + delay) < e.expTick) :
    (step P s (.store j now delay)).mem = s.mem := by
  show (storeStep P s j now delay).mem = _
  simp only [storeStep, hr, hpc]
  exact cacheStore_neg_present P.clock P.cfg s.mem r.key m now delay s.nextId e hneg hpres hlive

/-! ### the executable specifications accept the models -/

/-- ★ (needprefetch) the window test answers as the specification demands whenever the instant is at least
    `slack ≥ 1` ns clear of the boundary of the last quarter -/
theorem need_model_meets_spec (stored expire now slack : Int) (hs : 1 ≤ slack) :
    specNeed stored expire now slack (needPrefetch stored expire now) = true := by
  have hw := (window_exact stored expire now).2
  unfold specNeed
  simp only [Bool.and_eq_true]
  constructor
  · split
    · exact hw.2 (by omega)
    · rfl
  · split
    · cases hn : needPrefetch stored expire now with
      | false => rfl
      | true => have := hw.1 hn; omega
    · rfl

example : specNeed 0 4000 2000 5 true = false ∧ specNeed 0 4000 3500 5 false = false := by decide

/-- ★ (prefetchctl) the reserve/done model never grants a key that is still held -/
theorem ctl_model_meets_spec (ops : List CtlOp) : specCtl [] ops (modelCtl Queue.empty ops) = true :=
  specCtl_model ops Queue.empty [] (by intro k; rfl)

example : specCtl [] [.reserve 1, .reserve 1] [1, 1] = false := by decide
example : specCtl [] [.reserve 1, .done 1, .reserve 1] [1, 1] = true := by decide
example : specCtl [] [.par 1 64] [2] = false := by decide

/-- ★ (prefetch_e2e) the scenario model satisfies the specification in every mode and for EVERY number `n ≥ 1`
    of concurrent hits per wave (upstream delays as the harness uses them: 500 ms in mode 0, 300 ms otherwise):
    all hits answered from cache, one refresh in flight, renewed TTL after a successful refresh, the old entry
    still served after a failed one. (Proved through `wave_run`: n client threads on one question, any n.) -/
theorem e2e_model_meets_spec (mode n : Nat) (hm : mode ≤ 2) (hn : 0 < n) :
    specE2E mode n (modelE2E mode n (if mode = 0 then 500 else 300)) = true :=
  specE2E_model mode n hm hn

example : specE2E 0 3 ⟨3, 1, 3, 1, true, 3, 2, some (true, 4), none⟩ = false := by decide
example : specE2E 0 3 ⟨3, 1, 3, 1, true, 2, 1, some (true, 1), none⟩ = false := by decide
example : specE2E 1 3 ⟨3, 1, 0, 0, true, 4, 1, some (false, 0), some (false, 0)⟩ = false := by decide
example : specE2E 0 3 ⟨3, 1, 3, 1, false, 2, 1, some (true, 4), none⟩ = false := by decide
/-- a failed refresh that wiped the answer (cached, but nothing in it) is rejected -/
example : specE2E 1 3 ⟨3, 1, 0, 0, true, 4, 1, some (true, 0), some (false, 0)⟩ = false := by decide

/-! ### tie: pinned source facts -/

/-- (`needPrefetch`'s three statements are tied by translation: `Prefetch.c19_needPrefetch_translated`) -/
theorem pins :
    Facts.pf_reserveBody = "{ c.m.Lock() defer c.m.Unlock() _, dup := c.queue[key] if dup { return false } c.queue[key] = struct{}{} return true }" ∧
    Facts.pf_doneBody = "{ c.m.Lock() defer c.m.Unlock() delete(c.queue, key) }" ∧
    Facts.pf_asyncBody = "{ key := r.cache.keyForPrefetch(q, remoteAddr) if ok := r.prefetch.reserve(key); !ok { return } qCopy := q.Copy() go func() { r.doPrefetch(qCopy, remoteAddr, u) dnsmsg.ReleaseQuestion(qCopy) r.prefetch.done(key) }() }" ∧
    Facts.pf_goStmt = "go func() { r.doPrefetch(qCopy, remoteAddr, u) dnsmsg.ReleaseQuestion(qCopy) r.prefetch.done(key) }()" ∧
    Facts.pf_goCount = 1 := by
  refine ⟨?_, ?_, ?_, ?_, ?_⟩ <;> rfl

/-- the hit path calls the prefetch before answering and never waits for it; doPrefetch stores only
    after a successful forward -/
theorem pins_2 :
    Facts.pf_hitCond = "resp != nil" ∧
    Facts.pf_hitBranch = "if needPrefetch(storedTime, expireTime) { r.asyncSingleFlightPrefetch(q, rc.RemoteAddr.Addr(), upstream) }" ∧
    Facts.pf_hitRespond = "rc.Response.Msg = resp" ∧
    Facts.pf_doForward = "resp, err := r.forward(ctx, u, q, remoteAddr)" ∧
    Facts.pf_doErrCond = "err != nil" ∧
    Facts.pf_doStore = "r.cache.Store(q, remoteAddr, resp)" ∧
    Facts.pf_doStoreCount = 1 ∧
    Facts.pf_doReturnCount = 1 := by
  refine ⟨?_, ?_, ?_, ?_, ?_, ?_, ?_, ?_⟩ <;> rfl

end MosVerif.C19
