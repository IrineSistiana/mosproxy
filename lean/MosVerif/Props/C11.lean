/-
  C11 — Domain sets match by label suffix, independent of load order.
  Property theorems; helper lemmas live in MosVerif/Lemmas/{TrieLemmas,TextLemmas,ReadableLemmas,MixLemmas}.lean.
-/
import MosVerif.Model.DomainSet
import MosVerif.Lemmas.TrieLemmas
import MosVerif.Lemmas.TextLemmas
import MosVerif.Lemmas.ReadableLemmas
import MosVerif.Lemmas.MixLemmas
import MosVerif.Lemmas.TranslatedC11
import MosVerif.Generated.Facts
namespace MosVerif.C11
open MosVerif.Text MosVerif.Trie MosVerif.DomainSet

/-! ## the trie -/

/-- the `DomainMatcher` after `Add`ing the entries in the given order. -/
def build (es : List (List Label)) : DM := es.foldl DM.add {}

/-- ★ one-step refinement: after `Add e` exactly the names matched before, plus the names
    that have `e` as a label-wise suffix, match.  (`e` without empty labels; `e = []` is the root.) -/
theorem match_add (m : DM) (e : List Label) (hwf : WF e) (q : List Label) :
    (m.add e).matchLabels q = true ↔ (m.matchLabels q = true ∨ e <:+ q) :=
  matchLabels_add m e hwf q

theorem match_foldl (es : List (List Label)) (hwf : ∀ e ∈ es, WF e) (m : DM) (q : List Label) :
    (es.foldl DM.add m).matchLabels q = true ↔ (m.matchLabels q = true ∨ ∃ e ∈ es, e <:+ q) := by
  induction es generalizing m with
  | nil => simp
  | cons e rest ih =>
    rw [List.foldl_cons, ih (fun x hx => hwf x (by simp [hx])), match_add m e (hwf e (by simp))]
    simp only [List.mem_cons, exists_eq_or_imp]
    exact or_assoc

/-- ★ a set built from any entry list (in that order) matches `q` iff some entry is a
    label-wise suffix of `q` (the root entry `[]` is a suffix of everything). -/
theorem match_spec (es : List (List Label)) (hwf : ∀ e ∈ es, WF e) (q : List Label) :
    (build es).matchLabels q = true ↔ ∃ e ∈ es, e <:+ q := by
  unfold build
  rw [match_foldl es hwf]
  simp [DM.matchLabels, matchWalk_empty]

/-- ★ the result depends only on the SET of entries: any reordering, any duplication. -/
theorem order_independent (es es' : List (List Label)) (hwf : ∀ e ∈ es, WF e)
    (hset : ∀ e, e ∈ es ↔ e ∈ es') (q : List Label) :
    (build es).matchLabels q = (build es').matchLabels q := by
  have hwf' : ∀ e ∈ es', WF e := fun e he => hwf e ((hset e).mpr he)
  rw [Bool.eq_iff_iff, match_spec es hwf, match_spec es' hwf']
  constructor <;> rintro ⟨e, he, hs⟩
  · exact ⟨e, (hset e).mp he, hs⟩
  · exact ⟨e, (hset e).mpr he, hs⟩

/-- ★ in particular every permutation of the entries gives the same set. -/
theorem perm_independent (es es' : List (List Label)) (hwf : ∀ e ∈ es, WF e) (hp : es.Perm es')
    (q : List Label) : (build es).matchLabels q = (build es').matchLabels q :=
  order_independent es es' hwf (fun _ => hp.mem_iff) q

/-- ★ adding an entry (at any moment, to any matcher) never un-matches a name. -/
theorem monotone (m : DM) (e : List Label) (hwf : WF e) (q : List Label)
    (h : m.matchLabels q = true) : (m.add e).matchLabels q = true :=
  (match_add m e hwf q).mpr (Or.inl h)

/-- non-vacuity: `com` then `a.com` (the D4 order) — `com`, `b.com` and `a.com` match, `org` does not. -/
example : (build [[[99]], [[97], [99]]]).matchLabels [[99]] = true := by decide
example : (build [[[99]], [[97], [99]]]).matchLabels [[98], [99]] = true := by decide
example : (build [[[97], [99]], [[99]]]).matchLabels [[98], [99]] = true := by decide
example : (build [[[97], [99]]]).matchLabels [[98], [99]] = false := by decide
example : (build [[[99]], [[97], [99]]]).matchLabels [[111]] = false := by decide
/-- label `a` against the name `a\x00` (D5). -/
example : (build [[[97]]]).matchLabels [[97, 0]] = false := by decide
example : WF [[99]] := by simp [WF]

/-- ★ the same on the wire: `DomainMatcher.Match(n)` for the wire form of any well-formed name. -/
theorem match_wire (es : List (List Label)) (hwf : ∀ e ∈ es, WF e) (q : List Label)
    (hg : GoodLabels q) (hw : wireLen q ≤ 254) :
    (build es).match (encode q) = true ↔ ∃ e ∈ es, e <:+ q := by
  rw [dm_match_encode _ q hg hw]
  exact match_spec es hwf q

/-! ## the map key -/

/-- ★ `shortLabelKey` / `string(label)` — the pair (which map, key) is injective on ALL labels,
    so two different labels never share a trie edge. -/
theorem keyOf_injective (a b : Label) (h : keyOf a = keyOf b) : a = b :=
  Trie.keyOf_injective a b h

/-- the key is 24 octets wide and carries the length in its last octet. -/
theorem shortKey_shape (l : Label) (h : l.length < 24) :
    (shortLabelKey l).length = 24 ∧ (shortLabelKey l).getLast? = some (UInt8.ofNat l.length) := by
  have ht : (l.take 23).length = l.length := by
    rw [List.length_take]
    exact Nat.min_eq_right (Nat.le_of_lt_succ h)
  constructor
  · simp only [shortLabelKey, keyWidth, List.length_append, List.length_replicate, ht,
      List.length_cons, List.length_nil]
    omega
  · rw [shortLabelKey, List.getLast?_append]
    rfl

/-- D5 witnesses: `a` and `a\x00`; a 23-octet and a 24-octet label with the same first 23 octets. -/
example : keyOf [97] ≠ keyOf [97, 0] := by decide
example : keyOf (List.replicate 23 97) ≠ keyOf (List.replicate 24 97) := by decide
example : keyOf (List.replicate 24 97) = .long (List.replicate 24 97) := by decide

/-! ## the text form -/

/-- ★ `ToReadable` of a well-formed name is the text form of the property … -/
theorem text_spec (ls : List Label) (hg : GoodLabels ls) (hw : wireLen ls ≤ 254) :
    toReadable (encode ls) = some (specText ls) :=
  toReadable_encode ls hg hw

/-- … the labels joined by single dots, the root being `.` … -/
theorem text_shape :
    specText [] = [46] ∧
    (∀ l : Label, specText [l] = l.flatMap specEscape) ∧
    (∀ (l l' : Label) (rest : List Label),
      specText (l :: l' :: rest) = l.flatMap specEscape ++ 46 :: specText (l' :: rest)) := by
  refine ⟨rfl, fun l => by simp [specText, joinDots], fun l l' rest => by simp [specText, joinDots]⟩

/-- … where letters, digits and the hyphen stand for themselves, -/
theorem escape_ldh (b : UInt8)
    (h : (97 ≤ b.toNat ∧ b.toNat ≤ 122) ∨ (65 ≤ b.toNat ∧ b.toNat ≤ 90) ∨
      (48 ≤ b.toNat ∧ b.toNat ≤ 57) ∨ b.toNat = 45) : escapeByte b = [b] := by
  rw [escapeByte_eq_spec, specEscape, if_pos h]

/-- `.` is `\.`, -/
theorem escape_dot : escapeByte 46 = [92, 46] := by decide

/-- `\` is `\\`, -/
theorem escape_backslash : escapeByte 92 = [92, 92] := by decide

/-- and every other octet is `\DDD`, three decimal digits, most significant first. -/
theorem escape_other (b : UInt8)
    (h : ¬ ((97 ≤ b.toNat ∧ b.toNat ≤ 122) ∨ (65 ≤ b.toNat ∧ b.toNat ≤ 90) ∨
      (48 ≤ b.toNat ∧ b.toNat ≤ 57) ∨ b.toNat = 45)) (hd : b ≠ 46) (hb : b ≠ 92) :
    ∃ d2 d1 d0 : Nat, d2 < 10 ∧ d1 < 10 ∧ d0 < 10 ∧ b.toNat = 100 * d2 + 10 * d1 + d0 ∧
      escapeByte b = [92, UInt8.ofNat (48 + d2), UInt8.ofNat (48 + d1), UInt8.ofNat (48 + d0)] := by
  have hd' : ¬ b.toNat = 46 := fun e => hd (UInt8.toNat_inj.mp e)
  have hb' : ¬ b.toNat = 92 := fun e => hb (UInt8.toNat_inj.mp e)
  refine ⟨b.toNat / 100, b.toNat / 10 % 10, b.toNat % 10,
    Nat.div_lt_of_lt_mul (Nat.lt_trans b.toNat_lt (by decide)), Nat.mod_lt _ (by decide),
    Nat.mod_lt _ (by decide), (digits_eq b.toNat).symm, ?_⟩
  rw [escapeByte_eq_spec, specEscape]
  simp only [h, hd', hb', ↓reduceIte]

/-- D6 witness: the label `a\x01` reads `a\001`, not `a1`. -/
example : toReadable [2, 97, 1] = some [97, 92, 48, 48, 49] := by decide
example : toReadable [1, 46, 1, 92] = some [92, 46, 46, 92, 92] := by decide

/-- ★ different well-formed names have different text forms (so a `regexp:` entry can tell
    any two names apart, and `a\x01` is not confused with `a1`). -/
theorem text_injective (a b : List Label) (ha : GoodLabels a) (hwa : wireLen a ≤ 254)
    (hb : GoodLabels b) (hwb : wireLen b ≤ 254)
    (h : toReadable (encode a) = toReadable (encode b)) : a = b := by
  rw [text_spec a ha hwa, text_spec b hb hwb] at h
  exact specText_injective a b ha hb (Option.some.inj h)

/-! ## names on the wire -/

/-- the scanner inverts the wire form, and only accepts wire forms of well-formed names. -/
theorem scan_iff (n : Bytes) (ls : List Label) :
    scan n = some ls ↔ (n = encode ls ∧ GoodLabels ls ∧ wireLen ls ≤ 254) :=
  ⟨scan_sound n ls, fun ⟨h1, h2, h3⟩ => h1 ▸ scan_encode ls h2 h3⟩

/-- `ToLowerName` lower-cases every label and nothing else. -/
theorem toLower_spec (ls : List Label) (hg : GoodLabels ls) (hw : wireLen ls ≤ 254) :
    toLowerName (encode ls) = encode (ls.map lowerLabel) :=
  toLowerName_encode ls hg hw

/-- whatever text `ParseReadable` accepts, the builder holds the wire form of labels of
    1..63 octets (253 octets at most) and the entry stored is their lower-cased form. -/
theorem parse_always_scans (x : Bytes) (b : Builder) (h : parseReadable x = some b) :
    ∃ ls, GoodLabels ls ∧ wireLen ls ≤ 253 ∧ b.data = encode ls ∧
      scan (toLowerName b.data) = some (ls.map lowerLabel) :=
  parseReadable_scans x b h

/-- ★ on a well-formed entry name (`specName`: pieces between dots of 1..63 octets, at most 253
    octets, optional final dot, empty or `.` = root) `ParseReadable` + `ToLowerName` yield exactly
    its lower-cased labels. -/
theorem parse_spec (x : Bytes) (ls : List Label) (h : specName x = some ls) :
    ∃ b, parseReadable x = some b ∧ toLowerName b.data = encode ls ∧ GoodLabels ls ∧
      wireLen ls ≤ 253 :=
  parseReadable_spec x ls h

example : specName [65, 46, 98, 46] = some [[97], [98]] := by decide          -- "A.b."
example : specName [97, 46, 46, 98] = none := by decide                      -- "a..b"
/-- the `i > 0` quirk: `a..b` is accepted with the label `.b`. -/
example : (parseReadable [97, 46, 46, 98]).map (·.data) = some [1, 97, 2, 46, 98] := by decide

/-! ## the whole matcher -/

/-- the `MixMatcher` after the given files / `Add` calls. -/
def loaded (re : Re) (gs : List Group) : Mix := (runGroups re {} gs).1

/-- ★ for ANY regular-expression engine and ANY sequence of files and `Add` calls whose lines are
    well-formed entries, comments or blank: every load succeeds and `MixMatcher.Match` on the wire
    form of ANY well-formed name is the declarative `specMatch` over the entries. -/
theorem mix_loaded (re : Re) (gs : List Group) (es : List Entry)
    (h : specEntries re gs = some es) :
    (runGroups re {} gs).2 = gs.map allLoaded ∧
    ∀ q, GoodLabels q → wireLen q ≤ 254 → (loaded re gs).match re (encode q) = specMatch re es q := by
  obtain ⟨m', hm, hs⟩ := runGroups_sem re gs es h {} [] (sem_empty re)
  unfold loaded
  rw [hm]
  simp only [List.nil_append] at hs
  exact ⟨rfl, hs⟩

/-- ★ … i.e. iff some `full:` entry equals the name, or some `domain:`/bare entry is a label-wise
    suffix of it, or some `regexp:` entry matches its text form. -/
theorem mix_spec (re : Re) (gs : List Group) (es : List Entry) (h : specEntries re gs = some es)
    (q : List Label) (hg : GoodLabels q) (hw : wireLen q ≤ 254) :
    (loaded re gs).match re (encode q) = true ↔
      ((.full q) ∈ es ∨ (∃ n, .domain n ∈ es ∧ n <:+ q) ∨
        (∃ p, .regexp p ∈ es ∧ re.isMatch p (specText q) = true)) := by
  rw [(mix_loaded re gs es h).2 q hg hw, specMatch, List.any_eq_true]
  constructor
  · rintro ⟨e, he, hm⟩
    cases e with
    | full n =>
      simp only [entryMatches, beq_iff_eq] at hm
      exact Or.inl (hm ▸ he)
    | domain n =>
      exact Or.inr (Or.inl ⟨n, he, List.isSuffixOf_iff_suffix.mp hm⟩)
    | regexp p => exact Or.inr (Or.inr ⟨p, he, hm⟩)
  · rintro (h1 | ⟨n, hn, hs⟩ | ⟨p, hp, hm⟩)
    · exact ⟨_, h1, by simp [entryMatches]⟩
    · exact ⟨_, hn, List.isSuffixOf_iff_suffix.mpr hs⟩
    · exact ⟨_, hp, hm⟩

/-- ★ the result depends only on the SET of entries: not on their order, their multiplicity,
    the files they came from or the way they were added. -/
theorem mix_order_independent (re : Re) (gs gs' : List Group) (es es' : List Entry)
    (h : specEntries re gs = some es) (h' : specEntries re gs' = some es')
    (hset : ∀ e, e ∈ es ↔ e ∈ es') (q : List Label) (hg : GoodLabels q) (hw : wireLen q ≤ 254) :
    (loaded re gs).match re (encode q) = (loaded re gs').match re (encode q) := by
  rw [Bool.eq_iff_iff, mix_spec re gs es h q hg hw, mix_spec re gs' es' h' q hg hw]
  simp only [hset]

/-- ★ loading more (another file, another `Add`) never un-matches a name. -/
theorem mix_monotone (re : Re) (gs more : List Group) (es es' : List Entry)
    (h : specEntries re gs = some es) (h' : specEntries re (gs ++ more) = some es')
    (hsub : ∀ e, e ∈ es → e ∈ es') (q : List Label) (hg : GoodLabels q) (hw : wireLen q ≤ 254)
    (hm : (loaded re gs).match re (encode q) = true) :
    (loaded re (gs ++ more)).match re (encode q) = true := by
  rw [(mix_loaded re gs es h).2 q hg hw, specMatch, List.any_eq_true] at hm
  obtain ⟨e, he, hm⟩ := hm
  rw [(mix_loaded re _ es' h').2 q hg hw, specMatch, List.any_eq_true]
  exact ⟨e, hsub e he, hm⟩

theorem specEntries_append (re : Re) (gs more : List Group) :
    specEntries re (gs ++ more) =
      (match specEntries re gs, specEntries re more with
      | some a, some b => some (a ++ b)
      | _, _ => none) := by
  induction gs with
  | nil => cases h : specEntries re more <;> simp [specEntries, h]
  | cons g rest ih =>
    simp only [List.cons_append, specEntries, ih]
    -- `some (a ++ (b ++ c))` on both sides when all three are `some`, `none` otherwise
    cases specGroupEntries re g <;> cases specEntries re rest <;> cases specEntries re more <;>
      simp

/-- the entries of `gs ++ more` are those of `gs` followed by those of `more`
    (so `mix_monotone`'s inclusion hypothesis always holds). -/
theorem entries_append_sub (re : Re) (gs more : List Group) (es es' : List Entry)
    (h : specEntries re gs = some es) (h' : specEntries re (gs ++ more) = some es') :
    ∀ e, e ∈ es → e ∈ es' := by
  rw [specEntries_append, h] at h'
  cases hm : specEntries re more with
  | none => simp [hm] at h'
  | some b =>
    simp only [hm, Option.some.injEq] at h'
    subst h'
    exact fun e he => List.mem_append_left b he

/-- ★ entries are case-insensitive: the name denoted by an entry, hence (by `mix_loaded`) the
    matcher, does not change when letters of a `full:`/`domain:`/bare entry change case. -/
theorem entry_case_insensitive (re : Re) (x x' : Bytes) (h : x.map lowerByte = x'.map lowerByte) :
    specRule re (pfxFull ++ x) = specRule re (pfxFull ++ x') ∧
    specRule re (pfxDomain ++ x) = specRule re (pfxDomain ++ x') := by
  rw [specRule_full, specRule_full, specRule_domain, specRule_domain, specName_case x x' h]
  exact ⟨rfl, rfl⟩

/-- the model-level form: both spellings leave the `MixMatcher` in the very same state. -/
theorem add_case_insensitive (re : Re) (m : Mix) (x x' : Bytes) (ls : List Label)
    (hx : specName x = some ls) (h : x.map lowerByte = x'.map lowerByte) :
    m.add re (pfxDomain ++ x) = m.add re (pfxDomain ++ x') ∧
    m.add re (pfxFull ++ x) = m.add re (pfxFull ++ x') := by
  have hx' : specName x' = some ls := by rw [← specName_case x x' h]; exact hx
  obtain ⟨b, hp, hl, hg, hw⟩ := parseReadable_spec x ls hx
  obtain ⟨b', hp', hl', _, _⟩ := parseReadable_spec x' ls hx'
  simp only [add_domain, add_full, hp, hp', hl, hl', and_self]

/-- ★ the same for bare entries (no `:` in them). -/
theorem bare_case_insensitive (re : Re) (x x' : Bytes) (h : x.map lowerByte = x'.map lowerByte)
    (hc : x.contains 58 = false) (hc' : x'.contains 58 = false) :
    specRule re x = specRule re x' := by
  rw [specRule_bare re x hc, specRule_bare re x' hc', (entry_case_insensitive re x x' h).2]

example : specRule miniRe [102, 117, 108, 108, 58, 65] = some (.full [[97]]) := by decide  -- "full:A"
example : specRule miniRe [65, 46, 66] = some (.domain [[97], [98]]) := by decide           -- "A.B"
example : specLine miniRe [32, 97, 32, 35, 120] = .entry (.domain [[97]]) := by decide      -- " a #x"
example : specLine miniRe [9, 35, 97] = .ignored := by decide                               -- "\t#a"
example : specLine miniRe [] = .ignored := by decide

/-- ★ the model satisfies the executable specification used as the oracle for the
    implementation's observed outputs — for every engine and every case. -/
theorem model_meets_spec (re : Re) (c : Case) : spec re c (model re c) = true := by
  unfold spec
  cases h : specEntries re c.groups with
  | none => rfl
  | some es =>
    obtain ⟨m', hm, hs⟩ := runGroups_sem re c.groups es h {} [] (sem_empty re)
    simp only [model, hm, beq_self_eq_true, Bool.true_and]
    exact specQueries_sem re m' es (by simpa using hs) c.queries

/-- ★ and so does `ToReadable` for the component `readable`. -/
theorem readable_meets_spec (q : Query) : specReadable q (toReadable q.toWire) = true := by
  cases q with
  | wire n => rfl
  | labels ls =>
    simp only [specReadable, Query.toWire]
    split
    · rename_i hc
      obtain ⟨hg, hw⟩ := goodName_good ls hc
      simp [toReadable_encode ls hg hw]
    · rfl

/-- the specification is not vacuous: with the entry `com`, `a.com` must match and `org` must not;
    an unloaded well-formed entry is a violation. -/
example : spec miniRe ⟨[.load [[99]]], [.labels [[97], [99]], .labels [[111]]]⟩ ⟨[[true]], [true, false]⟩ = true := by
  decide
example : spec miniRe ⟨[.load [[99]]], [.labels [[97], [99]], .labels [[111]]]⟩ ⟨[[true]], [false, false]⟩ = false := by
  decide
example : spec miniRe ⟨[.load [[99]]], [.labels [[97], [99]], .labels [[111]]]⟩ ⟨[[true]], [true, true]⟩ = false := by
  decide
example : spec miniRe ⟨[.load [[99]]], [.labels [[97], [99]]]⟩ ⟨[[false]], [true]⟩ = false := by decide
example : specReadable (.labels [[97, 1]]) (some [97, 49]) = false := by decide

/-! ## witnesses of the repaired defects (the pre-fix code, for the record) -/

/-- D5: the pre-fix key was the zero-padded label without its length … -/
def oldShortKey (label : Label) : List UInt8 :=
  label.take 24 ++ List.replicate (24 - (label.take 24).length) 0

/-- … so `a` and `a\x00` shared a key. -/
theorem d5_old_key_not_injective : oldShortKey [97] = oldShortKey [97, 0] ∧ ([97] : Label) ≠ [97, 0] := by
  decide

/-- D4: the pre-fix `Add` had no early return: `GetOrAddChild` replaced a leaf by a subtree. -/
def oldAddWalk : List Label → Children → Children
  | [], n => n
  | label :: rest, n =>
    if label.length == 0 then oldAddWalk rest n
    else if rest.isEmpty then addLeaf n label
    else
      let r := getOrAddChild n label
      store (keyOf label) (.node (oldAddWalk rest r.2)) r.1

/-- `com` then `a.com`: `com` and `b.com` stopped matching. -/
theorem d4_old_add_unmatches :
    matchWalk [[99]] (oldAddWalk [[99]] []) = true ∧
    matchWalk [[99]] (oldAddWalk [[99], [97]] (oldAddWalk [[99]] [])) = false ∧
    matchWalk [[99], [98]] (oldAddWalk [[99], [97]] (oldAddWalk [[99]] [])) = false ∧
    matchWalk [[99], [98]] (addWalk [[99], [97]] (addWalk [[99]] [])) = true := by decide

/-- D6: the pre-fix escape wrote the bare decimal value … -/
def oldEscapeByte (b : UInt8) : Bytes :=
  if isPrintableLabelChar b then [b]
  else if b = 46 then [92, 46]
  else if b = 92 then [92, 92]
  else (toString b.toNat).toList.map (fun c => UInt8.ofNat c.toNat)

/-- … so `a\x01` and `a1` had the same text. -/
theorem d6_old_text_not_injective :
    ([97, 1] : Label).flatMap oldEscapeByte = ([97, 49] : Label).flatMap oldEscapeByte := by decide

/-! ## ties -/

/-- the octets of an ASCII string literal. -/
def asciiOf (s : String) : Bytes := s.toList.map (fun c => UInt8.ofNat c.toNat)

/-- source facts the model depends on: a `Facts.*` conjunct stops building when the extracted
    Go text changes.  The last two lines tie nothing to the source; they record the model's own
    constants as numerals and as ASCII strings. -/
theorem pins :
    -- the key: the array width, the length octet (the `l < 24` tests: `Lemmas/TranslatedC11`, `keyOf_translated_*`)
    Facts.dm_shortKeyBody = "{ copy(key[:23], label) key[23] = byte(len(label)) return key }" ∧
    Facts.dm_shortMapMake = "n.s = make(map[[24]byte]*labelNode)" ∧
    Facts.dm_addLeafShort = "n.s[shortLabelKey(label)] = nil" ∧
    Facts.dm_addLeafLong = "n.l[string(label)] = nil" ∧
    -- DomainMatcher.Add / Match: nil-ness tests (the integer / boolean tests: `addWalk_translated`,
    -- `add_translated`, `matchWalk_translated`)
    Facts.dm_addEarlyReturnCond = "ok && child == nil" ∧
    Facts.dm_matchNilCond = "child == nil" ∧
    Facts.dm_matchNilReturn = "return ok" ∧
    -- MixMatcher.Add, loader (the `i >= 0` and `len(b) == 0` tests: `mixAdd_translated`,
    -- `stripComment_translated`, `loaderLine_translated`)
    Facts.dm_mixSep = "':'" ∧ Facts.dm_mixLowerCount = 2 ∧
    Facts.dm_mixSwitchRegexp = "case \"regexp\": return m.regexp.Add(string(exp))" ∧
    Facts.dm_loaderComment = "'#'" ∧ Facts.dm_loaderTrim = "b = bytes.TrimSpace(b)" ∧
    -- text form: the call of `isPrintableLabelChar` (its body, the four appended octets of the `\DDD` escape,
    -- the lower-casing step, the root test: `isPrintableLabelChar_translated`, `escapeByte_translated`,
    -- `lowerByte_translated`, `toReadable_translated`)
    Facts.dm_escapePrintableCond = "isPrintableLabelChar(b)" ∧
    -- (builder / scanner limits and offsets: `appendLabel_translated`, `parseReadable_translated`,
    -- `parseLoop_translated`, `dropTrailingDot_translated`, `scan_translated`, `scanLoop_*_translated`)
    -- the model's constants
    keyWidth = 24 ∧ labelMax = 63 ∧ builderMax = 253 ∧ scanMax = 254 ∧
    typDomain = asciiOf "domain" ∧ typFull = asciiOf "full" ∧ typRegexp = asciiOf "regexp" ∧
    pfxDomain = asciiOf "domain:" ∧ pfxFull = asciiOf "full:" ∧ pfxRegexp = asciiOf "regexp:" := by
  and_intros <;> rfl

/-- the two remaining switch arms, pinned whole. -/
theorem pins_switch :
    Facts.dm_mixSwitchDomain = "case \"\", \"domain\": var builder dnsmsg.NameBuilder err := builder.ParseReadable(exp) if err != nil { return err } dnsmsg.ToLowerName(builder.Data()) scanner := dnsmsg.NewNameScanner(builder.Data()) labels := make([][]byte, 0, 8) for scanner.Scan() { labels = append(labels, scanner.Label()) } m.domain.Add(labels) return nil" ∧
    Facts.dm_mixSwitchFull = "case \"full\": var builder dnsmsg.NameBuilder err := builder.ParseReadable(exp) if err != nil { return err } dnsmsg.ToLowerName(builder.Data()) m.full.Add(builder.Data()) return nil" :=
  ⟨rfl, rfl⟩

end MosVerif.C11
