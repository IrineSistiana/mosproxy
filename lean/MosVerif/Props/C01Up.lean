/-
  C01, upstream side — "no byte sequence arriving … from an upstream as a reply makes the process panic, read
  out of bounds, loop without bound or stop serving: input that cannot be decoded is rejected (… the exchange
  fails) and later valid queries are still answered".

  Model: Model/UpReply.lean (the read paths of every upstream transport, on top of the decoder model of
  Model/Wire.lean). The theorems quantify over all octet strings / all scripts / all interleavings of replies with
  exchanges joining and leaving; the tie to the code is `pins` below plus the `upreply` component (the real
  upstreams built by `upstream.NewUpstream` against scripted servers).
-/
import MosVerif.Lemmas.UpReplyLemmas
import MosVerif.Lemmas.TranslatedC01Up
namespace MosVerif.C01Up
open MosVerif MosVerif.Wire MosVerif.UpReply

/-! ### framing: `ReadMsgFromTCP` -/

/-- ★ Reading a frame never panics and has one of three outcomes, for every octet string — whatever the
    length prefix claims (0, 65535, more or less than what follows). -/
theorem readMsgFromTCP_total (s : Bytes) :
    readMsgFromTCP s = .short ∨ (∃ rest, readMsgFromTCP s = .bad rest) ∨ ∃ m rest, readMsgFromTCP s = .msg m rest := by
  cases h : readMsgFromTCP s with
  | short => exact Or.inl rfl
  | bad r => exact Or.inr (Or.inl ⟨r, rfl⟩)
  | msg m r => exact Or.inr (Or.inr ⟨m, r, rfl⟩)
  | panic => exact absurd h (readMsgFromTCP_ne_panic s)

/-- ★ A message is returned only when all announced octets are there; it is decoded from exactly these octets
    (nothing behind them is read) and the rest of the stream is left untouched. -/
theorem readMsgFromTCP_exact {s : Bytes} {m : Msg} {rest : Bytes} (h : readMsgFromTCP s = .msg m rest) :
    ∃ a b body, s = a :: b :: (body ++ rest) ∧ body.length = be16 a b ∧ unpackMsg body = .ok m :=
  readMsgFromTCP_msg h

/-- A length prefix that announces more than what arrives never yields a message (the exchange fails). -/
theorem lying_length_fails (a b : UInt8) (body : Bytes) (h : body.length < be16 a b) :
    readMsgFromTCP (a :: b :: body) = .short := by
  simp [readMsgFromTCP, h]

/-! ### datagrams: `ReadMsgFromUDP` -/

/-- ★ Reading a datagram never panics: it yields a message or an error, for every octet string. -/
theorem readMsgFromUDP_total (b : Bytes) :
    (∃ m, readMsgFromUDP b = .msg m) ∨ ∃ n, readMsgFromUDP b = .bad n := by
  cases h : readMsgFromUDP b with
  | msg m => exact Or.inl ⟨m, rfl⟩
  | bad n => exact Or.inr ⟨n, rfl⟩
  | panic => exact absurd h (readMsgFromUDP_ne_panic b)

/-- ★ A message that is not the decoding of the datagram is produced only from a datagram that has the 12
    header octets with TC set; it carries that header's id, TC=1 and no records (so all it can do is send the
    query again over TCP). -/
theorem header_only_message_needs_tc {b : Bytes} {m : Msg} (h : readMsgFromUDP b = .msg m)
    (hn : unpackMsg (b.take udpBuf) ≠ .ok m) :
    ∃ a c f rest, b.take udpBuf = a :: c :: f :: rest ∧ 12 ≤ (b.take udpBuf).length ∧ (f.toNat / 2) % 2 = 1 ∧
      m.hdr.id = be16 a c ∧ m.hdr.truncated = true ∧
      m.questions = [] ∧ m.answers = [] ∧ m.authorities = [] ∧ m.additionals = [] := by
  rcases readMsgFromUDP_msg h with hm | ⟨_, hh⟩
  · exact absurd hm hn
  · obtain ⟨a, c, f, rest, h1, h2, h3, h4, h5, _, h7, h8, h9, h10⟩ := headerOnly_some hh
    exact ⟨a, c, f, rest, h1, h2, h3, h4, h5, h7, h8, h9, h10⟩

/-- A datagram without TC in its header that does not decode yields no message (it is skipped or, if empty,
    ends the connection). -/
theorem undecodable_without_tc_is_dropped (b : Bytes) (hd : unpackMsg (b.take udpBuf) = .err)
    (hh : headerOnly (b.take udpBuf) = none) : ∃ n, readMsgFromUDP b = .bad n := by
  simp [readMsgFromUDP, readMsgFromUDPn, hd, hh]

/-! ### the pipelined read loop -/

/-- ★ The read loop of a pipelined connection (udp, tcp+pipeline, tls+pipeline) makes progress on every reply
    sequence, for every state of the waiters and every interleaving of replies with exchanges registering,
    receiving and leaving: it never blocks and never panics; it reads every unit, or stops at the first unit
    that closes the connection. -/
theorem readLoop_progress (isTCP : Bool) (es : List Ev) (q : Queue) :
    (runLoop false isTCP q 0 es).2 = .idle (unitsOf es) ∨
    ∃ k, k < unitsOf es ∧ (runLoop false isTCP q 0 es).2 = .closed k := by
  rcases runLoop_progress isTCP es q 0 with h | ⟨k, _, _, h2, _, _, h3⟩
  · left; simpa using h
  · right; exact ⟨k, by omega, h3⟩

/-- ★ Replies nobody waits for (waiter gone, duplicate into a full channel, id never asked) are dropped and
    the loop goes on: if no unit closes the connection, all of them are read. -/
theorem readLoop_reads_every_reply (isTCP : Bool) (es : List Ev) (q : Queue)
    (hno : ∀ b, Ev.unit b ∈ es → ¬ closes isTCP b) :
    (runLoop false isTCP q 0 es).2 = .idle (unitsOf es) := by
  simpa using runLoop_reads_all isTCP es hno q 0

/-- the hand-over itself: no queue state makes it block -/
theorem handover_never_blocks (q : Queue) (m : Msg) : (deliver false q m).2 ≠ .blocked :=
  deliver_nonblocking q m

/-- A reply that reaches the waiter of id `id` was decoded from a unit the server sent and carries `id`. -/
theorem delivered_was_sent (isTCP : Bool) (q0 : Queue) (hq0 : ∀ e ∈ q0, e.2.buf = []) (us : List Bytes)
    (id : Nat) (m : Msg) (h : delivered (runLoop false isTCP q0 0 (us.map .unit)).1 id = some m) :
    m.hdr.id = id ∧ ∃ b ∈ us, unitStep isTCP b = .msg m := by
  have hg := runLoop_good isTCP (· ∈ us) (us.map .unit) q0 0
    (by intro b hb; simpa using hb)
    (by intro e he m hm; rw [hq0 e he] at hm; simp at hm)
  exact delivered_good hg h

/-- a valid reply with id 7 (question `a. IN A`, no records) -/
def dupReply : Bytes := [0,7, 0x81,0x80, 0,1, 0,0, 0,0, 0,0, 1,97, 0, 0,1, 0,1]

/-- evaluates the read loop and the decoder on literal octets (the decoder recurses on a measure, so
    `decide` does not reduce it) -/
macro "up_eval" : tactic => `(tactic|
  simp [runLoop, unitStep, deliver, qget, qset, qdel, dupReply, unpackMsg, sliceFrom, unpackQuestions, unpackResources,
    unpackQuestion, unpackName, nameLoop, hopLimit, nameCap, Bind.bind, Res.bind, be16, u16At, headerOfBits, testBit])

/-- Non-vacuity of the distinction: with a blocking hand-over (`resChan <- r` without `default:`) the same
    reply sent twice wedges the loop when the owner of the id does not receive — the second copy finds the
    channel full. The non-blocking hand-over of the code drops it and goes on. -/
example : (runLoop true true [(7, ⟨[], 1⟩)] 0 [.unit dupReply, .unit dupReply, .leave 7, .unit dupReply]).2 = .blocked 1 := by
  up_eval
example : (runLoop false true [(7, ⟨[], 1⟩)] 0 [.unit dupReply, .unit dupReply, .leave 7, .unit dupReply]).2 = .idle 3 := by
  up_eval

/-! ### one-at-a-time connections -/

/-- an exchange on a one-at-a-time connection succeeds exactly when the next frame decodes and carries the id
    of the connection's current query -/
theorem reuseExchange_ok {qid : Nat} {s : Bytes} {m : Msg} {rest : Bytes} :
    reuseExchange qid s = .ok (m, rest) ↔ readMsgFromTCP s = .msg m rest ∧ m.hdr.id = qid := by
  unfold reuseExchange
  cases readMsgFromTCP s with
  | msg m' r' =>
    by_cases hid : m'.hdr.id = qid
    · simp only [idMatches, hid, if_true, Res.ok.injEq, Prod.mk.injEq, Read.msg.injEq]
      exact ⟨fun h => ⟨h, h.1 ▸ hid⟩, fun h => h.1⟩
    · simp only [idMatches, hid, if_false, Read.msg.injEq, reduceCtorEq, false_iff]
      exact fun h => hid (h.1.1 ▸ h.2)
  | _ => simp

/-- ★ (D33) An exchange on a one-at-a-time connection returns a message only if it carries the id of the
    connection's current query … -/
theorem reuse_returns_own_id {qid : Nat} {s : Bytes} {m : Msg} {rest : Bytes}
    (h : reuseExchange qid s = .ok (m, rest)) : m.hdr.id = qid :=
  (reuseExchange_ok.1 h).2

/-- ★ … so a frame left over from an earlier query (any id but the current one) fails the exchange — the
    connection is closed instead of being reused one frame behind. -/
theorem reuse_stale_frame_fails (qid : Nat) (a b : UInt8) (body rest : Bytes) (m : Msg)
    (hl : body.length = be16 a b) (hm : unpackMsg body = .ok m) (hid : m.hdr.id ≠ qid) :
    reuseExchange qid (a :: b :: (body ++ rest)) = .err := by
  have h1 : ¬ body.length + rest.length < be16 a b := by omega
  have h2 : (body ++ rest).take (be16 a b) = body := by rw [← hl]; simp
  simp [reuseExchange, readMsgFromTCP, h1, h2, hm, hid]

/-! ### DoH -/

/-- ★ `DoHTransport.exchange` never panics, whatever status, Content-Length and body the HTTP layer reports. -/
theorem doh_noPanic (status : Nat) (cl : Int) (body : Bytes) (e : Bool) :
    dohExchange false status cl body e ≠ .panic := dohExchange_ne_panic status cl body e

/-- ★ The Content-Length the server announces has no influence on what the transport does … -/
theorem doh_ignores_contentLength (status : Nat) (cl cl' : Int) (body : Bytes) (e : Bool) :
    dohExchange false status cl body e = dohExchange false status cl' body e := by
  simp [dohExchange]

/-- ★ … and octets behind the limit are never looked at: at most `dohLimit` octets reach the decoder. -/
theorem doh_bounded (status : Nat) (cl : Int) (body extra : Bytes) (h : dohLimit ≤ body.length) :
    dohExchange false status cl (body ++ extra) false = dohExchange false status cl body false := by
  have : (body ++ extra).take dohLimit = body.take dohLimit := by
    rw [List.take_append_of_le_length h]
  simp [dohExchange, this]

/-- Non-vacuity of the distinction: pre-sizing the buffer from the announced length would panic. -/
example : dohExchange true 200 (2 ^ 62) [] false = .panic := by decide
example : dohExchange false 200 (2 ^ 62) [] false = .err := by
  simp [dohExchange, dohLimit, unpackMsg, sliceFrom, Bind.bind, Res.bind]

/-! ### the whole prediction -/

theorem stuck_false (isTCP : Bool) (es : List Ev) (q : Queue) : isStuck (runLoop false isTCP q 0 es).2 = false := by
  cases he : (runLoop false isTCP q 0 es).2 with
  | blocked k => exact absurd he (runLoop_not_blocked isTCP es q 0 k).1
  | panic => exact absurd he (runLoop_not_blocked isTCP es q 0 0).2
  | _ => rfl

theorem reuseFirst_ne_panic (s : Bytes) (t : Term) : reuseFirst s t ≠ .panic := by
  unfold reuseFirst reuseExchange
  have := readMsgFromTCP_ne_panic s
  cases h : readMsgFromTCP s with
  | panic => exact absurd h this
  | short => simp
  | bad r => simp
  | msg m r =>
    simp only
    by_cases hid : m.hdr.id = 0
    · simp only [hid, if_true]; split <;> simp
    · simp [hid]

theorem quicFirst_ne_panic (s : Bytes) (t : Term) : quicFirst s t ≠ .panic := by
  unfold quicFirst
  have := readMsgFromTCP_ne_panic s
  cases h : readMsgFromTCP s with
  | panic => exact absurd h this
  | short => simp
  | bad r => simp
  | msg m r => simp only; split <;> simp

theorem dohFirst_ne_panic (tr : String) (toks : List Tok) : dohFirst tr toks ≠ .panic := by
  have key : ∀ b e, (match dohExchange false 200 (-1) b e with
      | .ok _ => First.resp | .err => .err | .panic => .panic) ≠ .panic := by
    intro b e
    have := dohExchange_ne_panic 200 (-1) b e
    split <;> simp_all
  simp only [dohFirst]
  split
  · simp
  · split
    · simp
    · split
      · simp
      · simp
      · exact key _ false
      · exact key _ true

theorem wstallFirst_ne_panic (s : Bytes) : wstallFirst s ≠ .panic := by
  simp only [wstallFirst, stuck_false, Bool.false_eq_true, if_false]
  split
  · split <;> simp
  · split <;> simp

theorem pipeFirst_ne_panic (s : Bytes) (t : Term) : pipeFirst s t ≠ .panic := by
  simp only [pipeFirst, stuck_false, Bool.false_eq_true, if_false]
  split
  · split <;> simp
  · simp

theorem udpFirst_ne_panic (ds : List Bytes) (tl : List Tok) : udpFirst ds tl ≠ .panic := by
  simp only [udpFirst, stuck_false, Bool.false_eq_true, if_false]
  split
  · simp
  · split
    · simp
    · split
      · split
        · simp
        · exact reuseFirst_ne_panic _ _
      · simp

/-- ★ For every script — every octet string written on any transport at any unit level — the model's
    transport step terminates (the definitions are total) and does not panic: it delivers a decoded message or
    fails the exchange. -/
theorem upstream_reply_noPanic (c : Case) : predictFirst c ≠ .panic := by
  unfold predictFirst
  split
  · exact wstallFirst_ne_panic _
  split
  · exact reuseFirst_ne_panic _ _
  split
  · exact pipeFirst_ne_panic _ _
  split
  · exact quicFirst_ne_panic _ _
  split
  · exact udpFirst_ne_panic _ _
  · exact dohFirst_ne_panic _ _

theorem unitStep_tcp_msg {b : Bytes} {m : Msg} (h : unitStep true b = .msg m) : unpackMsg b = .ok m := by
  unfold unitStep at h
  simp only [if_true] at h
  split at h
  · next m' hm => simp at h; rw [hm, h]
  · simp at h
  · simp at h

theorem unitStep_udp_msg {b : Bytes} {m : Msg} (h : unitStep false b = .msg m) : readMsgFromUDP b = .msg m := by
  unfold unitStep at h
  simp only [Bool.false_eq_true, if_false] at h
  split at h
  · next m' hm => simp at h; rw [hm, h]
  · split at h <;> simp at h
  · simp at h

theorem any_decodes {us : List Bytes} {b : Bytes} {m : Msg} {i : Nat} (hb : b ∈ us) (hm : unpackMsg b = .ok m)
    (hi : m.hdr.id = i) : us.any (decodesWithId · (some i)) = true := by
  rw [List.any_eq_true]
  exact ⟨b, hb, by simp [decodesWithId, hm, hi]⟩

theorem reuse_justified {s : Bytes} {t : Term} (h : reuseFirst s t = .resp ∨ reuseFirst s t = .any) :
    (frames s).1.any (decodesWithId · (some 0)) = true := by
  unfold reuseFirst at h
  cases he : reuseExchange 0 s with
  | ok p =>
    obtain ⟨hrd, hid⟩ := reuseExchange_ok.1 he
    obtain ⟨f, hf, hm⟩ := readMsgFromTCP_msg_frames hrd
    exact any_decodes hf hm hid
  | err => simp [he] at h
  | panic => simp [he] at h

theorem pipe_justified {s : Bytes} {t : Term} (h : pipeFirst s t = .resp ∨ pipeFirst s t = .any) :
    (frames s).1.any (decodesWithId · (some 0)) = true := by
  simp only [pipeFirst, stuck_false, Bool.false_eq_true, if_false] at h
  cases hd : delivered (runLoop false true [(0, ⟨[], 1⟩)] 0 ((frames s).1.map .unit)).1 0 with
  | none => simp [hd] at h
  | some m =>
    obtain ⟨hid, b, hb, hu⟩ := delivered_was_sent true [(0, ⟨[], 1⟩)] (by simp) _ 0 m hd
    exact any_decodes hb (unitStep_tcp_msg hu) hid

theorem quic_justified {s : Bytes} {t : Term} (h : quicFirst s t = .resp ∨ quicFirst s t = .any) :
    (frames s).1.any (decodesWithId · none) = true := by
  cases hrd : readMsgFromTCP s with
  | msg m' r' =>
    obtain ⟨f, hf, hm⟩ := readMsgFromTCP_msg_frames hrd
    rw [List.any_eq_true]
    exact ⟨f, hf, by simp [decodesWithId, hm]⟩
  | bad r => simp [quicFirst, hrd] at h
  | short => simp [quicFirst, hrd] at h
  | panic => simp [quicFirst, hrd] at h

theorem udp_justified {ds : List Bytes} {tl : List Tok} (h : udpFirst ds tl = .resp ∨ udpFirst ds tl = .any) :
    ds.any (fun d => decodesWithId (d.take udpBuf) (some 0) || tcHeaderWithId (d.take udpBuf) 0) = true := by
  simp only [udpFirst, stuck_false, Bool.false_eq_true, if_false] at h
  cases hd : delivered (runLoop false false [(0, ⟨[], 1⟩)] 0 (ds.map .unit)).1 0 with
  | none => simp [hd] at h
  | some m =>
    obtain ⟨hid, b, hb, hus⟩ := delivered_was_sent false [(0, ⟨[], 1⟩)] (by simp) _ 0 m hd
    rw [List.any_eq_true]
    refine ⟨b, hb, ?_⟩
    rcases readMsgFromUDP_msg (unitStep_udp_msg hus) with hm | ⟨_, hh⟩
    · simp [decodesWithId, hm, hid]
    · simp [tcHeaderWithId, hh, hid]

theorem clientView_body {tr : String} {h : Http} {t : Term} {b : Bytes}
    (hv : clientView tr h t = .body b ∨ clientView tr h t = .cut b) :
    b = h.body ∨ ∃ s n, h.cl = some s ∧ clValue s = some n ∧ b = h.body.take n := by
  unfold clientView at hv
  split at hv
  · -- chunked over HTTP/1.1: the whole body
    split at hv <;> simp at hv <;> exact Or.inl hv.symm
  · split at hv
    · next s hs =>
      -- a Content-Length `s`
      split at hv
      · -- that is no number: an error over HTTP/1.1, otherwise the whole body
        split at hv
        · simp at hv
        · split at hv <;> simp at hv <;> exact Or.inl hv.symm
      · next n hn =>
        -- the number `n`
        split at hv
        · -- beyond the body: the whole body
          split at hv <;> simp at hv <;> exact Or.inl hv.symm
        · split at hv
          · -- short of the body: no body over h2 and h3, the first `n` octets over HTTP/1.1
            split at hv
            · split at hv <;> simp at hv
            · split at hv
              · simp at hv
              · simp at hv
                exact Or.inr ⟨s, n, hs, hn, hv.symm⟩
          · -- the length of the body: the whole body, or no statement
            split at hv
            · simp at hv
            · simp at hv
              exact Or.inl hv.symm
    · -- no Content-Length: the whole body
      split at hv
      · simp at hv
        exact Or.inl hv.symm
      · split at hv <;> simp at hv <;> exact Or.inl hv.symm

theorem dohExchange_ok_decodes {b : Bytes} {e : Bool} {m : Msg} (h : dohExchange false 200 (-1) b e = .ok m) :
    unpackMsg (b.take dohLimit) = .ok m := by
  unfold dohExchange at h
  simp only [ne_eq, not_true_eq_false, if_false, Bool.false_eq_true, false_and] at h
  split at h
  · simp at h
  · exact h

theorem doh_justified {tr : String} {toks : List Tok} {hh : Http}
    (he : httpOf toks ⟨200, none, false, [], false⟩ = hh) (h : dohFirst tr toks = .resp) :
    (hh.raw || hh.st == 200 && (decodesWithId (hh.body.take dohLimit) none ||
      (match hh.cl.bind clValue with
       | some n => decodesWithId ((hh.body.take n).take dohLimit) none
       | none => false))) = true := by
  simp only [dohFirst, he] at h
  split at h
  · simp at h
  · split at h
    · simp at h
    · next hst =>
      have hst' : hh.st = 200 := by simpa using hst
      -- the body the HTTP client yields, whole or cut, decodes
      obtain ⟨b, e, hv, m, hm⟩ : ∃ b e, (clientView tr hh (termOf toks) = .body b ∨
          clientView tr hh (termOf toks) = .cut b) ∧ ∃ m, dohExchange false 200 (-1) b e = .ok m := by
        split at h
        · simp at h
        · simp at h
        · next b hv =>
          cases hm : dohExchange false 200 (-1) b false with
          | ok m => exact ⟨b, false, Or.inl hv, m, hm⟩
          | err => simp [hm] at h
          | panic => simp [hm] at h
        · next b hv =>
          cases hm : dohExchange false 200 (-1) b true with
          | ok m => exact ⟨b, true, Or.inr hv, m, hm⟩
          | err => simp [hm] at h
          | panic => simp [hm] at h
      have hd := dohExchange_ok_decodes hm
      rcases clientView_body hv with rfl | ⟨s, n, hs, hn, rfl⟩
      · simp [hst', decodesWithId, hd]
      · simp [hst', decodesWithId, hd, hs, hn]

/-- the transports whose units are frames or datagrams -/
def framed (c : Case) : Bool := c.wstall || isReuse c.tr || isPipe c.tr || c.tr == "quic" || c.tr == "udp"

/-- ★ The model returns a reply for the first exchange only if the server sent a unit that decodes (and
    carries the query's wire id where replies are matched by id): undecodable input is never turned into a reply.
    (Also when the prediction is left open — `any` — on the stream and datagram transports.) -/
theorem returned_reply_was_sent (c : Case) (h : predictFirst c = .resp ∨ (predictFirst c = .any ∧ framed c = true)) :
    justified c = true := by
  unfold predictFirst at h
  unfold justified
  by_cases hw : c.wstall = true
  · simp [hw]
  · simp only [hw, Bool.false_eq_true, if_false] at h ⊢
    by_cases hre : isReuse c.tr = true
    · simp only [hre, if_true, true_or] at h ⊢
      exact reuse_justified (h.imp id (·.1))
    · simp only [hre, Bool.false_eq_true, if_false, false_or] at h ⊢
      by_cases hp : isPipe c.tr = true
      · simp only [hp, if_true] at h ⊢
        exact pipe_justified (h.imp id (·.1))
      · simp only [hp, Bool.false_eq_true, if_false] at h ⊢
        by_cases hq : (c.tr == "quic") = true
        · simp only [hq, if_true] at h ⊢
          exact quic_justified (h.imp id (·.1))
        · simp only [hq, Bool.false_eq_true, if_false] at h ⊢
          by_cases hu : (c.tr == "udp") = true
          · simp only [hu, if_true] at h ⊢
            exact udp_justified (h.imp id (·.1))
          · simp only [hu, Bool.false_eq_true, if_false] at h ⊢
            have hf : framed c = false := by simp [framed, hw, hre, hp, hq, hu]
            rcases h with h | ⟨_, h2⟩
            · rw [Bool.or_eq_true]; right; exact doh_justified rfl h
            · rw [hf] at h2; exact absurd h2 (by simp)

/-- the read buffer of the code holds any UDP datagram (8cbdefd) -/
theorem udpBuf_holds_any_datagram : udpBuf = maxDatagram := by decide

/-- ★ The only datagram the server sent yields a message for the query's id (decoded whole — up to the size
    of a UDP datagram — or the TC stand-in, the TCP service being the correct one): the model returns a reply. -/
theorem only_reply_is_returned (c : Case) (h : mustAnswer c = true) : predictFirst c = .resp := by
  unfold mustAnswer at h
  simp only [Bool.and_eq_true, Bool.not_eq_eq_eq_not, Bool.not_true, beq_iff_eq] at h
  obtain ⟨⟨hw, htr⟩, hd⟩ := h
  split at hd
  · next d hds =>
    split at hd
    · next m hm =>
      simp only [Bool.and_eq_true, beq_iff_eq, Bool.or_eq_true, Bool.not_eq_eq_eq_not, Bool.not_true] at hd
      rw [← udpBuf_holds_any_datagram] at hm
      have hu : unitStep false d = .msg m := by simp [unitStep, readMsgFromUDP, hm]
      -- the case is a udp case with the one datagram `d`
      have hp : predictFirst c = udpFirst [d] c.tleg := by
        simp [predictFirst, hw, htr, isReuse, isPipe, hds]
      -- the loop hands `m` to the waiter of id 0 and is back in `Read`
      have hrun : runLoop false false [(0, ⟨[], 1⟩)] 0 [.unit d] = ([(0, ⟨[m], 1⟩)], .idle 1) := by
        simp [runLoop, hu, deliver, qget, qset, qdel, hd.1]
      have hdel : delivered [(0, ⟨[m], 1⟩)] 0 = some m := rfl
      rw [hp]
      simp only [udpFirst, List.map, hrun, isStuck, isClosed, hdel, Bool.false_eq_true, if_false]
      -- `m` is returned as it is unless it says TC; then the script has no TCP leg and it is returned too
      rcases hd.2 with hf | he
      · simp [hf]
      · simp [he]
    · simp at hd
  · simp at hd

/-- The output of the model for a case, `echo` being the observed value where the prediction is left open. -/
def modelOut (c : Case) (echo : String) : Out :=
  ⟨"ok", (match predictFirst c with | .any => echo | f => f.str), "ok"⟩

/-- ★ The model meets the specification on every case: the upstream keeps serving, memory does not follow a
    length field, a reply is returned only if one was sent, and the only reply sent is not dropped. Where the
    prediction is left open the echoed observation must itself be one of the two legal outcomes (and, for DoH,
    be justified). -/
theorem model_meets_spec (c : Case) (echo : String)
    (he : predictFirst c = .any → echo = "err" ∨ (echo = "resp" ∧ (framed c = true ∨ justified c = true))) :
    spec c (modelOut c echo) = true := by
  have hma : predictFirst c ≠ .resp → mustAnswer c = false := by
    intro hp
    cases hm : mustAnswer c with
    | false => rfl
    | true => exact absurd (only_reply_is_returned c hm) hp
  unfold spec modelOut
  cases hp : predictFirst c with
  | panic => exact absurd hp (upstream_reply_noPanic c)
  | err => simp [First.str, hma (by rw [hp]; simp)]
  | resp => simp [First.str, returned_reply_was_sent c (Or.inl hp)]
  | any =>
    rcases he hp with rfl | ⟨rfl, hj⟩
    · simp [hma (by rw [hp]; simp)]
    · rcases hj with hj | hj
      · simp [returned_reply_was_sent c (Or.inr ⟨hp, hj⟩)]
      · simp [hj]

/-- Non-vacuity: a script on which the model predicts a reply, one on which it predicts failure. -/
example : predictFirst ⟨"quic", [.write ([0, 19] ++ dupReply)], [], false⟩ = .resp := by
  simp [predictFirst, isReuse, isPipe, quicFirst, streamOf, termOf, readMsgFromTCP, tcpBodyLen, be16]
  up_eval
example : predictFirst ⟨"tcp", [.write [0xff, 0xff, 1, 2, 3], .close], [], false⟩ = .err := by
  simp [predictFirst, isReuse, reuseFirst, reuseExchange, streamOf, readMsgFromTCP, tcpBodyLen, be16]

/-- tie: the statements of the code the model is written against. The integer / boolean conditions are not
    pinned as text: `Lemmas/TranslatedC01Up.lean` proves the model's named definitions equal to their translation
    from the current source (`udpFloor`: the 2048 floor of `ReadMsgFromUDP`; `tcCut`: `err != nil && n >= 12 &&
    b[2]&(1<<1) != 0`; `tcpBodyLen`: `pool.GetBuf(int(length))`; `udpSkips`: `n > 0`; `idMatches`:
    `r.Header.ID != qid`), and `Lemmas/TranslatedCodecMsg.unpackMsg_translated` the decoder they all call. -/
theorem pins :
    Facts.c01up_deliverCase = "case resChan <- r:" ∧
    Facts.c01up_deliverDefault = "default: dnsmsg.ReleaseMsg(r)" ∧
    Facts.c01up_selects = 1 ∧
    Facts.c01up_nilChan = "resChan != nil" ∧
    Facts.c01up_udpBufSize = 65535 ∧
    Facts.c01up_udpTcNew = "m = dnsmsg.NewMsg()" ∧
    Facts.c01up_udpTcId = "m.Header.ID = binary.BigEndian.Uint16(b)" ∧
    Facts.c01up_udpTcResp = "m.Header.Response = b[2]&(1<<7) != 0" ∧
    Facts.c01up_udpTcFlag = "m.Header.Truncated = true" ∧
    Facts.c01up_dohRetryCond = "connErr && (reused.Load() || isQuicConnErr(err) || isHttp3Err(err)) && retry < 3 && ctx.Err() == nil" ∧
    Facts.c01up_loopContinues = 2 ∧
    Facts.c01up_readErrClose = "c.closeWithErr(fmt.Errorf(\"read err, %w\", err))" ∧
    Facts.c01up_tcpReadHdr = "nr, err := io.ReadFull(c, hdrBuf)" ∧
    Facts.c01up_tcpLen = "length := binary.BigEndian.Uint16(hdrBuf)" ∧
    Facts.c01up_tcpReadBody = "nr, err = io.ReadFull(c, msgBuf)" ∧
    Facts.c01up_tcpUnpack = "m, err := dnsmsg.UnpackMsg(msgBuf)" ∧
    Facts.c01up_udpRead = "n, err := c.Read(b)" ∧
    Facts.c01up_udpUnpack = "m, err := dnsmsg.UnpackMsg(b[:n])" ∧
    Facts.c01up_dohStatusCond = "resp.StatusCode != http.StatusOK" ∧
    Facts.c01up_dohRead = "_, err = bb.ReadFrom(io.LimitReader(resp.Body, 65535))" ∧
    Facts.c01up_dohLimit = 65535 ∧
    Facts.c01up_dohBufUses = 2 ∧
    Facts.c01up_dohContentLength = 0 ∧
    Facts.c01up_dohUnpack = "m, err := dnsmsg.UnpackMsg(bb.Bytes())" ∧
    Facts.c01up_reuseRead = "r, _, err := dnsutils.ReadMsgFromTCP(c.c)" ∧
    Facts.c01up_reuseQid = "qid := c.nextQid" ∧
    Facts.c01up_reuseSetQid = "binary.BigEndian.PutUint16(payload[2:], qid)" ∧
    Facts.c01up_quicRead = "r, _, err := dnsutils.ReadMsgFromTCP(stream)" := by
  and_intros
  all_goals rfl

end MosVerif.C01Up
