/-
  C01 — Malformed input never crashes, hangs or wedges the proxy (decoder level).

  The model `unpackMsg` (Model/Wire.lean) transcribes the Go decoder with every slice
  expression that can panic made explicit (`sliceFrom`), and the 254-byte name scratch buffer
  overflow reported as `panic`.  The definitions are accepted by Lean only with their
  termination proofs (`nameLoop` terminates by the lexicographic measure
  (remaining pointer budget, remaining bytes)), so "decoding always terminates — including on
  compression-pointer loops" is part of the model being well-defined.

  The upstream side of the property (replies on every upstream transport: framing, the pipelined read
  loop's hand-over, the one-at-a-time connection's id check, the DoH body limit) is in Props/C01Up.lean.
-/
import MosVerif.Lemmas.WireSafe
-- the next two imports bring the translation theorems and the upstream half into what this module's audit covers
import MosVerif.Lemmas.TranslatedCodecMsg
import MosVerif.Props.C01Up
namespace MosVerif.C01
open MosVerif.Wire

/-- ★ No byte string makes the message decoder panic (index/slice out of range, scratch
    buffer overflow).  No bound on the length of `msg`. -/
theorem unpackMsg_noPanic (msg : Bytes) : unpackMsg msg ≠ .panic := by
  rw [unpackMsg_eq]
  have h := (unpackMsgEnd_safe msg).1
  cases hm : unpackMsgEnd msg with
  | ok p => exact nofun
  | err => exact nofun
  | panic => exact absurd hm h

/-- ★ Totality: every input is either rejected or accepted (with a decoded message);
    `unpackMsg` is a total function, there is no third outcome. -/
theorem unpackMsg_err_or_ok (msg : Bytes) : unpackMsg msg = .err ∨ ∃ m, unpackMsg msg = .ok m := by
  cases h : unpackMsg msg with
  | ok m => exact Or.inr ⟨m, rfl⟩
  | err => exact Or.inl rfl
  | panic => exact absurd h (unpackMsg_noPanic msg)

/-- ★ Every name the decoder returns fits the fixed scratch buffer, and the offset it
    continues from stays inside the message — this is what makes every later `msg[off:]` safe. -/
theorem unpackName_bounds (msg : Bytes) (off : Nat) (h : off ≤ msg.length) (n : Name) (o : Nat)
    (e : unpackName msg off = .ok (n, o)) : n.length ≤ 254 ∧ o ≤ msg.length :=
  ⟨unpackName_len msg off h n o e, (unpackName_safe msg off h).2 (n, o) e⟩

/-- ★ A name is decoded without panic from *any* offset inside the message, whatever the bytes. -/
theorem unpackName_noPanic (msg : Bytes) (off : Nat) (h : off ≤ msg.length) :
    unpackName msg off ≠ .panic := (unpackName_safe msg off h).1

/-- Decoding a record from any in-range offset never panics and never
    returns an offset outside the message. -/
theorem unpackResource_safe' (msg : Bytes) (off : Nat) (h : off ≤ msg.length) :
    unpackResource msg off ≠ .panic ∧ ∀ r o, unpackResource msg off = .ok (r, o) → o ≤ msg.length :=
  ⟨(unpackResource_safe msg off h).1, fun r o e => (unpackResource_safe msg off h).2 (r, o) e⟩

/-! The decoder is defined by well-founded recursion, so `decide` does not reduce it; on a literal it is evaluated by
    rewriting with its equations. -/
section
attribute [local simp] unpackMsg sliceFrom unpackQuestions unpackResources unpackQuestion unpackResource unpackRHdr
  unpackRData unpackName nameLoop hopLimit nameCap Bind.bind Res.bind be16 be32 u16At u32At bytesAt

/-- A compression pointer that points at itself is rejected (not followed for ever). -/
example : unpackMsg [0,1, 1,0, 0,1, 0,0, 0,0, 0,0, 0xC0,12, 0,1, 0,1] = .err := by simp
/-- Two pointers pointing at each other are rejected. -/
example : unpackMsg [0,1, 1,0, 0,1, 0,0, 0,0, 0,0, 0xC0,14, 0xC0,12, 0,1, 0,1] = .err := by simp
/-- A length octet that runs past the end, a reserved label prefix and a lying count are rejected. -/
example : unpackMsg [0,1, 1,0, 0,1, 0,0, 0,0, 0,0, 5, 97] = .err := by simp
example : unpackMsg [0,1, 1,0, 0,1, 0,0, 0,0, 0,0, 0x40, 0, 0,1, 0,1] = .err := by simp
example : unpackMsg [0,1, 1,0, 0xFF,0xFF, 0,0, 0,0, 0,0] = .err := by simp
/-- Non-vacuity: a well-formed query with one question is accepted. -/
example : ∃ m, unpackMsg [0,1, 1,0, 0,1, 0,0, 0,0, 0,0, 1,97, 0, 0,1, 0,1] = .ok m ∧ m.questions.length = 1 :=
  by simp

end

/-- tie: the decoder's guards (hop limit, `& 0xC0`, `len(name)+1+c+1 > 255`, every bound test) are tied by
    translation, not by pinned text: `Lemmas/TranslatedCodec*.lean` prove the model equal to the translation of the current
    source. What the translation does NOT see is pinned here: the scratch slice aliases the builder's array
    (`GoSem.builderToName` is the hand-written semantics of exactly these two fragments). -/
theorem pins :
    Facts.name_scratch = "name := n.buf[:0]" ∧
    Facts.name_toName = "{ buf := pool.GetBuf(int(b.l)) copy(buf, b.buf[:]) return Name(buf) }" :=
  ⟨rfl, rfl⟩

end MosVerif.C01
