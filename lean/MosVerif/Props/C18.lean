/-
  C18 — Shutdown and failed start-up are orderly.

  Models:  Model/Startup.lean  router `run` (sequential start with a closer list), `close` (sync.Once), `closeImpl`
           Model/Close.lean    close protocol of the upstream transports (reuse / https tracker, pipelined, quic)
           Model/Shutdown.lean a running router with traffic that is closed
           Model/LockOrder.lean the lock sequences of the reusable-connection transport
  Lemmas:  Lemmas/StartupLemmas, CloseLemmas (invariants), CloseHistory, CloseSpec, ShutdownLemmas, LockOrder,
           TranslatedC18 (the counter tests of the pipelined connection, tied by translation).
  ★ marks the property theorems of DESIGN §5 C18.  Every ★ theorem quantifies over all configurations / all
  positions of the failing item / all operation sequences / all numbers of queries in flight — no bounds.
  Promptness and absence of deadlock of the real code are observed by the harness with time-outs, not proved:
  the models are sequentially consistent step machines (one step per lock acquisition / gate).  What is proved
  about locks is the last section: the lock protocol of the reusable-connection transport, on a model of its
  lock sequences.
-/
import MosVerif.Lemmas.StartupLemmas
import MosVerif.Lemmas.CloseSpec
import MosVerif.Lemmas.ShutdownLemmas
import MosVerif.Lemmas.TranslatedC18
import MosVerif.Lemmas.LockOrder
import MosVerif.Generated.Facts
namespace MosVerif.C18

/-! ## start-up and shutdown of the router -/
section startup
open MosVerif.Startup

/-- ★ A start-up failure is orderly — for EVERY staged configuration and EVERY position of the first failing
    item (metrics endpoint, upstream, domain set, rule, memory cache, redis backend, ip marker, listener): `run`
    returns an error, nothing panics, no nil closer is ever called, the items behind the failing one are never
    touched, and EVERY stage that had been started is released: afterwards no item owns a socket, a connection
    or goroutines.  The backends that `initCache` had started when its redis or ip-marker stage fails are closed
    by its own error path (`c.Close()`, `r.cache` is still nil); everything else by the deferred `close`, in the
    order of `closeImpl`: context, limiter, upstreams, the cache that was assigned, listeners 0..i−1. -/
theorem startup_failure_clean (pre post : List Item) (it : Item)
    (hpre : ∀ x ∈ pre, x.ok = true) (hit : it.ok = false) (hst : staged (pre ++ it :: post) = true) :
    let res := run (pre ++ it :: post)
    res.err = true ∧ res.w.panicked = false ∧ Act.nilCall ∉ res.w.acts ∧
    res.w.live = [] ∧
    res.attempted = List.range (pre.length + 1) ∧
    res.r.closeDone = true ∧
    res.w.acts =
      (if releasesLocal it.kind then (afterPrefix pre).1.cacheLocal.map .cacheClose else []) ++
      [.cancel, .limiterClose] ++ (upstreamIds 0 pre).map .upClose
        ++ ((afterPrefix pre).1.cache.getD []).map .cacheClose ++ (listenerIds 0 pre).map .srvClose := by
  have hlive := live_after_fail pre it (staged_local pre post it hst)
  -- `run` is `closeImpl` on the state the failing item's own cleanup leaves; nothing stays live (`hlive`)
  simp only [run_failure pre post it hpre hit, hlive]
  -- that state is `afterPrefix pre`, with the local backends closed first if the error path releases them;
  -- the rest is read off `closeImpl` in closed form: it only calls non-nil closers, in the order stated
  rw [failState_eq]
  split
  · simp [afterPrefix, closeImpl_eq, closeBackends_eq]
  · simp [afterPrefix, closeImpl_eq]

/-- the hypotheses of `startup_failure_clean` are satisfiable, and its conclusion is about real work:
    two listeners and a quic upstream are started, the third listener fails, all three are closed. -/
example :
    (run [⟨.upstream, true, true⟩, ⟨.server, true, true⟩, ⟨.server, true, true⟩, ⟨.server, false, true⟩,
          ⟨.server, true, true⟩]).w.acts
      = [.cancel, .limiterClose, .upClose 0, .srvClose 1, .srvClose 2] := by decide

/-- the cache stage: the memory cache is running when the redis backend cannot be reached — `initCache`'s own
    error path closes it (`r.cache` was never assigned, `closeImpl` alone would not: second example);
    and a listener that fails later finds the cache assigned, `closeImpl` closes it. -/
example :
    (run [⟨.upstream, true, false⟩, ⟨.memCache, true, true⟩, ⟨.redisCache, false, true⟩, ⟨.cacheDone, true, false⟩,
          ⟨.server, true, true⟩]).w
      = { live := [], acts := [.cacheClose 1, .cancel, .limiterClose, .upClose 0], panicked := false } := by
  decide
example : (closeImpl ⟨[], [1], none, [], false⟩ { live := [1] }).live = [1] := by decide
example :
    (run [⟨.memCache, true, true⟩, ⟨.cacheDone, true, false⟩, ⟨.server, true, true⟩, ⟨.server, false, true⟩]).w
      = { live := [], acts := [.cancel, .limiterClose, .cacheClose 0, .srvClose 2], panicked := false } := by
  decide

/-- every configuration either starts completely or has a first failing item (so the theorem above and
    `startup_ok` below cover every configuration). -/
theorem startup_cases (cfg : List Item) :
    (∀ x ∈ cfg, x.ok = true) ∨
    ∃ pre it post, cfg = pre ++ it :: post ∧ (∀ x ∈ pre, x.ok = true) ∧ it.ok = false :=
  split_first_fail cfg

/-- every configuration the code can run is staged: the sub-stages of `initCache` (memory cache first) are
    followed by the assignment `r.cache = cache` before anything else is started. -/
example : staged [⟨.metrics, true, true⟩, ⟨.upstream, true, false⟩, ⟨.memCache, true, true⟩,
    ⟨.redisCache, false, true⟩, ⟨.ipMarker, true, false⟩, ⟨.cacheDone, true, false⟩, ⟨.server, true, true⟩] = true := by
  decide

/-- a configuration whose items all initialise: `run` returns the router, nothing has been closed, every
    closer that was registered is non-nil. -/
theorem startup_ok (cfg : List Item) (h : ∀ x ∈ cfg, x.ok = true) :
    let res := run cfg
    res.err = false ∧ res.w.panicked = false ∧ res.w.acts = [] ∧ res.r.closeDone = false ∧
    res.w.live = resIds 0 cfg ∧ (∀ c ∈ res.r.closers, c ≠ none) := by
  simp only [run_success cfg h]
  simp [afterPrefix]

/-- ★ `close` is idempotent (sync.Once): a second close changes nothing — for every router state. -/
theorem router_close_idempotent (r : Router) (w : World) :
    close (close r w).1 (close r w).2 = close r w := by
  by_cases h : r.closeDone = true <;> simp [close, h]

/-- ★ order of `closeImpl` — for every router whose closers are all non-nil: cancel the context, close the
    limiter, every upstream, the backends of the cache (if assigned), then the listeners in the order they were
    started; nothing panics and nothing that was registered keeps its resource. -/
theorem close_order (ups loc : List Nat) (c : Option (List Nat)) (ls : List Nat) (w : World) :
    closeImpl ⟨ups, loc, c, ls.map some, false⟩ w =
      { live := ((w.live.filter (fun i => !ups.contains i)).filter (fun i => !(c.getD []).contains i)).filter
                  (fun i => !ls.contains i)
        acts := w.acts ++ [.cancel, .limiterClose] ++ ups.map .upClose ++ (c.getD []).map .cacheClose
                  ++ ls.map .srvClose
        panicked := w.panicked } :=
  closeImpl_eq ups loc c ls false w

/-- ★ shutdown of a started router: after `close` (any number ≥ 1 of times) nothing owns a resource and there
    was no panic — for every staged configuration. -/
theorem shutdown_clean (cfg : List Item) (h : ∀ x ∈ cfg, x.ok = true) (hst : staged cfg = true) (n : Nat) :
    let res := runThenClose cfg (n + 1)
    res.err = false ∧ res.w.panicked = false ∧ res.w.live = [] ∧ Act.nilCall ∉ res.w.acts ∧
    res.w = (runThenClose cfg 1).w := by
  have hl := live_after_close cfg hst
  -- `run` succeeds and leaves `afterPrefix cfg`; the first `close` runs `closeImpl` on it
  simp only [runThenClose, run_success cfg h, closeN, close, afterPrefix] at hl ⊢
  simp only [Bool.false_eq_true, if_false]
  -- the further closes find `closeDone` set
  rw [closeN_closed n _ _ rfl]
  -- `closeImpl` in closed form: its actions are closes of non-nil closers, and `hl` says nothing stays live
  simp [closeImpl_eq] at hl ⊢
  exact hl

/-- the nil-closer panic is really in the model: had `run` registered the nil closer of a failed listener
    (defect D12), close would panic. -/
example : (closeImpl ⟨[], [], none, [some 0, none], false⟩ {}).panicked = true := by decide

/-- ★ the model meets the executable specification that judges the implementation's observations
    (error iff some item fails, never a panic; no address still bound; no socket or goroutine left) —
    for EVERY staged configuration and any number of additional `close` calls. -/
theorem startup_model_meets_spec (cfg : List Item) (hst : staged cfg = true) (n : Nat) :
    spec cfg (obsOf (runThenClose cfg (n + 1))) = true := by
  rcases split_first_fail cfg with h | ⟨pre, it, post, rfl, hp, hi⟩
  · obtain ⟨h1, h2, h3, _, _⟩ := shutdown_clean cfg h hst n
    have hany : cfg.any (fun it => !it.ok) = false := List.any_eq_false.mpr fun x hx => by simp [h x hx]
    simp [spec, obsOf, h1, h2, h3, hany]
  · obtain ⟨h1, h2, _, h4, _⟩ := startup_failure_clean pre post it hp hi hst
    simp [spec, obsOf, runThenClose, h1, h2, h4, hi]

/-- the specification is not vacuous: it rejects a panic, a success after a failure, a port left bound, a leak. -/
example : spec [⟨.server, false, true⟩] ⟨"panic", [], 0⟩ = false := by decide
example : spec [⟨.server, true, true⟩, ⟨.server, false, true⟩] ⟨"err", [0], 0⟩ = false := by decide
example : spec [⟨.server, true, true⟩, ⟨.server, false, true⟩] ⟨"err", [], 1⟩ = false := by decide
example : spec [⟨.server, true, true⟩, ⟨.server, false, true⟩] ⟨"ok", [], 0⟩ = false := by decide
example : spec [⟨.server, true, true⟩, ⟨.server, false, true⟩] ⟨"err", [], 0⟩ = true := by decide
example : spec [⟨.server, true, true⟩] ⟨"ok", [], 0⟩ = true := by decide

end startup

/-! ## close protocol of the upstream transports (Model/Close.lean)

  All statements are about every transport kind (reuse / https tracker, pipelined, quic) and every state that
  is reachable by ANY sequence of operations: exchanges starting, dials returning (with a connection or an
  error, before or after Close), replies, cancellations of the callers' contexts, idle time-outs, Close. -/
section close
open MosVerif.Close

/-- ★ `Close` is idempotent: closing a closed transport changes nothing — for every state. -/
theorem close_idempotent (s : St) : closeOp (closeOp s) = closeOp s :=
  closeOp_of_closed _ (closeOp_closed s)

/-- `Close` closes: the transport is closed afterwards, and stays closed whatever happens next. -/
theorem close_closes (s : St) (ops : List Op) : (run (closeOp s) ops).closed = true :=
  closed_run _ _ (closeOp_closed s)

/-- ★ after Close every connection is closed — tracked or not, whatever happened before and whatever
    happens afterwards (late dials, releases, further exchanges, repeated Close). -/
theorem after_close_all_closed (k : Kind) (ops : List Op) :
    (run (init k) ops).closed = true → ∀ c ∈ (run (init k) ops).conns, c.isOpen = false :=
  (reach_inv k ops).closedNoOpen

/-- the reason Close reaches every connection: in every reachable state an open connection is tracked. -/
theorem open_conns_are_tracked (k : Kind) (ops : List Op) :
    ∀ c ∈ (run (init k) ops).conns, c.isOpen = true → c.tracked = true :=
  (reach_inv k ops).openTracked

/-- ★ a dial that completes after Close: the new connection is closed and not tracked, the dial is no longer
    pending, every caller that waited for it has an error, nobody is left on it, and (again) no connection at
    all is open — for every reachable closed state with that dial pending. -/
theorem late_dial_closed (k : Kind) (ops : List Op) (d : Nat)
    (hc : (run (init k) ops).closed = true) (hd : (run (init k) ops).hasDial d = true) :
    let s' := step (run (init k) ops) (.dialOk d)
    (⟨d, false, false, false, 0⟩ : Conn) ∈ s'.conns ∧
    (∀ c ∈ s'.conns, c.isOpen = false) ∧
    s'.hasDial d = false ∧
    (∀ x ∈ s'.exs, x.loc ≠ .dial d) ∧
    (∀ x ∈ (run (init k) ops).exs, x.loc = .dial d → ∃ y ∈ s'.exs, y.id = x.id ∧ y.res ≠ none) := by
  have hinv : Inv (step (run (init k) ops) (.dialOk d)) := inv_step _ _ (reach_inv k ops)
  have hcl := closed_step _ (.dialOk d) hc
  refine ⟨?_, hinv.closedNoOpen hcl, ?_, ?_, ?_⟩
  · simp [step, late_dial _ d hc hd]
  · simp [step, late_dial _ d hc hd, St.hasDial]
  · -- nobody is left on the dial: `failWaiters` takes its waiters off it
    simp only [step, late_dial _ d hc hd, failWaiters, List.mem_map]
    rintro x ⟨y, _, rfl⟩
    split
    · nofun
    · assumption
  · -- a waiter has been failed, unless it had returned already
    intro x hx hl
    refine ⟨{ x with res := x.res.or (some .err), loc := .none }, ?_, rfl, ?_⟩
    · simp only [step, late_dial _ d hc hd, failWaiters, List.mem_map]
      exact ⟨x, hx, by simp [hl]⟩
    · cases x.res <;> simp

/-- non-vacuity: a reachable closed state with a pending (stubborn) dial, and the late dial's connection. -/
example : (run (init .reuse) [.start 1 true, .close]).closed = true ∧
    (run (init .reuse) [.start 1 true, .close]).hasDial 1 = true ∧
    (run (init .reuse) [.start 1 true, .close, .dialOk 1]).conns = [⟨1, false, false, false, 0⟩] ∧
    (run (init .reuse) [.start 1 true, .close, .dialOk 1]).exs = [⟨1, some .err, .none⟩] := by decide

/-- ★ an exchange that starts after Close fails at once: it gets an error, dials nothing and touches no
    connection — for every closed state and every new exchange. -/
theorem after_close_exchange_fails (s : St) (e : Nat) (b : Bool)
    (hc : s.closed = true) (he : s.hasEx e = false) :
    step s (.start e b) = { s with exs := s.exs ++ [⟨e, some .err, .none⟩] } :=
  start_after_close s e b hc he

/-- ★ in-flight exchanges fail instead of hanging: right after Close (in any reachable state) a caller that
    has not returned can only be waiting for a dial whose DialContext ignores the cancellation of its context
    — never on a pipelined transport — and every caller that was on a connection has an error. -/
theorem close_fails_in_flight (k : Kind) (ops : List Op) :
    let s := run (init k) (ops ++ [.close])
    (∀ x ∈ s.exs, x.res = none → (∃ d ∈ s.dials, x.loc = .dial d.id ∧ d.stubborn = true) ∧ k ≠ .pipe) := by
  intro s x hx hn
  have hinv : Inv s := reach_inv k _
  have hc : s.closed = true := by
    show (run (init k) (ops ++ [.close])).closed = true
    rw [run_append]
    exact closeOp_closed _
  obtain ⟨⟨d, hd, hl⟩, hk⟩ := hinv.closedBlocked hc x hx hn
  refine ⟨⟨d, hd, hl, hinv.closedDials hc d hd⟩, ?_⟩
  have : s.kind = k := run_kind (init k) (ops ++ [.close])
  simpa [this] using hk

/-- ★ nothing hangs: once the transport is closed and no dial is pending any more, every exchange has
    returned — for every reachable state; in particular at the end of every script of the harness, whose
    epilogue lets every pending dial return. -/
theorem no_hang_after_close (k : Kind) (ops : List Op)
    (hc : (run (init k) ops).closed = true) (hd : (run (init k) ops).dials = []) :
    ∀ x ∈ (run (init k) ops).exs, x.res ≠ none := by
  intro x hx hn
  obtain ⟨⟨d, hdm, _⟩, _⟩ := (reach_inv k ops).closedBlocked hc x hx hn
  simp [hd] at hdm

theorem script_no_hang (k : Kind) (ops : List Op) (hc : (run (init k) ops).closed = true) :
    let s := epilogue (run (init k) ops)
    s.closed = true ∧ s.dials = [] ∧ (∀ c ∈ s.conns, c.isOpen = false) ∧ (∀ x ∈ s.exs, x.res ≠ none) :=
  epilogue_settled _ (reach_inv k ops) hc

/-- ★ after Close no exchange succeeds any more: an exchange that is `ok` after a step taken in a closed
    state was `ok` before it (only a reply that arrived before Close makes an exchange succeed). -/
theorem no_success_after_close (k : Kind) (ops : List Op) (op : Op)
    (hc : (run (init k) ops).closed = true) :
    ∀ x ∈ (step (run (init k) ops) op).exs, x.res = some .ok →
      ∃ y ∈ (run (init k) ops).exs, y.id = x.id ∧ y.res = some .ok :=
  no_ok_after_close _ op (reach_inv k ops) hc

/-- non-vacuity / sanity of the model: Close during an exchange fails it, a reply before Close succeeds. -/
example : (run (init .pipe) [.start 1 false, .dialOk 1, .close]).exs = [⟨1, some .err, .none⟩] := by decide
example : (run (init .quic) [.start 1 false, .dialOk 1, .reply 1, .close]).exs = [⟨1, some .ok, .none⟩] := by decide

/-! ### wire-id exhaustion of a pipelined connection -/

/-- a pipelined connection whose wire ids are used up is never picked again -/
theorem exhausted_conn_not_picked (c : Conn) (h : usable .pipe c = true) : 0 < c.left := by
  simp only [usable, Bool.and_eq_true, Bool.or_eq_true, decide_eq_true_eq] at h
  rcases h.2 with h | h
  · exact absurd h (by decide)
  · exact h

/-- the self-close of an exhausted connection only hits connections without a query in flight: whatever
    `sweep` closes was closed already, or had no ids left and nobody waiting on it. -/
theorem sweep_closes_only_idle_exhausted (s : St) :
    ∀ c ∈ (sweep s).conns, c.isOpen = false →
      ∃ c0 ∈ s.conns, c0.id = c.id ∧
        (c0.isOpen = false ∨
          (c0.left = 0 ∧ ∀ x ∈ s.exs, x.res = none → x.loc ≠ .conn c0.id)) := by
  intro c hc ho
  unfold sweep at hc
  split at hc
  · simp only [List.mem_map] at hc
    obtain ⟨c0, hc0, rfl⟩ := hc
    refine ⟨c0, hc0, ?_, ?_⟩
    · split <;> rfl
    · split at ho
      · rename_i hcond
        right
        simp only [Bool.and_eq_true, decide_eq_true_eq, Bool.not_eq_true', List.any_eq_false] at hcond
        refine ⟨hcond.1, ?_⟩
        intro x hx hn hl
        exact hcond.2 x hx ⟨by simp [hn], by simp [hl]⟩
      · exact Or.inl ho
  · exact ⟨c, hc, rfl, Or.inl ho⟩

/-- non-vacuity: the history in which a pipelined connection runs out of wire ids is reachable in the model —
    one connection, 65534 ids burnt,
    the last two taken by unanswered queries, a further exchange has to dial, one caller gives up: the exhausted
    connection is still open AND tracked (`open_conns_are_tracked`), so Close closes it and fails its caller. -/
example :
    (run (init .pipe) [.start 1 false, .dialOk 1, .reply 1, .burn 2, .start 2 false, .start 3 false,
        .start 4 false, .cancel 2]).conns = [⟨1, true, true, false, 0⟩] ∧
    (run (init .pipe) [.start 1 false, .dialOk 1, .reply 1, .burn 2, .start 2 false, .start 3 false,
        .start 4 false, .cancel 2, .close]).conns = [⟨1, false, true, false, 0⟩] ∧
    (run (init .pipe) [.start 1 false, .dialOk 1, .reply 1, .burn 2, .start 2 false, .start 3 false,
        .start 4 false, .cancel 2, .close]).exs =
      [⟨1, some .ok, .none⟩, ⟨2, some .ctx, .none⟩, ⟨3, some .err, .none⟩, ⟨4, some .err, .none⟩] := by
  decide

/-- and an exhausted connection closes itself once its last query is answered -/
example :
    (run (init .pipe) [.start 1 false, .dialOk 1, .reply 1, .burn 1, .start 2 false, .reply 2]).conns
      = [⟨1, false, true, false, 0⟩] := by decide

/-- ★ the model meets the executable specification that judges the implementation's observations (every
    Close returns, also the repeated ones; no exchange is left hanging; exchanges started after the Close fail;
    exchanges in flight at the Close do not succeed; no connection is left open, late dials included; nobody is
    blocked once Close has returned unless the script's dialer ignores its context) — for EVERY transport kind,
    both modes and EVERY script. -/
theorem closeproto_model_meets_spec (k : Kind) (auto : Bool) (ops : List Op) :
    spec auto ops (obsOf ((fullOps auto ops).filter (· == .close)).length (runScript k auto ops)) = true :=
  model_meets_spec k auto ops

/-- the specification is not vacuous: it rejects a hanging exchange, a success after Close, an exchange in
    flight that succeeds, an open connection, a Close that did not return, a blocked caller after Close. -/
example : spec false [.start 1 false, .close] ⟨[(1, "pend")], some 1, 0, []⟩ = false := by decide
example : spec false [.close, .start 1 false] ⟨[(1, "ok")], some 1, 0, []⟩ = false := by decide
example : spec false [.start 1 false, .dialOk 1, .close] ⟨[(1, "ok")], some 1, 0, []⟩ = false := by decide
example : spec false [.start 1 true, .close, .dialOk 1] ⟨[(1, "err")], some 1, 1, [1]⟩ = false := by decide
example : spec false [.close, .close] ⟨[], some 1, 0, []⟩ = false := by decide
example : spec false [.start 1 false, .close] ⟨[(1, "err")], some 1, 0, [1]⟩ = false := by decide
example : spec false [.start 1 false, .dialOk 1, .reply 1, .close, .start 2 false]
    ⟨[(1, "ok"), (2, "err")], some 1, 0, []⟩ = true := by decide

end close

/-! ## shutdown of a running router with traffic (Model/Shutdown.lean) -/
section shutdown
open MosVerif.Shutdown

/-- ★ shutdown with traffic meets the specification — for EVERY configuration whose items all start, every
    upstream kind, with or without a warm-up query and for EVERY number `n` of queries in flight: `run`
    succeeds, both closes return, each of the `n` in-flight queries and the query that arrives after the close
    fail (SERVFAIL) instead of hanging or succeeding, no listening address stays bound and no socket or upstream
    connection stays open. -/
theorem shutdown_model_meets_spec (cfg : List Startup.Item) (h : ∀ x ∈ cfg, x.ok = true)
    (hst : Startup.staged cfg = true) (k : Close.Kind) (warm : Bool) (n : Nat) :
    Shutdown.spec (model cfg k warm n) = true := by
  obtain ⟨h1, h2, h3, _, _⟩ := shutdown_clean cfg h hst 1
  obtain ⟨hin, haf, hop⟩ := upstream_side k warm n
  have hall : (List.range n).all
      (fun i => resOf (Close.runScript k true (script warm n)) (i + 1) == some Close.Res.err) = true := by
    simp only [List.all_eq_true, List.mem_range]
    intro i hi
    simp [hin i hi]
  have hres : (Startup.obsOf (Startup.runThenClose cfg 2)).res = "ok" := by
    simp [Startup.obsOf, h1, h2]
  unfold Shutdown.spec model
  simp only [hall, haf, hop, h3, hres, if_true]
  -- what is left compares string literals
  cases warm
  · simp only [Bool.false_eq_true, if_false]
    decide
  · simp only [if_true]
    split <;> decide

/-- the specification is not vacuous -/
example : Shutdown.spec ⟨"ok", "ok", some 2, "hang", "fail", [], 0⟩ = false := by decide
example : Shutdown.spec ⟨"ok", "ok", some 2, "fail", "ok", [], 0⟩ = false := by decide
example : Shutdown.spec ⟨"ok", "-", some 1, "fail", "fail", [], 0⟩ = false := by decide
example : Shutdown.spec ⟨"ok", "-", some 2, "fail", "fail", [3], 0⟩ = false := by decide
example : Shutdown.spec ⟨"ok", "-", some 2, "fail", "fail", [], 1⟩ = false := by decide
example : Shutdown.spec ⟨"ok", "ok", some 2, "fail", "fail", [], 0⟩ = true := by decide

end shutdown

/-! ## tie: pinned source facts -/

/-- The statement order in `run`'s listener loop (start, error check with `return`, only then the append),
    the deferred close on error, `closeOnce`, the body of `closeImpl`, and `startServer` returning a nil
    closer together with every error. -/
theorem pins_startup :
    Facts.c18_startLoop =
      "for i, serverCfg := range cfg.Servers { closer, err := r.startServer(&serverCfg) if err != nil { err = fmt.Errorf(\"failed to start server #%d, %w\", i, err) return nil, err } r.serverClosers = append(r.serverClosers, closer) }" ∧
    Facts.c18_startCall = "closer, err := r.startServer(&serverCfg)" ∧
    Facts.c18_appendCloser = "r.serverClosers = append(r.serverClosers, closer)" ∧
    Facts.c18_startCount = 1 ∧ Facts.c18_appendCloserCount = 1 ∧
    Facts.c18_deferClose = "defer func() { if err != nil { r.close(err) } }()" ∧
    Facts.c18_closeOnce = "r.closeOnce.Do(func() { r.closeImpl(err) })" ∧
    Facts.c18_closeImpl =
      "{ r.cancel(err) r.limiter.Close() for _, u := range r.upstreams { u.u.Close() } if r.cache != nil { r.cache.Close() } for _, f := range r.serverClosers { f() } }" ∧
    Facts.c18_startServerDefault = "return nil, fmt.Errorf(\"invalid server protocol [%s]\", cfg.Protocol)" ∧
    Facts.c18_startServerNilOnErr = 8 := by
  (repeat' apply And.intro) <;> rfl

/-- The close protocol in the source: every transport's `Close` (mark closed under the lock, close what is
    tracked, cancel), the `closed` checks where a dial registers its connection (reuse asyncDial, quic
    runDialingCall incl. waking the waiters, the https `connTracker.track`) and where a connection is released
    (releaseConn); `DoHTransport.Close` delegating to its closer (D13); the https closer closing the tracked
    connections (D14); quic/h3 upstreams and the quic listener closing their QUIC transport and UDP socket;
    the fasthttp listener closing its net.Listener; udpWithFallback closing both legs. -/
theorem pins_close :
    Facts.c18_dohClose = "{ if u.closer != nil { return u.closer.Close() } return nil }" ∧
    Facts.c18_fallbackClose = "{ u.u.Close() u.t.Close() return nil }" ∧
    Facts.c18_fastHttpClose = "{ s.closed.Store(true) ctx, cancel := context.WithTimeout(context.Background(), time.Millisecond*100) err := s.s.ShutdownWithContext(ctx) cancel() s.l.Close() s.m.Lock() for c := range s.conns { c.Close() } s.m.Unlock() if errors.Is(err, context.DeadlineExceeded) { err = nil } return err }" ∧
    Facts.c18_fastHttpShutdownInStartServer = 0 ∧
    Facts.c18_h3Closer = "addonCloser = closerFunc(func() error { quicTransport.Close(); return conn.Close() })" ∧
    Facts.c18_httpsCloser = "addonCloser = closerFunc(func() error { t1.CloseIdleConnections(); ct.close(); return nil })" ∧
    Facts.c18_httpsDialTrack = "return ct.track(c)" ∧
    Facts.c18_pipeClose = "{ return t.pool.Close() }" ∧
    Facts.c18_pipeConnClose = "{ if err == nil { err = errPipelineConnClosed } c.m.Lock() if c.closed { c.m.Unlock() return } c.closed = true c.m.Unlock() c.cancelCause(err) go c.c.Close() debugLogTransportConnClosed(c.c, c.t.logger, err) }" ∧
    Facts.c18_quicClose = "{ t.m.Lock() defer t.m.Unlock() if t.closed { return nil } t.closed = true t.cancelCtx(ErrClosedTransport) if t.c != nil { t.c.CloseWithError(quic.ApplicationErrorCode(_DOQ_NO_ERROR), \"\") } return nil }" ∧
    Facts.c18_quicDialClosed = "if t.closed { t.m.Unlock() if c != nil { c.CloseWithError(quic.ApplicationErrorCode(_DOQ_NO_ERROR), \"\") } call.err = ErrClosedTransport close(call.done) return }" ∧
    Facts.c18_quicDialWake = 2 ∧
    Facts.c18_quicGetClosed = "t.closed" ∧
    Facts.c18_quicServerClose = "{ s.closeOnce.Do(func() { s.closed.Store(true) s.l.Close() s.qt.Close() s.uc.Close() }) return nil }" ∧
    Facts.c18_quicUpCloser = "return &upstreamWithCloser{ Transport: transport.NewQuicTransport(transport.QuicTransportOpts{ DialContext: dialQuicConn, Logger: logger, }), closer: closerFunc(func() error { t.Close(); return uc.Close() }), }, nil" ∧
    Facts.c18_reuseClose = "{ t.m.Lock() defer t.m.Unlock() if t.closed { return nil } t.closed = true for c := range t.conns { c.c.Close() } t.cancelCause(ErrClosedTransport) return nil }" ∧
    Facts.c18_reuseDialClosed = "if t.closed { t.m.Unlock() rc.close() rc = nil err = ErrClosedTransport } else { t.conns[rc] = struct{}{} t.m.Unlock() debugLogTransportConnOpen(c, t.logger) }" ∧
    Facts.c18_reuseGetClosed = "t.closed" ∧
    Facts.c18_reuseReleaseClosed = "if t.closed { t.m.Unlock() if err == nil { rc.close() } return }" ∧
    Facts.c18_tcpServerClose = "{ s.closeOnce.Do(func() { s.closed.Store(true) s.l.Close() }) return nil }" ∧
    Facts.c18_trackerClose = "{ t.m.Lock() t.closed = true conns := t.conns t.conns = nil t.m.Unlock() for c := range conns { c.Conn.Close() } }" ∧
    Facts.c18_trackerTrack = "{ t.m.Lock() defer t.m.Unlock() if t.closed { c.Close() return nil, transport.ErrClosedTransport } tc := &trackedConn{Conn: c, t: t} t.conns[tc] = struct{}{} return tc, nil }" ∧
    Facts.c18_udpServerClose = "{ s.closeOnce.Do(func() { s.closed.Store(true) for _, c := range s.cs { c.c.Close() } }) return nil }" ∧
    Facts.c18_upCloserClose = "{ err := u.Transport.Close() u.closer.Close() return err }" := by
  (repeat' apply And.intro) <;> rfl

/-- Wire-id exhaustion and dials in progress, in the source: `Status()` reports a pipelined connection as closed
    only when it IS closed (the pool forgets — without closing — what reports closed), it stops being available
    when its 65536 ids are used, and it closes itself when the last query of an exhausted connection is done;
    the TLS handshake of a tls:// dial and the QUIC handshakes follow the dial context, and the dial contexts of
    the reuse and quic transports derive from the transport's context that Close cancels. -/
theorem pins_exhaustion_and_dials :
    -- (the counter tests `c.nextQid > 65535`, `eol := …` and `Available` are tied by translation:
    --  Lemmas/TranslatedC18.lean `left_zero_translated`, `sweep_cond_translated`, `usable_pipe_translated`)
    Facts.c18_pipeStatus = "s.Closed = c.closed" ∧
    Facts.c18_pipeStatusRLock = "c.m.RLock()" ∧ Facts.c18_pipeStatusRUnlock = "defer c.m.RUnlock()" ∧
    Facts.c18_tlsHandshake = "err := tlsConn.HandshakeContext(ctx)" ∧
    Facts.c18_tlsHandshakeCount = 1 ∧
    Facts.c18_h3DialEarly = "return quicTransport.DialEarly(ctx, ua, tlsCfg, cfg)" ∧
    Facts.c18_quicDialEarly = "ec, err := t.DialEarly(ctx, ua, tlsConfig, quicConfig)" ∧
    Facts.c18_reuseDialCtx = "dialCtx, cancelDial := context.WithTimeout(t.ctx, t.dialTimeout())" ∧
    Facts.c18_quicDialCtx = "ctx, cancel := context.WithTimeout(t.ctx, t.dialTimeout())" := by
  (repeat' apply And.intro) <;> rfl

/-- The cache stage and the fasthttp listener, in the source: `initCache` closes its local cacheCtl (`c.Close()`)
    in the error path of the redis backend — the memory cache was started just before — and of the ip marker;
    `r.cache = cache` happens only after `initCache` returned; `cacheCtl.Close` closes both backends;
    `fastHttpServer.Close` (pinned in `pins_close`) bounds the shutdown by 100 ms and then closes the connections
    it tracks through the ConnState hook. -/
theorem pins_cache_and_fasthttp :
    Facts.c18_initCacheRedis = "if len(cfg.Redis) > 0 { redisCache, err := cache.NewRedisCache(cfg.Redis, r.subLogger(\"redis_cache\")) if err != nil { c.Close() return nil, fmt.Errorf(\"failed to init redis cache, %w\", err) } c.redis = redisCache err = regMetrics(prometheus.WrapRegistererWithPrefix(\"cache_redis\", r.metricsReg), redisCache.Collectors()...) if err != nil { c.Close() return nil, err } }" ∧
    Facts.c18_initCacheMarker = "if len(cfg.IpMarker) > 0 { marker, err := loadIpMarkerFromFile(cfg.IpMarker) if err != nil { c.Close() return nil, fmt.Errorf(\"failed to load ip marker, %w\", err) } c.logger.Info(). Str(\"file\", cfg.IpMarker). Int(\"len\", marker.IpLen()). Int(\"marks\", marker.MarkLen()). Msg(\"ip marker file loaded\") c.ipMarker = marker }" ∧
    Facts.c18_initCacheCloses = 4 ∧
    Facts.c18_cacheAssign = "r.cache = cache" ∧
    Facts.c18_cacheCtlClose = "{ if c.memory != nil { c.memory.Close() } if c.redis != nil { c.redis.Close() } return nil }" ∧
    Facts.c18_fastHttpConnState = "s.ConnState = fs.trackConnState" ∧
    Facts.c18_fastHttpTrack = "{ s.m.Lock() defer s.m.Unlock() switch state { case fasthttp.StateNew: s.conns[c] = struct{}{} case fasthttp.StateClosed, fasthttp.StateHijacked: delete(s.conns, c) } }" := by
  (repeat' apply And.intro) <;> rfl

/-! ## the lock protocol of the reusable-connection transport (idle timers against `getIdleConn` and `Close`) -/

/-- ★ `Close`, an exchange picking an idle connection (`getIdleConn`, which looks at the idle connections one after
    the other with `t.m` held), the idle timers of those connections and an exchange that returns its connection
    never dead-lock — for EVERY interleaving, schedules of every length: after any schedule either all of them
    have returned or one of them can take its next step (so `Close` returns, and no exchange waits for a mutex
    beyond its context). -/
theorem reuse_locks_never_deadlock (sched : List Nat) :
    LockOrder.stuck false (LockOrder.run false sched LockOrder.init) = false :=
  LockOrder.code_never_stuck sched

/-- non-vacuity: the goroutines of that model do all run to completion under a fair schedule -/
theorem reuse_locks_round_robin_finishes :
    LockOrder.finished false (LockOrder.run false LockOrder.roundRobin LockOrder.init) = true :=
  LockOrder.round_robin_finishes

/-- ★ what it rests on is the order `t.m` before `c.m`: an idle timer that calls back into the transport while it
    holds `c.m` can block `getIdleConn` for ever — and with it `Close` (thread 3), which then never returns. -/
theorem reuse_nested_idle_timer_can_deadlock :
    ∃ sched, LockOrder.stuck true (LockOrder.run true sched LockOrder.init) = true ∧
      LockOrder.enabled true (LockOrder.run true sched LockOrder.init) 3 = false ∧
      LockOrder.finished true (LockOrder.run true sched LockOrder.init) = false :=
  LockOrder.nested_timer_can_deadlock

/-- The lock sequences of that model, in the source: `closeIfIdle` takes `c.m` and nothing else; `exitIdle` and
    `enterIdle` take `c.m` only; `getIdleConn` calls `exitIdle` with `t.m` held; `releaseConn` has left `c.m`
    (`enterIdle` / `close` have returned) before it takes `t.m`, and calls `rc.close()` after `t.m.Unlock()`;
    `Close` (`c18_reuseClose`, pinned above) takes `t.m` and closes the net.Conns directly. -/
theorem pins_lock_order :
    Facts.c18_lockCloseIfIdle = "{ c.m.Lock() serving := c.serving if !serving { c.closed = true defer c.c.Close() } c.m.Unlock() }" ∧
    Facts.c18_lockEnterIdle = "{ c.m.Lock() defer c.m.Unlock() if !c.serving { panic(\"call enterIdle on a idle connection\") } c.serving = false c.idleTimer.Reset(c.idleTimeout) }" ∧
    Facts.c18_lockExitIdle = "{ c.m.Lock() defer c.m.Unlock() if c.closed { return true } if c.serving { panic(\"call exitIdle on a busy connection\") } c.serving = true c.idleTimer.Stop() err := c.c.SetReadDeadline(time.Time{}) return err != nil }" ∧
    Facts.c18_lockGetIdleConn = "{ t.m.Lock() defer t.m.Unlock() if t.closed { return nil, ErrClosedTransport } for c := range t.idleConns { delete(t.idleConns, c) if closed := c.exitIdle(); closed { delete(t.conns, c) continue } return c, nil } return nil, nil }" ∧
    Facts.c18_lockReleaseConn = "{ if err != nil { debugLogTransportConnClosed(rc.c, t.logger, err) rc.close() } else { rc.enterIdle() } t.m.Lock() if t.closed { t.m.Unlock() if err == nil { rc.close() } return } if err != nil { delete(t.conns, rc) } else { t.idleConns[rc] = struct{}{} } t.m.Unlock() }" := by
  (repeat' apply And.intro) <;> rfl

end MosVerif.C18
