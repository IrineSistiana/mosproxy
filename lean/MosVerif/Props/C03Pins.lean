/-
  C03 — source facts of the listener layer (regenerated on every run) that the listener components rely on:
  the UDP listener reads whole datagrams and never packs more than a datagram can carry; a stream connection with
  queries in flight is not idle.
-/
import MosVerif.Generated.Facts
namespace MosVerif.C03

theorem pins_listeners :
    Facts.udp_maxPayload = 65507 ∧ Facts.udp_readBuf = 65535 ∧
    Facts.tcp_idleBusy = "n == 0 && concurrent.Load() > 0 && errors.Is(err, os.ErrDeadlineExceeded)" ∧
    Facts.quic_idleBusy = "idleTimeout && busy && c.Context().Err() == nil" :=
  ⟨rfl, rfl, rfl, rfl⟩

end MosVerif.C03
