/-
  C14 — Upstream exchanges end by their deadline and survive stale connections.

  The four retry loops are the common loop over the attempts as they really happen
  (`exchange_eq_loop`). For EVERY oracle (every placement of faults) `exchange_run` describes the
  run — a prefix of stale attempts, then the attempt that decides — and `stale_prefix` is its
  converse; what is retried, what is returned and which stale connections are survived is read
  off these two. Then: the connection-scoped cancel of a pipelined connection, the write lock,
  the complete extracted table of wait sites (each clause classified once, `arm_kinds`), and
  that the model's prediction meets the executable specification.
  Rests on `Lemmas/RetryLoop.lean` (the common loop, the write lock, the pipelined connection),
  `Lemmas/RetryScript.lean` (fault scripts as oracles), `Lemmas/RetryPipelineLink.lean` (C05's
  interleaving model) and `Lemmas/TranslatedC14.lean` (the loop conditions, tied by translation).
  What is NOT proved here: actual return times (measured by the harness), and the
  behaviour of library time-outs (net, crypto/tls, net/http, quic-go, connpool).
-/
import MosVerif.Model.Retry
import MosVerif.Lemmas.RetryScript
import MosVerif.Lemmas.RetryPipelineLink
import MosVerif.Lemmas.TranslatedC14
import MosVerif.Generated.Facts
namespace MosVerif.C14
open MosVerif.Retry

/-! ### the loops as written are the common loop -/

/-- each loop as written is the common loop over `eff k o`, the attempts as they really happen: the
    oracle itself, except that the reuse loop's last allowed attempt (retry 6) dials without
    consulting the pool, that the quic loop dials after a connection-level failure, and that for DoH
    "pooled failure" stands for a failure that is retried (a connection error on a reused connection
    or a QUIC connection error) and "fresh failure" for one that is reported (`dohView`) -/
theorem exchange_eq_loop (k : Kind) (o : Oracle) : exchange k o = loop k.lim (eff k o) 0 := by
  cases k
  · exact pipelineLoop_eq o 0
  · exact reuseLoop_eq o 0
  · exact quicLoop_eq o 0
  · exact dohLoop_eq o 0

theorem eff_doh (o : Oracle) (i : Nat) : eff .doh o i = dohView (o i) := rfl

/-- pipeline / reuse: within the retry budget minus one the pool IS consulted: the attempt is the
    oracle's -/
theorem eff_early (k : Kind) (hq : k ≠ .quic) (hd : k ≠ .doh) (o : Oracle) (i : Nat) (h : i ≤ 5) :
    eff k o i = o i := by
  cases k with
  | pipeline => rfl
  | reuse => simp [eff, reuseEff, h]
  | quic => exact absurd rfl hq
  | doh => exact absurd rfl hd

/-- quic: an attempt is the oracle's unless the previous one ended with a connection-level error
    (`forgetConn`), in which case it is a dial -/
theorem eff_quic (o : Oracle) (i : Nat) :
    eff .quic o (i + 1) = if (eff .quic o i).connErr then forcedDial (o (i + 1)) else o (i + 1) := rfl

theorem eff_quic_zero (o : Oracle) : eff .quic o 0 = o 0 := rfl

theorem eff_quic_plain (o : Oracle) (i : Nat) (h : ∀ j, j < i → (o j).connErr = false) :
    eff .quic o i = o i := by
  induction i with
  | zero => rfl
  | succ n ih =>
    have hn : eff .quic o n = o n := ih (fun j hj => h j (by omega))
    rw [eff_quic, hn, h n (by omega)]
    rfl

theorem eff_plain (k : Kind) (hd : k ≠ .doh) (o : Oracle) (i : Nat) (h : i ≤ 5)
    (hq : k = .quic → ∀ j, j < i → (o j).connErr = false) : eff k o i = o i := by
  by_cases hk : k = .quic
  · subst hk; exact eff_quic_plain o i (hq rfl)
  · exact eff_early k hk hd o i h

/-! ### ★ the run of an exchange -/

/-- The run of an exchange, whatever the oracle: attempts `0 … j-1` are stale (they failed on a
    pooled connection while the context was live), attempt `j ≤ lim` is not stale or is the last
    the budget allows, and it decides the outcome. The theorems of this section read this off;
    `stale_prefix` is the converse. -/
theorem exchange_run (k : Kind) (o : Oracle) :
    ∃ j, j ≤ k.lim ∧ (∀ i, i < j → isStale (eff k o i) = true) ∧
      (isStale (eff k o j) = false ∨ j = k.lim) ∧ exchange k o = ⟨(eff k o j).out, j + 1⟩ := by
  obtain ⟨j, _, hj, hs, hl, he⟩ := loop_run k.lim (eff k o) 0 (Nat.zero_le _)
  exact ⟨j, hj, fun i hi => hs i (Nat.zero_le _) hi, hl, by rw [exchange_eq_loop, he]⟩

theorem stale_prefix (k : Kind) (o : Oracle) (m : Nat) (hm : m ≤ k.lim)
    (hs : ∀ i, i < m → isStale (eff k o i) = true) (hl : isStale (eff k o m) = false) :
    exchange k o = ⟨(eff k o m).out, m + 1⟩ := by
  rw [exchange_eq_loop]
  exact loop_stale_prefix k.lim (eff k o) (eff k o) m hm (fun _ _ => rfl) hs hl

theorem last_attempt (k : Kind) (o : Oracle) (i : Nat) (hi : i < (exchange k o).n)
    (h : isStale (eff k o i) = false) : exchange k o = ⟨(eff k o i).out, i + 1⟩ := by
  obtain ⟨j, _, hs, _, he⟩ := exchange_run k o
  rw [he] at hi ⊢
  have hij : i = j := by
    by_cases hlt : i < j
    · rw [hs i hlt] at h; cases h
    · exact Nat.le_antisymm (Nat.le_of_lt_succ hi) (Nat.le_of_not_lt hlt)
  rw [hij]

/-- ★ at most `lim + 1` attempts, whatever happens in them. The loops are total functions
    (well-founded on `lim − retry`, no fuel). -/
theorem attempts_bounded (k : Kind) (o : Oracle) : (exchange k o).n ≤ k.lim + 1 := by
  obtain ⟨j, hj, _, _, he⟩ := exchange_run k o
  rw [he]
  exact Nat.succ_le_succ hj

/-- ★ pipelined transports (UDP, TCP/DoT with pipelining): at most 6 attempts -/
theorem attempts_bounded_pipeline (o : Oracle) : (pipelineLoop o 0 0).n ≤ 6 := attempts_bounded .pipeline o
/-- ★ connection-reuse transports (TCP, DoT): at most 7 attempts (`retry <= 5`) -/
theorem attempts_bounded_reuse (o : Oracle) : (reuseLoop o 0 0).n ≤ 7 := attempts_bounded .reuse o
/-- ★ DoQ: at most 6 attempts -/
theorem attempts_bounded_quic (o : Oracle) : (quicLoop o 0 0 false).n ≤ 6 := attempts_bounded .quic o
/-- ★ DoH (h1, h2, h3): at most 4 round trips per exchange (`retry < 3`) -/
theorem attempts_bounded_doh (o : Oracle) : (dohLoop o 0 0).n ≤ 4 := attempts_bounded .doh o

/-- at least one attempt is made -/
theorem attempts_pos (k : Kind) (o : Oracle) : 0 < (exchange k o).n := by
  obtain ⟨j, _, _, _, he⟩ := exchange_run k o
  rw [he]
  exact Nat.succ_pos j

/-- the bounds are attained: a pool that keeps handing out stale connections -/
example : (exchange .pipeline (fun _ => ⟨.pooled, none, false, none, false, false, false⟩)).n = 6 := by simp [exchange, pipelineLoop]
example : (exchange .reuse (fun _ => ⟨.pooled, none, false, none, false, false, false⟩)).n = 7 := by
  simp [exchange, reuseLoop, forcedDial]
example : (exchange .quic (fun _ => ⟨.pooled, none, false, none, false, false, false⟩)).n = 6 := by simp [exchange, quicLoop]
example : (exchange .doh (fun _ => ⟨.pooled, none, false, none, false, false, false⟩)).n = 4 := by
  simp [exchange, dohLoop, Get.isErr]

/-! ### ★ what is retried -/

/-- every attempt but the last failed on a POOLED connection while the context was live and
    the retry budget was not exhausted: nothing else is ever retried (DoH: read through `dohView`) -/
theorem only_stale_is_retried (k : Kind) (o : Oracle) (i : Nat) (hi : i + 1 < (exchange k o).n) :
    (eff k o i).get = .pooled ∧ (eff k o i).res = none ∧ (eff k o i).ctxDone = false ∧ i < k.lim := by
  obtain ⟨j, hj, hs, _, he⟩ := exchange_run k o
  rw [he] at hi
  have hij : i < j := Nat.lt_of_succ_lt_succ hi
  have h := (isStale_iff _).1 (hs i hij)
  exact ⟨h.1, h.2.1, h.2.2, Nat.lt_of_lt_of_le hij hj⟩

/-- ★ a failure on a freshly dialled connection is returned — that attempt is the last one and
    the exchange reports an error -/
theorem fresh_failure_returned (k : Kind) (o : Oracle) (i : Nat) (hi : i < (exchange k o).n)
    (hf : (eff k o i).get = .fresh) (hr : (eff k o i).res = none) :
    (exchange k o).res = none ∧ (exchange k o).n = i + 1 := by
  rw [last_attempt k o i hi (by simp [isStale, hf])]
  simp [Attempt.out, hr]

/-- likewise a failed dial (or a closed pool) ends the exchange with an error -/
theorem get_failure_returned (k : Kind) (o : Oracle) (i : Nat) (hi : i < (exchange k o).n)
    (hf : (eff k o i).get.isErr = true) : (exchange k o).res = none ∧ (exchange k o).n = i + 1 := by
  have hp : (eff k o i).get ≠ .pooled := fun h => by rw [h] at hf; cases hf
  rw [last_attempt k o i hi (by simp [isStale, hp])]
  simp [Attempt.out, hf]

/-- ★ once the context is done no further attempt starts -/
theorem ctx_done_stops (k : Kind) (o : Oracle) (i : Nat) (hi : i < (exchange k o).n)
    (hd : (eff k o i).ctxDone = true) : (exchange k o).n = i + 1 := by
  rw [last_attempt k o i hi (by simp [isStale, hd])]

/-! ### DoH in its own terms -/

/-- ★ DoH: once the caller's context is done the exchange returns (an error), no further round trip -/
theorem doh_ctx_done_stops (o : Oracle) (i : Nat) (hi : i < (exchange .doh o).n)
    (hd : (o i).ctxDone = true) : (exchange .doh o).n = i + 1 ∧ (exchange .doh o).res = none := by
  rw [last_attempt .doh o i hi (by simp [eff_doh, isStale, dohView_ctxDone, hd])]
  simp [eff_doh, dohView, hd, Attempt.out]

/-- ★ DoH: a failure on a connection that was dialled for this request (and is not a QUIC connection
    error), or a bad response on any connection, is reported, not retried -/
theorem doh_fresh_failure_returned (o : Oracle) (i : Nat) (hi : i < (exchange .doh o).n)
    (hfail : (o i).get.isErr = true ∨ (o i).res = none)
    (hnot : (o i).respErr = true ∨ ((o i).get ≠ .pooled ∧ (o i).connErr = false)) :
    (exchange .doh o).res = none ∧ (exchange .doh o).n = i + 1 := by
  have h := dohView_reported (o i) hfail hnot
  apply fresh_failure_returned .doh o i hi <;> rw [eff_doh, h]

/-! ### ★ stale connections are survived -/

/-- ★ the first `m ≤ lim` attempts fail on pooled connections (context live) and the next
    attempt — on a fresh or on a pooled connection — gets a reply ⇒ the exchange returns
    that reply, after exactly `m + 1` attempts. (pipeline, reuse: `eff k o i = o i` for `i ≤ 5`, see
    `eff_early`; the reuse loop's attempt 6 is a dial; quic: `eff_quic_plain`.) -/
theorem stale_then_healthy_succeeds (k : Kind) (o : Oracle) (m x : Nat)
    (hm : m ≤ k.lim)
    (hs : ∀ i, i < m → (eff k o i).get = .pooled ∧ (eff k o i).res = none ∧ (eff k o i).ctxDone = false)
    (hg : (eff k o m).get = .pooled ∨ (eff k o m).get = .fresh) (hx : (eff k o m).res = some x) :
    exchange k o = ⟨some x, m + 1⟩ := by
  rw [stale_prefix k o m hm (fun i hi => (isStale_iff _).2 (hs i hi)) (replied hg hx).1, (replied hg hx).2]

/-- while the pool is consulted (at most 5 stale connections; quic: none of them failed at connection
    level) the run is read off the oracle itself -/
theorem five_le_lim (k : Kind) (hk : k ≠ .doh) : 5 ≤ k.lim := by
  cases k with
  | doh => exact absurd rfl hk
  | _ => decide

theorem pool_prefix (k : Kind) (hk : k ≠ .doh) (o : Oracle) (m : Nat) (hm : m ≤ 5)
    (hq : k = .quic → ∀ i, i < m → (o i).connErr = false)
    (hs : ∀ i, i < m → isStale (o i) = true) (hl : isStale (o m) = false) :
    exchange k o = ⟨(o m).out, m + 1⟩ := by
  rw [exchange_eq_loop]
  exact loop_stale_prefix k.lim (eff k o) o m (Nat.le_trans hm (five_le_lim k hk))
    (fun i hi => eff_plain k hk o i (by omega) (fun hkq t ht => hq hkq t (by omega))) hs hl

/-- the same in terms of the oracle itself when at most 5 connections were stale -/
theorem stale_then_healthy_succeeds_pool (k : Kind) (hk : k ≠ .doh) (o : Oracle) (m x : Nat)
    (hm : m ≤ 5)
    (hs : ∀ i, i < m → (o i).get = .pooled ∧ (o i).res = none ∧ (o i).ctxDone = false)
    (hq : k = .quic → ∀ i, i < m → (o i).connErr = false)
    (hg : (o m).get = .pooled ∨ (o m).get = .fresh) (hx : (o m).res = some x) :
    exchange k o = ⟨some x, m + 1⟩ := by
  rw [pool_prefix k hk o m hm hq (fun i hi => (isStale_iff _).2 (hs i hi)) (replied hg hx).1, (replied hg hx).2]

/-- `j ≤ 5` stale pooled attempts, then a fresh connection that fails: the exchange fails after
    exactly `j + 1` attempts (for DoH see `doh_fresh_failure_returned`) -/
theorem stale_then_fresh_failure (k : Kind) (hk : k ≠ .doh) (o : Oracle) (j : Nat) (hj : j ≤ k.poolLim)
    (hs : ∀ i, i < j → isStale (o i) = true)
    (hq : k = .quic → ∀ i, i < j → (o i).connErr = false)
    (hf : (o j).get = .fresh) (hr : (o j).res = none) :
    exchange k o = ⟨none, j + 1⟩ := by
  rw [pool_prefix k hk o j (Nat.le_trans hj (poolLim_le k).1) hq hs (by simp [isStale, hf])]
  simp [Attempt.out, hr]

/-- ★ DoH too: `m ≤ 3` round trips fail with a connection error on a reused
    connection (h1/h2: `GotConn.Reused`; h3: a QUIC connection error), the caller's context alive, and
    the next round trip gets a reply ⇒ the exchange returns that reply -/
theorem doh_stale_then_healthy_succeeds (o : Oracle) (m x : Nat) (hm : m ≤ 3)
    (hs : ∀ i, i < m → (o i).ctxDone = false ∧ ((o i).get.isErr = true ∨ (o i).res = none) ∧
      (o i).respErr = false ∧ ((o i).get = .pooled ∨ (o i).connErr = true))
    (hc : (o m).ctxDone = false) (hg : (o m).get.isErr = false) (hx : (o m).res = some x) :
    exchange .doh o = ⟨some x, m + 1⟩ := by
  have hv : eff .doh o m = o m := dohView_healthy _ hc hg hx
  rw [stale_prefix .doh o m hm (fun i hi => ?_) (by simp [hv, isStale, hx]), hv]
  · simp [Attempt.out, hg, hx]
  · obtain ⟨h1, h2, h3, h4⟩ := hs i hi
    rw [eff_doh, dohView_retried _ h1 h2 h3 h4]
    simp [isStale, h1]

/-- non-vacuity: three reused connections died, the fourth round trip answers; a fourth dead one
    exhausts the budget; a bad response is not retried -/
example : exchange .doh (oracleOf ((List.replicate 3 ⟨.pooled, none, false, none, false, false, false⟩) ++ [⟨.fresh, some 7, false, none, false, false, false⟩]))
    = ⟨some 7, 4⟩ := by simp [exchange, dohLoop, oracleOf, List.replicate, Get.isErr]
example : exchange .doh (oracleOf ((List.replicate 4 ⟨.pooled, none, false, none, false, false, false⟩) ++ [⟨.fresh, some 7, false, none, false, false, false⟩]))
    = ⟨none, 4⟩ := by simp [exchange, dohLoop, oracleOf, List.replicate, Get.isErr]
example : exchange .doh (oracleOf [⟨.pooled, none, false, none, false, false, true⟩, ⟨.fresh, some 7, false, none, false, false, false⟩])
    = ⟨none, 1⟩ := by simp [exchange, dohLoop, oracleOf, Get.isErr]

/-- ★ (QUIC, D34) after `j ≤ 4` plain stale attempts a pooled attempt fails with a connection-level
    error — the connection is dying, possibly with its context not done yet — while the caller's
    context is live: the connection is forgotten, the NEXT attempt is a dial (not the same
    connection again), and if that reaches a healthy server the exchange returns its reply -/
theorem quic_dying_conn_redials (o : Oracle) (j x : Nat) (hj : j ≤ 4)
    (hs : ∀ i, i < j → isStale (o i) = true ∧ (o i).connErr = false)
    (hk : isStale (o j) = true) (hc : (o j).connErr = true)
    (hd : (o (j + 1)).forced = some (some x)) :
    exchange .quic o = ⟨some x, j + 2⟩ := by
  have he : ∀ i, i ≤ j → eff .quic o i = o i := fun i hi =>
    eff_quic_plain o i (fun t ht => (hs t (by omega)).2)
  -- attempt `j` ended with `forgetConn`: attempt `j + 1` is a dial
  have h2 : eff .quic o (j + 1) = forcedDial (o (j + 1)) := by
    rw [eff_quic, he j (Nat.le_refl _), hc]
    rfl
  have hstale : ∀ i, i < j + 1 → isStale (eff .quic o i) = true := by
    intro i hi
    rw [he i (by omega)]
    by_cases hij : i = j
    · exact hij ▸ hk
    · exact (hs i (by omega)).1
  rw [stale_prefix .quic o (j + 1) (Nat.succ_le_succ hj) hstale (h2 ▸ (forcedDial_reply hd).1), h2,
    (forcedDial_reply hd).2]

/-- without `forgetConn` the same oracle — the dying connection is handed out again and again —
    exhausts the budget (this is the pipeline loop's behaviour on it) -/
example : exchange .pipeline (fun _ => ⟨.pooled, none, false, some (some 7), false, true, false⟩) = ⟨none, 6⟩ := by
  simp [exchange, pipelineLoop]
example : exchange .quic (fun _ => ⟨.pooled, none, false, some (some 7), false, true, false⟩) = ⟨some 7, 2⟩ := by
  simp [exchange, quicLoop, forcedDial]

/-- ★ connection-reuse transports: HOWEVER MANY stale connections the pool holds — every attempt
    on a pooled connection may fail — if the context stays live and a dial reaches a healthy
    server, the exchange succeeds (the 7th attempt dials instead of asking the pool again) -/
theorem stale_pool_any_size_succeeds (o : Oracle)
    (hp : ∀ i, isHealthy (o i) = true ∨ isStale (o i) = true)
    (hd : ∀ i, ∃ x, (o i).forced = some (some x)) :
    (exchange .reuse o).res.isSome = true := by
  obtain ⟨j, hj, _, hl, he⟩ := exchange_run .reuse o
  rw [he]
  by_cases h5 : j ≤ 5
  · rw [eff_early .reuse (by decide) (by decide) o j h5] at hl ⊢
    rcases hp j with h | h
    · exact (healthy_not_stale h).2
    · rw [h] at hl
      rcases hl with hl | hl
      · cases hl
      · exact absurd (hl ▸ h5) (by decide)
  · -- the 7th attempt does not ask the pool: it dials, and the dial reaches a server that answers
    have h6 : j = 6 := Nat.le_antisymm hj (by omega)
    obtain ⟨x, hx⟩ := hd 6
    have he6 : eff .reuse o 6 = forcedDial (o 6) := rfl
    rw [h6, he6, (forcedDial_reply hx).2]
    rfl

/-- … and the pipelined / QUIC loops do not have that escape: 6 stale connections exhaust them -/
example : exchange .pipeline (fun _ => ⟨.pooled, none, false, some (some 7), false, false, false⟩) = ⟨none, 6⟩ := by
  simp [exchange, pipelineLoop]

/-- non-vacuity: 5 stale pooled connections, then a fresh one that answers (pipeline);
    6 for the reuse transport; and one more stale connection exhausts the budget -/
example : exchange .pipeline (oracleOf ((List.replicate 5 ⟨.pooled, none, false, none, false, false, false⟩) ++ [⟨.fresh, some 7, false, none, false, false, false⟩]))
    = ⟨some 7, 6⟩ := by simp [exchange, pipelineLoop, oracleOf, List.replicate]
example : exchange .reuse (oracleOf ((List.replicate 5 ⟨.pooled, none, false, none, false, false, false⟩) ++ [⟨.pooled, some 7, false, none, false, false, false⟩]))
    = ⟨some 7, 6⟩ := by simp [exchange, reuseLoop, oracleOf, List.replicate]
/-- the reuse loop's 7th attempt dials whatever the pool holds -/
example : exchange .reuse (fun _ => ⟨.pooled, none, false, some (some 7), false, false, false⟩) = ⟨some 7, 7⟩ := by
  simp [exchange, reuseLoop, forcedDial]
example : exchange .pipeline (oracleOf ((List.replicate 6 ⟨.pooled, none, false, none, false, false, false⟩) ++ [⟨.fresh, some 7, false, none, false, false, false⟩]))
    = ⟨none, 6⟩ := by simp [exchange, pipelineLoop, oracleOf, List.replicate]
example : exchange .pipeline (oracleOf [⟨.fresh, none, false, none, false, false, false⟩, ⟨.fresh, some 7, false, none, false, false, false⟩]) = ⟨none, 1⟩ := by
  simp [exchange, pipelineLoop, oracleOf]
example : exchange .reuse (oracleOf [⟨.pooled, none, true, none, false, false, false⟩, ⟨.fresh, some 7, false, none, false, false, false⟩]) = ⟨none, 1⟩ := by
  simp [exchange, reuseLoop, oracleOf]

/-- at most one dial per exchange: only the last attempt can be on a fresh connection -/
theorem at_most_one_dial (k : Kind) (o : Oracle) : dialsUpTo (eff k o) (exchange k o).n ≤ 1 := by
  obtain ⟨j, _, hs, _, he⟩ := exchange_run k o
  rw [he]
  have h0 := dialsUpTo_stale (eff k o) j hs
  have h1 := dialsUpTo_succ_le (eff k o) j
  show dialsUpTo (eff k o) (j + 1) ≤ 1
  omega

/-- at most `lim + 1` exchanges are written to connections -/
theorem exchanges_bounded (k : Kind) (o : Oracle) : exchUpTo (eff k o) (exchange k o).n ≤ k.lim + 1 :=
  Nat.le_trans (exchUpTo_le _ _) (attempts_bounded k o)

/-! ### ★ a dead pipelined connection wakes every waiter -/

/-- ★ whatever happened on the connection before (`ops`), once it is aborted — by a read error
    in `readLoop`, a write error, or `Close` — the `<-c.ctx.Done()` arm of EVERY exchange
    waiting on it is ready: nobody stays blocked until its own deadline. The connection context
    is cancelled and the socket closed (exactly once), and it stays so. -/
theorem dead_conn_wakes_all (ops later : List ConnOp) (kill : ConnOp)
    (hk : kill = .readErr ∨ kill = .writeErr ∨ kill = .close) :
    let c := (((({} : PConn).run ops).step kill).run later)
    c.closed = true ∧ c.sockClosed = true ∧ ∀ w ∈ c.waiters, Arm.connDone ∈ ready c w := by
  intro c
  have hinv : c.inv := pconn_run_inv _ _ (pconn_step_inv _ _ (pconn_run_inv _ _ ⟨rfl, rfl⟩))
  have hclosed : c.closed = true := by
    apply pconn_run_closed_mono
    rcases hk with h | h | h <;> subst h <;> exact closeWithErr_closed _
  refine ⟨hclosed, by rw [hinv.2, hclosed], ?_⟩
  intro w _
  have : c.ctxDone = true := by rw [hinv.1, hclosed]
  simp [ready, this]

/-- `connDead` does not lose or add waiters, and each of them can leave at once -/
theorem connDead_wakes (c : PConn) (h : c.inv) :
    (connDead c).waiters = c.waiters ∧ ∀ w ∈ c.waiters, ready (connDead c) w ≠ [] := by
  refine ⟨closeWithErr_waiters c, fun w _ => ?_⟩
  have : (connDead c).ctxDone = true := closeWithErr_ctxDone c h
  simp [ready, this]

/-- ★ the same on C05's interleaving model (`Model/Pipeline.lean`: any number of exchanges,
    connections, read loops and an arbitrary server): once `closeWithErr` ran on connection `c`,
    then after ANY further steps of anybody, every exchange that is (still) blocked in the `select`
    on `c` can fire its `<-c.ctx.Done()` arm, and that arm makes it leave `exchange` with an error -/
theorem dead_conn_wakes_all_interleaved (cfg : Pipeline.Cfg) (s : Pipeline.State) (c : Nat)
    (later : List Pipeline.Step) (e q ch : Nat)
    (hw : (Pipeline.exec cfg (Pipeline.step cfg s (.close c)) later).pcs e = .waiting c q ch) :
    (Pipeline.step cfg (Pipeline.exec cfg (Pipeline.step cfg s (.close c)) later) (.dead e)).pcs e
      = .leaving c q none := by
  have hc := pl_exec_closed_mono cfg _ later c (pl_close_closes cfg s c)
  generalize Pipeline.exec cfg (Pipeline.step cfg s (.close c)) later = s' at hw hc ⊢
  simp [Pipeline.step, hw, hc]

/-- before that a waiter without reply and with a live caller context IS blocked (the statement
    above is not vacuous) -/
example : ready ({} : PConn) ⟨0, false, false⟩ = [] := by decide
example : ready (connDead { waiters := [⟨0, false, false⟩] }) ⟨0, false, false⟩ = [.connDone] := by decide

/-- a woken waiter returns an error to its retry loop (unless its reply had arrived), and
    the loop either returns it or retries on another connection: the decision is exactly
    `!newConn ∧ retry < lim ∧ ¬ctxDone`, whatever made the connection die -/
theorem woken_waiter_next (lim : Nat) (o : Oracle) (r : Nat) (hg : (o r).get.isErr = false)
    (hr : (o r).res = none) :
    loop lim o r =
      if (o r).get = .pooled ∧ r < lim ∧ (o r).ctxDone = false then loop lim o (r + 1) else ⟨none, r + 1⟩ := by
  have hc : (isStale (o r) = true ∧ r < lim) ↔ ((o r).get = .pooled ∧ r < lim ∧ (o r).ctxDone = false) := by
    rw [isStale_iff]
    exact ⟨fun h => ⟨h.1.1, h.2, h.1.2.2⟩, fun h => ⟨⟨h.1, hr, h.2.2⟩, h.2.1⟩⟩
  rw [loop_step, show (o r).out = none by rw [Attempt.out, hg, hr]; rfl]
  simp only [hc]

/-- in the `waiters` component every parked exchange is woken, whatever the mix of fresh and
    pooled waiters -/
theorem waiters_all_woken (fresh : List Bool) (nextOk : Bool) : (waitersOutcome fresh nextOk).2 = true := by
  have hinv : ∀ (l : List Waiter) (c : PConn), c.inv → (l.foldl (fun c w => c.step (.wait w)) c).inv := by
    intro l
    induction l with
    | nil => exact fun _ h => h
    | cons a t ih => exact fun c h => ih _ (pconn_step_inv c _ h)
  have hi := hinv ((List.range fresh.length).map fun j => (⟨j, false, false⟩ : Waiter)) {} ⟨rfl, rfl⟩
  simp only [waitersOutcome]
  generalize List.foldl _ _ _ = c at hi
  rw [List.all_eq_true]
  intro w _
  have : (connDead c).ctxDone = true := closeWithErr_ctxDone c hi
  simp [ready, this]

/-- … a waiter that got the connection from the pool and then finds a healthy server succeeds,
    one that had dialled it reports the error -/
theorem waiter_outcome (f nextOk : Bool) :
    (exchange .pipeline (waiterOracle f nextOk)).res.isSome = (!f && nextOk) := by
  cases f <;> cases nextOk <;> simp [exchange, pipelineLoop, waiterOracle]

/-! ### ★ the write deadline in force belongs to the exchange that is writing -/

/-- ★ whatever the number of exchanges and their interleaving: while exchange `x` is inside
    `c.c.Write` (possibly blocked — the peer does not read), the write deadline in force on the
    socket is the deadline of `x`'s OWN context. An exchange that merely waits for the write lock,
    with a later deadline or with none, cannot extend it: `SetWriteDeadline` is called under the
    lock only. -/
theorem write_deadline_is_writers_own (ddl : Nat → Option Nat) (ops : List WOp) (x : Nat)
    (h : (wrun ddl winit ops).pc x = .writing) : (wrun ddl winit ops).sockDdl = ddl x :=
  (wrun_inv ddl winit ops (winit_inv ddl)).2 x h

/-- at most one exchange is inside `Write` -/
theorem one_writer_at_a_time (ddl : Nat → Option Nat) (ops : List WOp) (x y : Nat)
    (hx : (wrun ddl winit ops).pc x = .writing) (hy : (wrun ddl winit ops).pc y = .writing) : x = y := by
  have h := (wrun_inv ddl winit ops (winit_inv ddl)).1
  have h1 := h x (Or.inr hx)
  have h2 := h y (Or.inr hy)
  rw [h1] at h2
  exact Option.some.inj h2

/-- the statement is not vacuous, and the ordering matters: exchange 0 (deadline 400) is inside Write,
    exchange 1 (deadline 3000) enters `writeTCP`. As written the socket keeps 400; with the deadline
    set BEFORE the lock is taken it becomes 3000 (and `none` — no deadline at all — if exchange 1
    has none) -/
example : let s := wrun (fun x => if x = 0 then some 400 else some 3000) winit [.step 0, .step 0, .step 0, .step 1, .step 1]
    s.pc 0 = .writing ∧ s.pc 1 = .waiting ∧ s.sockDdl = some 400 := by decide
example : let s := wrunEarly (fun x => if x = 0 then some 400 else some 3000) winit [.step 0, .step 0, .step 1]
    s.pc 0 = .writing ∧ s.pc 1 = .waiting ∧ s.sockDdl = some 3000 := by decide
example : let s := wrunEarly (fun x => if x = 0 then some 400 else none) winit [.step 0, .step 0, .step 1]
    s.pc 0 = .writing ∧ s.sockDdl = none := by decide

/-- tie: in `writeTCP` the lock-acquisition `select` precedes `SetWriteDeadline`, which precedes
    `Write`; the lock is released by the deferred receive; no other function of the pipelined
    connection touches the write deadline; the lock is a 1-buffered channel -/
theorem pins_write_order :
    Facts.c14_writeTCPBody = "{ select { case c.wm <- struct{}{}: case <-ctx.Done(): return context.Cause(ctx) case <-c.ctx.Done(): return context.Cause(c.ctx) } defer func() { <-c.wm }() ddl, _ := ctx.Deadline() c.c.SetWriteDeadline(ddl) _, err := c.c.Write(b) if err != nil { c.closeWithErr(fmt.Errorf(\"write err, %w\", err)) } return err }" ∧
    Facts.c14_nWriteDdl_writeTCP = 1 ∧ Facts.c14_nWriteDdl_write = 0 ∧ Facts.c14_nWriteDdl_exchange = 0 ∧
    Facts.c14_nWriteDdl_readLoop = 0 ∧ Facts.c14_nSetDeadline_readLoop = 0 ∧
    Facts.c14_wmMake = "pc := &pipelineConn{ c: c, t: t, ctx: ctx, cancelCause: cancel, wm: make(chan struct{}, 1), queue: make(map[uint32]chan *dnsmsg.Msg), }" ∧
    -- an idle time-out of the read loop is reported as the plain `ErrIdleTimeOut` (no Timeout() method):
    -- to the retry loop it is a connection failure like any other
    Facts.c14_idleErrCond = "errors.Is(err, os.ErrDeadlineExceeded)" ∧ Facts.c14_idleErrMap = "err = ErrIdleTimeOut" := by
  and_intros
  all_goals rfl

/-- tie (D34, fixed 69d4cbf): in `exchangePayload` a connection-level error makes the transport forget
    the connection BEFORE the retry decision; `forgetConn` clears `t.c`; `getConn` otherwise trusts
    the connection's context -/
theorem pins_quic_forget :
    Facts.c14_quicPayloadBody = "{ retry := 0 for { c, newConn, err := t.getConn(ctx) if err != nil { return nil, err } b, err := t.exchangeConn(ctx, payload, c) if err != nil { if isQuicConnErr(err) { t.forgetConn(c) } if !newConn && retry < 5 && !ctxIsDone(ctx) { retry++ continue } } return b, err } }" ∧
    Facts.c14_quicForgetBody = "{ t.m.Lock() if t.c == c { t.c = nil } t.m.Unlock() }" ∧
    Facts.c14_quicIsConnErrBody = "{ var ( appErr *quic.ApplicationError transErr *quic.TransportError idleErr *quic.IdleTimeoutError resetErr *quic.StatelessResetError hsErr *quic.HandshakeTimeoutError versionErr *quic.VersionNegotiationError ) return errors.As(err, &appErr) || errors.As(err, &transErr) || errors.As(err, &idleErr) || errors.As(err, &resetErr) || errors.As(err, &hsErr) || errors.As(err, &versionErr) }" ∧
    Facts.c14_quicGetConnAlive = "!ctxIsDone(t.c.Context())" := by
  and_intros
  all_goals rfl

/-- tie (941027f, 43a2a92): the DoH loop and what `exchangeOnce` calls a connection error (RoundTrip
    failed / the body read failed; not: bad status, undecodable body); a DoQ stream is opened with
    `OpenStreamSync(ctx)` — a wait for stream credit bounded by the exchange's context — and nothing
    else opens streams -/
theorem pins_doh_loop :
    Facts.c14_dohExchangeBody = "{ retry := 0 for { var reused atomic.Bool trace := &httptrace.ClientTrace{GotConn: func(info httptrace.GotConnInfo) { reused.Store(info.Reused) }} r, connErr, err := u.exchangeOnce(httptrace.WithClientTrace(ctx, trace), rawQuery) if connErr && (reused.Load() || isQuicConnErr(err) || isHttp3Err(err)) && retry < 3 && ctx.Err() == nil { retry++ continue } return r, err } }" ∧
    Facts.c14_dohIsH3ErrBody = "{ var h3Err *http3.Error return errors.As(err, &h3Err) }" ∧
    Facts.c14_dohOnceBody = "{ req := u.reqTemplate.WithContext(ctx) req.URL = new(urlpkg.URL) *req.URL = *u.urlTemplate req.URL.RawQuery = rawQuery resp, err := u.rt.RoundTrip(req) if err != nil { return nil, true, fmt.Errorf(\"http request failed: %w\", err) } defer resp.Body.Close() if resp.StatusCode != http.StatusOK { body1k, _ := io.ReadAll(io.LimitReader(resp.Body, 1024)) if body1k != nil { return nil, false, fmt.Errorf(\"bad http status codes %d with body [%s]\", resp.StatusCode, body1k) } return nil, false, fmt.Errorf(\"bad http status codes %d\", resp.StatusCode) } bb := bufPool4k.Get() defer bufPool4k.Release(bb) _, err = bb.ReadFrom(io.LimitReader(resp.Body, 65535)) if err != nil { return nil, true, fmt.Errorf(\"failed to read http body: %w\", err) } m, err := dnsmsg.UnpackMsg(bb.Bytes()) return m, false, err }" ∧
    Facts.c14_nsel0_dohOnce = 0 ∧
    Facts.c14_quicOpenStream = "s, err := c.OpenStreamSync(ctx)" ∧ Facts.c14_quicOpenStreamCalls = 1 ∧
    Facts.c14_quicExchangeConnBody = "{ s, err := c.OpenStreamSync(ctx) if err != nil { return nil, fmt.Errorf(\"failed to open stream, %w\", err) } return t.exchangeStream(ctx, payload, s) }" := by
  and_intros
  all_goals rfl

/-! ### ★ every wait has a context arm: the complete table of `select`s on the exchange paths -/

/-- every `select` statement of the functions on the exchange paths, with the pinned source
    text of each of its clauses (regenerated from /repo by the extractor) -/
def waitTable : List Sel := [
  ⟨"pipelineConn.exchange", [Facts.c14_arm_pipeEx_0, Facts.c14_arm_pipeEx_1, Facts.c14_arm_pipeEx_2]⟩,
  ⟨"pipelineConn.writeTCP", [Facts.c14_arm_pipeWr_0, Facts.c14_arm_pipeWr_1, Facts.c14_arm_pipeWr_2]⟩,
  ⟨"ReuseConnTransport.exchangeConnCtx", [Facts.c14_arm_reuseEx_0, Facts.c14_arm_reuseEx_1]⟩,
  ⟨"ReuseConnTransport.asyncDial", [Facts.c14_arm_reuseDial_0, Facts.c14_arm_reuseDial_1]⟩,
  ⟨"ReuseConnTransport.asyncDial", [Facts.c14_arm_reuseDial_2, Facts.c14_arm_reuseDial_3]⟩,
  ⟨"QuicTransport.exchangeStream", [Facts.c14_arm_quicStream_0, Facts.c14_arm_quicStream_1]⟩,
  ⟨"dialingQuicCall.wait", [Facts.c14_arm_quicWait_0, Facts.c14_arm_quicWait_1]⟩,
  ⟨"DoHTransport.ExchangeContext", [Facts.c14_arm_doh_0, Facts.c14_arm_doh_1]⟩]

/-- The classification of every clause of the table, evaluated once. A string literal is
    `String.ofList` of its characters, so on literals `pre` compares two character lists
    (`pre_ofList`); evaluating `String.toList` itself would walk the UTF-8 bytes, which is far
    slower to check. `whnf` only unfolds the fact to its literal. -/
theorem arm_kinds :
    armKind Facts.c14_arm_pipeEx_0 = .callerCtx ∧ armKind Facts.c14_arm_pipeEx_1 = .connCtx ∧
    armKind Facts.c14_arm_pipeEx_2 = .chan ∧
    armKind Facts.c14_arm_pipeWr_0 = .chan ∧ armKind Facts.c14_arm_pipeWr_1 = .callerCtx ∧
    armKind Facts.c14_arm_pipeWr_2 = .connCtx ∧
    armKind Facts.c14_arm_reuseEx_0 = .chan ∧ armKind Facts.c14_arm_reuseEx_1 = .callerCtx ∧
    armKind Facts.c14_arm_reuseDial_0 = .chan ∧ armKind Facts.c14_arm_reuseDial_1 = .derivedCtx ∧
    armKind Facts.c14_arm_reuseDial_2 = .derivedCtx ∧ armKind Facts.c14_arm_reuseDial_3 = .chan ∧
    armKind Facts.c14_arm_quicStream_0 = .callerCtx ∧ armKind Facts.c14_arm_quicStream_1 = .chan ∧
    armKind Facts.c14_arm_quicWait_0 = .callerCtx ∧ armKind Facts.c14_arm_quicWait_1 = .chan ∧
    armKind Facts.c14_arm_doh_0 = .callerCtx ∧ armKind Facts.c14_arm_doh_1 = .chan := by
  and_intros
  all_goals
    conv => lhs; arg 1; whnf
    unfold armKind
    rw [pre_ofList, pre_ofList, pre_ofList, pre_ofList]
    decide

/-- in fact each of them has an arm on the CALLER's context (or on `callCtx`, which is
    `context.WithCancel(ctx)`), not just on the connection's -/
theorem every_wait_has_caller_ctx :
    ∀ s ∈ waitTable, (s.arms.any fun a => armKind a == .callerCtx || armKind a == .derivedCtx) = true := by
  simp only [waitTable, List.forall_mem_cons, List.any_cons, arm_kinds]
  decide

/-- ★ every blocking `select` on an exchange path has a `ctx.Done()` arm (the caller's context,
    or `callCtx` derived from it) or a connection-context arm — over the whole table -/
theorem every_wait_has_ctx : ∀ s ∈ waitTable, s.hasCtxArm = true := by
  intro s hs
  obtain ⟨a, ha, hk⟩ := List.any_eq_true.1 (every_wait_has_caller_ctx s hs)
  exact List.any_eq_true.2 ⟨a, ha, by rw [hk]; rfl⟩

/-- the waits of a pipelined connection are also woken by the connection's own context -/
theorem pipeline_waits_have_conn_ctx :
    ∀ s ∈ waitTable, (s.fn == "pipelineConn.exchange" || s.fn == "pipelineConn.writeTCP") = true →
      (s.arms.any fun a => armKind a == .connCtx) = true := by
  -- `String.reduceEq` tells two names apart by one differing character
  simp only [waitTable, List.forall_mem_cons, List.any_cons, arm_kinds, Bool.or_eq_true, beq_iff_eq,
    String.reduceEq]
  -- what is left is propositional: the two pipelined entries have a `connCtx` arm, the others are not asked
  simp

def selsOf (fn : String) : List Sel := waitTable.filter (·.fn == fn)
def armsOf (fn : String) : Nat := ((selsOf fn).map (·.arms.length)).sum

/-- the table is complete: per function, as many `select`s and as many clauses as the source
    has; none of them has a `default`; the other functions on the exchange paths contain no
    `select` at all; the only other `select`s of these files (`readLoop`'s hand-off and
    `ctxIsDone`) have a `default` clause, i.e. never block -/
theorem waitTable_complete :
    (selsOf "pipelineConn.exchange").length = Facts.c14_nsel_pipeEx ∧ armsOf "pipelineConn.exchange" = Facts.c14_narm_pipeEx ∧
    (selsOf "pipelineConn.writeTCP").length = Facts.c14_nsel_pipeWr ∧ armsOf "pipelineConn.writeTCP" = Facts.c14_narm_pipeWr ∧
    (selsOf "ReuseConnTransport.exchangeConnCtx").length = Facts.c14_nsel_reuseEx ∧
      armsOf "ReuseConnTransport.exchangeConnCtx" = Facts.c14_narm_reuseEx ∧
    (selsOf "ReuseConnTransport.asyncDial").length = Facts.c14_nsel_reuseDial ∧
      armsOf "ReuseConnTransport.asyncDial" = Facts.c14_narm_reuseDial ∧
    (selsOf "QuicTransport.exchangeStream").length = Facts.c14_nsel_quicStream ∧
      armsOf "QuicTransport.exchangeStream" = Facts.c14_narm_quicStream ∧
    (selsOf "dialingQuicCall.wait").length = Facts.c14_nsel_quicWait ∧ armsOf "dialingQuicCall.wait" = Facts.c14_narm_quicWait ∧
    (selsOf "DoHTransport.ExchangeContext").length = Facts.c14_nsel_doh ∧ armsOf "DoHTransport.ExchangeContext" = Facts.c14_narm_doh ∧
    Facts.c14_ndef_pipeEx + Facts.c14_ndef_pipeWr + Facts.c14_ndef_reuseEx + Facts.c14_ndef_reuseDial +
      Facts.c14_ndef_quicStream + Facts.c14_ndef_quicWait + Facts.c14_ndef_doh = 0 ∧
    Facts.c14_nsel0_pipeXc + Facts.c14_nsel0_pipeWrite + Facts.c14_nsel0_reuseXc + Facts.c14_nsel0_reuseConn +
      Facts.c14_nsel0_reuseGetIdle + Facts.c14_nsel0_quicXc + Facts.c14_nsel0_quicPayload + Facts.c14_nsel0_quicConn +
      Facts.c14_nsel0_quicGetConn + Facts.c14_nsel0_dohExchange + Facts.c14_nsel0_fallback = 0 ∧
    Facts.c14_nsel_readLoop = Facts.c14_ndef_readLoop ∧
    Facts.c14_ctxIsDoneBody = "{ select { case <-ctx.Done(): return true default: return false } }" := by
  simp only [selsOf, armsOf, waitTable, List.filter_cons, List.filter_nil, beq_iff_eq, String.reduceEq, if_true,
    if_false]
  and_intros
  all_goals rfl

/-- the number of `<-ctx.Done()` / `<-callCtx.Done()` / `<-c.ctx.Done()` receives per function
    agrees with the classification of the table's clauses -/
theorem ctx_arm_counts :
    Facts.c14_nctx_pipeEx = 1 ∧ Facts.c14_nconn_pipeEx = 1 ∧ Facts.c14_nctx_pipeWr = 1 ∧
    Facts.c14_nctx_reuseEx = 1 ∧ Facts.c14_nctx_reuseDial = 0 ∧ Facts.c14_nctx_reuseDialCall = 2 ∧
    Facts.c14_nctx_quicStream = 1 ∧ Facts.c14_nctx_quicWait = 1 ∧ Facts.c14_nctx_doh = 1 ∧
    Facts.c14_callCtx = "callCtx, cancel := context.WithCancel(ctx)" := by
  and_intros
  all_goals rfl

/-! ### ★ the model meets the executable specification -/

theorem oracleOf_lt (l : List Attempt) (i : Nat) (h : i < l.length) : oracleOf l i = l[i] := by
  simp [oracleOf, List.getD, h]

theorem eff_ctxDone (k : Kind) (o : Oracle) (i : Nat) (h1 : (o i).ctxDone = false) (h2 : (o i).forcedDone = false) :
    (eff k o i).ctxDone = false := by
  cases k
  · simp [eff, h1]
  · simp only [eff, reuseEff]; split <;> simp [forcedDial_ctxDone, h1, h2]
  · cases i with
    | zero => simpa [eff, quicEff] using h1
    | succ n => simp only [eff, quicEff]; split <;> simp [forcedDial_ctxDone, h1, h2]
  · simp [eff, dohView_ctxDone, h1]

/-- the attempts as they really happen are the viewed script's attempts: always for DoH; for the
    other loops while the pool is consulted and (quic) no connection-level failure came before -/
theorem eff_view (k : Kind) (l : List Attempt) (i : Nat) (h : i ≤ 5)
    (hq : k = .quic → ∀ j, j < i → (oracleOf l j).connErr = false) :
    eff k (oracleOf l) i = oracleOf (specView k l) i := by
  by_cases hk : k = .doh
  · subst hk
    exact (oracleOf_map_dohView l i).symm
  · rw [specView_ne_doh k hk, eff_plain k hk (oracleOf l) i h hq]

/-- The run of an exchange on a script whose stale prefix (as the specification reads it) is within
    the pool budget and, for quic, free of connection-level errors: it ends with the attempt that
    follows the prefix. Both "stale then healthy" and "stale then fresh failure" are read off this. -/
theorem exchange_of_script (k : Kind) (l : List Attempt) (hpp : plainPrefix k (specView k l) = true)
    (hm : ((specView k l).takeWhile isStale).length ≤ k.poolLim) :
    exchange k (oracleOf l) =
      ⟨(oracleOf (specView k l) ((specView k l).takeWhile isStale).length).out,
        ((specView k l).takeWhile isStale).length + 1⟩ := by
  have hm5 := Nat.le_trans hm (poolLim_le k).1
  rw [exchange_eq_loop]
  refine loop_stale_prefix k.lim _ (oracleOf (specView k l)) _ (Nat.le_trans hm (poolLim_le k).2)
    (fun i hi => eff_view k l i (by omega) (fun hkq j hj => ?_))
    (fun i hi => oracleOf_takeWhile isStale _ i hi) (oracleOf_takeWhile_length isStale _ rfl)
  have := plainPrefix_connErr k _ hpp hkq j (by omega)
  rwa [specView_ne_doh k (by rw [hkq]; decide)] at this

theorem predict_att_le (k : Kind) (o : Oracle) (obs : String) (a : Nat) (h : (predict k o obs).att = some a) :
    a ≤ (exchange k o).n := by
  simp only [predict] at h
  split at h
  · cases h; exact exchUpTo_le _ _
  · cases h

theorem predict_dials_le (k : Kind) (o : Oracle) (obs : String) (d : Nat) (h : (predict k o obs).dials = some d) :
    d ≤ 1 := by
  simp only [predict] at h
  split at h
  · cases h; exact at_most_one_dial k o
  · cases h

/-- ★ for every loop, every fault script and every choice of observables, the outcome the
    model predicts satisfies the executable specification written from the property text
    (`spec` is what the harness applies to the REAL transports' observed outcomes) -/
theorem model_meets_spec (k : Kind) (l : List Attempt) (obs : String) :
    spec k l (predict k (oracleOf l) obs) = true := by
  simp only [spec, specCore, Bool.and_eq_true]
  refine ⟨⟨⟨⟨⟨⟨⟨⟨⟨?_, ?_⟩, ?_⟩, ?_⟩, ?_⟩, ?_⟩, ?_⟩, ?_⟩, rfl⟩, rfl⟩
  · -- never late
    simp only [predict]
    split <;> decide
  · -- a fresh failure after a stale prefix is returned
    by_cases hpp : plainPrefix k (specView k l) = true
    · simp only [hpp, if_true]
      cases hq : freshFailureAt k.poolLim (specView k l) with
      | none => rfl
      | some j =>
        simp only [freshFailureAt] at hq
        split at hq
        · rename_i hc
          cases hq
          simp only [Bool.and_eq_true, decide_eq_true_eq, beq_iff_eq] at hc
          obtain ⟨⟨hle, hf⟩, hr⟩ := hc
          have he := exchange_of_script k l hpp hle
          have ho : (oracleOf (specView k l) ((specView k l).takeWhile isStale).length).out = none := by
            have hr' := Option.isNone_iff_eq_none.1 hr
            simp only [Attempt.out, oracleOf, hr', ite_self]
          simp only [Bool.and_eq_true, Bool.not_eq_true']
          exact ⟨by simp [predict, he, ho], optLe fun a ha => by simpa [he] using predict_att_le k _ obs a ha⟩
        · cases hq
    · simp [hpp]
  · -- stale connections, then a healthy one
    split
    · rename_i h
      have h2 := h.2
      simp only [staleThenHealthy, Bool.and_eq_true, decide_eq_true_eq] at h2
      simp [predict, exchange_of_script k l h.1 h2.1, (healthy_not_stale (a := oracleOf (specView k l) _) h2.2).2]
    · rfl
  · -- quic: a dying connection is not handed out again
    split
    · rename_i h
      simp only [beq_iff_eq] at h
      obtain ⟨hk, hs⟩ := h
      subst hk
      rw [specView_ne_doh .quic (by decide) l] at hs
      simp only [quicKillThenDial, Bool.and_eq_true, decide_eq_true_eq] at hs
      obtain ⟨⟨⟨hj, hst⟩, hce⟩, hd⟩ := hs
      obtain ⟨x, hx⟩ := forced_some hd
      have he := quic_dying_conn_redials (oracleOf l) _ x hj
        (fun i hi => by simpa using oracleOf_takeWhile (fun a => isStale a && !a.connErr) l i hi) hst hce hx
      simp [predict, he]
    · rfl
  · -- reuse: any number of stale connections
    split
    · rename_i h
      simp only [beq_iff_eq] at h
      obtain ⟨hk, hs⟩ := h
      subst hk
      rw [specView_ne_doh .reuse (by decide) l] at hs
      have hg := oracleOf_all _ l hs rfl
      simp only [Bool.and_eq_true, Bool.or_eq_true] at hg
      simpa [predict] using stale_pool_any_size_succeeds (oracleOf l) (fun i => (hg i).1)
        (fun i => forced_some (hg i).2)
    · rfl
  · -- bounded
    exact optLe fun a ha => Nat.le_trans (predict_att_le k _ obs a ha) (attempts_bounded k _)
  · exact optLe (predict_dials_le k _ obs)
  · -- prompt when no attempt runs into the context's end
    split
    · rename_i h
      have h1 := oracleOf_all _ (specView k l) h rfl ((exchange k (oracleOf l)).n - 1)
      simp only [Bool.and_eq_true, Bool.not_eq_true'] at h1
      have : (eff k (oracleOf l) ((exchange k (oracleOf l)).n - 1)).ctxDone = false := by
        by_cases hk : k = .doh
        · subst hk
          rw [show specView .doh l = l.map dohView from rfl, oracleOf_map_dohView] at h1
          exact h1.1
        · rw [specView_ne_doh k hk l] at h1
          exact eff_ctxDone k (oracleOf l) _ h1.1 h1.2
      simp [predict, this]
    · rfl

/-- the specification is not vacuous: it rejects a late return, a stale connection that was
    not survived, a second dial, an unbounded number of attempts, waiting out the deadline
    after a connection died, sleeping waiters and a leaked connection -/
example : spec .pipeline [⟨.fresh, none, true, none, false, false, false⟩] ⟨false, some 1, some 1, "late", true, 0⟩ = false := by decide
example : spec .reuse (List.replicate 9 ⟨.pooled, none, false, healthyDial, false, false, false⟩) ⟨false, some 7, some 0, "prompt", true, 0⟩ = false := by decide
example : spec .reuse (List.replicate 9 ⟨.pooled, none, false, healthyDial, false, false, false⟩) ⟨true, some 7, some 1, "prompt", true, 0⟩ = true := by decide
example : spec .reuse [⟨.pooled, none, false, none, false, false, false⟩, ⟨.fresh, some 1, false, healthyDial, false, false, false⟩] ⟨false, some 1, some 0, "prompt", true, 0⟩ = false := by decide
example : spec .reuse [⟨.pooled, none, false, none, false, false, false⟩, ⟨.fresh, some 1, false, healthyDial, false, false, false⟩] ⟨true, some 2, some 1, "prompt", true, 0⟩ = true := by decide
example : spec .pipeline [⟨.fresh, none, false, none, false, false, false⟩] ⟨false, some 2, some 2, "prompt", true, 0⟩ = false := by decide
example : spec .quic [⟨.fresh, none, false, none, false, false, false⟩] ⟨true, some 2, some 1, "prompt", true, 0⟩ = false := by decide
example : spec .quic [⟨.pooled, none, false, healthyDial, false, true, false⟩, ⟨.fresh, some 1, false, healthyDial, false, false, false⟩]
    ⟨false, none, some 0, "prompt", true, 0⟩ = false := by decide
example : spec .quic [⟨.pooled, none, false, healthyDial, false, true, false⟩, ⟨.fresh, some 1, false, healthyDial, false, false, false⟩]
    ⟨true, none, some 1, "prompt", true, 0⟩ = true := by decide
example : spec .quic [⟨.fresh, none, false, none, false, false, false⟩] ⟨false, some 1, some 1, "prompt", true, 0⟩ = true := by decide
example : spec .pipeline [⟨.pooled, none, false, none, false, false, false⟩] ⟨false, some 8, some 0, "prompt", true, 0⟩ = false := by decide
/-- DoH: a reused connection that died (h2) / a QUIC connection error (h3) with a healthy server must be
    survived; a bad response need not -/
example : spec .doh [⟨.pooled, none, false, healthyDial, false, false, false⟩, ⟨.fresh, some 1, false, healthyDial, false, false, false⟩]
    ⟨false, none, none, "prompt", true, 0⟩ = false := by decide
example : spec .doh [⟨.pooled, none, false, healthyDial, false, true, false⟩, ⟨.fresh, some 1, false, healthyDial, false, false, false⟩]
    ⟨false, none, none, "prompt", true, 0⟩ = false := by decide
example : spec .doh [⟨.pooled, none, false, healthyDial, false, false, true⟩, ⟨.fresh, some 1, false, healthyDial, false, false, false⟩]
    ⟨false, none, none, "prompt", true, 0⟩ = true := by decide
example : spec .pipeline [⟨.fresh, none, false, none, false, false, false⟩] ⟨false, some 1, some 1, "intime", true, 0⟩ = false := by decide
example : spec .pipeline [⟨.fresh, none, false, none, false, false, false⟩] ⟨false, some 1, some 1, "prompt", false, 0⟩ = false := by decide
example : spec .pipeline [⟨.fresh, none, false, none, false, false, false⟩] ⟨false, some 1, some 1, "prompt", true, 1⟩ = false := by decide

/-! ### tie: pinned source facts -/

/-- what surrounds the loop conditions (the conditions themselves: tie by translation) -/
theorem pins :
    -- loop counters (the loop conditions and their bounds are tied by translation: Lemmas/TranslatedC14.lean,
    -- `pipelineLoop_translated`, `reuseLoop_translated`, `quicLoop_translated`, `dohLoop_translated`)
    Facts.c14_pipeRetryInit = "retry := 0" ∧ Facts.c14_reuseRetryInit = "retry := 0" ∧ Facts.c14_quicRetryInit = "retry := 0" ∧
    Facts.c14_pipeRetryIncs = 1 ∧ Facts.c14_reuseRetryIncs = 1 ∧ Facts.c14_quicRetryIncs = 1 ∧
    Facts.c14_pipeContinues = 1 ∧ Facts.c14_reuseContinues = 1 ∧ Facts.c14_quicContinues = 1 ∧
    -- pipeline loop body
    Facts.c14_pipeGet = "conn, newConn, err := t.getConn(ctx)" ∧
    Facts.c14_pipeGetConnBody = "{ c, newConn, err := t.pool.Get(ctx) if err != nil { return nil, false, err } return c.(*pipelineConn), newConn, nil }" ∧
    Facts.c14_pipeExchange = "resp, err := conn.exchange(ctx, m)" ∧ Facts.c14_pipeRelease = "t.releaseConn(conn)" ∧
    Facts.c14_pipeErrReturns = 2 ∧ Facts.c14_pipeOkReturn = "return resp, nil" ∧
    -- reuse loop body
    Facts.c14_reuseConnDecl = "var c *reusableConn" ∧
    Facts.c14_reuseGetIdle = "c, err = t.getIdleConn()" ∧ Facts.c14_reuseGetIdleCalls = 1 ∧
    Facts.c14_reuseDialCalls = 1 ∧ Facts.c14_reuseNilCond = "c == nil" ∧
    Facts.c14_reuseNewConnSet = "isNewConn = true" ∧ Facts.c14_reuseNewConnSets = 1 ∧
    Facts.c14_reuseDial = "c, err = t.asyncDial(ctx)" ∧
    Facts.c14_reuseExchange = "resp, err := t.exchangeConnCtx(ctx, payload, c)" ∧
    Facts.c14_reuseErrReturns = 3 ∧ Facts.c14_reuseOkReturn = "return resp, nil" ∧
    -- quic loop body
    Facts.c14_quicGet = "c, newConn, err := t.getConn(ctx)" ∧ Facts.c14_quicGetErrRet = "return nil, err" ∧
    Facts.c14_quicExchange = "b, err := t.exchangeConn(ctx, payload, c)" ∧ Facts.c14_quicReturn = "return b, err" := by
  and_intros
  all_goals rfl

/-- tie: the connection-scoped cancel and the deadlines / time-outs the reading of the code depends on -/
theorem pins_waits :
    -- connection-scoped cancel
    Facts.c14_closeBody = "{ if err == nil { err = errPipelineConnClosed } c.m.Lock() if c.closed { c.m.Unlock() return } c.closed = true c.m.Unlock() c.cancelCause(err) go c.c.Close() debugLogTransportConnClosed(c.c, c.t.logger, err) }" ∧
    Facts.c14_closeCancel = "c.cancelCause(err)" ∧ Facts.c14_closeAsync = "go c.c.Close()" ∧
    Facts.c14_connCtxNew = "ctx, cancel := context.WithCancelCause(context.Background())" ∧
    Facts.c14_readErrCond = "err != nil" ∧ Facts.c14_readErrCloses = 1 ∧
    Facts.c14_readErrClose = "c.closeWithErr(fmt.Errorf(\"read err, %w\", err))" ∧
    Facts.c14_udpWriteErrClose = "c.closeWithErr(fmt.Errorf(\"write err, %w\", err))" ∧
    Facts.c14_writeErrClose = "c.closeWithErr(fmt.Errorf(\"write err, %w\", err))" ∧
    Facts.c14_reuseReleaseErr = "rc.close()" ∧
    -- deadlines
    Facts.c14_readDeadline = "c.c.SetReadDeadline(time.Now().Add(idleTimeout))" ∧
    Facts.c14_idleTimeoutSrc = "idleTimeout := c.t.connIdleTimeout()" ∧
    Facts.c14_exchangeWrite = "err = c.write(ctx, m, qid)" ∧ Facts.c14_writeCallsTCP = "err = c.writeTCP(ctx, b)" ∧
    Facts.c14_writeDdlSrc = "ddl, _ := ctx.Deadline()" ∧ Facts.c14_writeDeadline = "c.c.SetWriteDeadline(ddl)" ∧
    Facts.c14_writeUnlock = "defer func() { <-c.wm }()" ∧
    Facts.c14_reuseQueryTimeout = 6000000000 ∧ Facts.c14_reuseRespTimeout = "respTimeout := reuseConnQueryTimeout" ∧
    Facts.c14_reuseDeadline = "c.c.SetDeadline(time.Now().Add(respTimeout))" ∧
    Facts.c14_reuseWorker = "resp, err := t.exchangeConn(payloadCopy, c)" ∧
    Facts.c14_reuseResChan = "resChan := make(chan res, 1)" ∧
    Facts.c14_reuseDialCtx = "dialCtx, cancelDial := context.WithTimeout(t.ctx, t.dialTimeout())" ∧
    Facts.c14_dohTimeout = 6000000000 ∧
    Facts.c14_dohInnerCtx = "ctx, cancel := context.WithTimeout(context.Background(), defaultDoHTimeout)" ∧
    Facts.c14_dohResChan = "resChan := make(chan res, 1)" ∧ Facts.c14_quicRc = "rc := make(chan res, 1)" ∧
    Facts.c14_quicDialCtx = "ctx, cancel := context.WithTimeout(t.ctx, t.dialTimeout())" ∧
    Facts.c14_pipeDialCtx = "ctx, cancel := context.WithTimeout(ctx, t.dialTimeout())" ∧
    Facts.c14_idleDefault = 10000000000 ∧ Facts.c14_dialDefault = 5000000000 := by
  and_intros
  all_goals rfl

end MosVerif.C14
