/-
  C04 — Answers are never mixed up between concurrent queries.
  Theorems over the composed protocol model (Model/System.lean): for EVERY interleaving of the atomic
  steps of any number of concurrent requests (cache on, evictions at any time, upstream replies delayed,
  reordered, duplicated, dropped, arriving after the waiter gave up), every request that answers with
  data answers with the upstream's answer for ITS OWN question; with the byte key of C07
  (Lemmas/SystemConcrete) the same on concrete questions.
-/
import MosVerif.Lemmas.SystemInv
import MosVerif.Lemmas.SystemConcrete
import MosVerif.Lemmas.TranslatedCacheKey
import MosVerif.Model.Listeners
import MosVerif.Generated.Facts
namespace MosVerif.C04
open MosVerif.System

/-- ★ `answers_own`: in every state reachable from the initial state by ANY sequence of steps, a request
    that has answered either failed (SERVFAIL) or carries `f` of its own question — never data produced
    for, or left over from, another query. -/
theorem answers_own (f : Key → Val) (qs : List Key) (steps : List Step) (t : Nat) (th : Thread) (v : Val)
    (ht : (run f (init qs) steps).threads[t]? = some th) (hd : th.stage = .done (some v)) :
    v = f th.q :=
  (inv_run f (init qs) steps (inv_init f qs)).done_ok t th v ht hd

/-- ★ stated on the original questions: request number `t` of the initial list, whatever the schedule. -/
theorem answers_own_initial (f : Key → Val) (qs : List Key) (steps : List Step) (t : Nat) (th : Thread) (v : Val)
    (ht : (run f (init qs) steps).threads[t]? = some th) (hd : th.stage = .done (some v)) :
    qs[t]? = some th.q ∧ v = f th.q := by
  exact ⟨run_init_q f qs steps t th ht, answers_own f qs steps t th v ht hd⟩

/-- ★ the cache never holds data under the wrong key, in any reachable state. -/
theorem cache_own (f : Key → Val) (qs : List Key) (steps : List Step) (k : Key) (v : Val)
    (h : (k, v) ∈ (run f (init qs) steps).cache) : v = f k :=
  (inv_run f (init qs) steps (inv_init f qs)).cache_ok k v h

/-- ★ a late or duplicated reply (its waiter is gone) changes nothing at all. -/
theorem late_reply_noop (f : Key → Val) (s : State) (id : Nat) (h : lookup s.inflight id = none) :
    step f s (.reply id) = s := by
  simp only [step]
  cases lookup s.seen id <;> simp [h]

/-- non-vacuity: two requests for different questions, replies delivered in the opposite order,
    one request served from the cache the other one filled -/
example :
    let f : Key → Val := fun k => k * 10 + 1
    let s := run f (init [7, 8, 7]) [.start 0, .start 1, .reply 1, .reply 0, .start 2, .reply 0]
    s.threads.map (·.stage) = [.done (some 71), .done (some 81), .done (some 71)] := by decide

/-! ### on concrete questions (C04 ∘ C07): the abstract key is the byte string `cacheCtl` builds -/

/-- ★ requests carry a question and the client's group label; the key is the layout `cacheKey` produces for the
    lower-cased question (`Props/C07.key_layout`). For every interleaving of any number of requests, a request
    that answers with data answers with the upstream's answer `F` for its own (lower-cased name, class, type,
    group). -/
theorem answers_own_question (F : CacheKey.Bytes → Val) (reqs : List SystemConcrete.Req) (steps : List Step)
    (t : Nat) (th : Thread) (v : Val)
    (ht : (run (fun k => F (SystemConcrete.dec k)) (init (reqs.map SystemConcrete.keyOf)) steps).threads[t]? = some th)
    (hd : th.stage = .done (some v)) :
    ∃ r, reqs[t]? = some r ∧ v = F (SystemConcrete.layoutOf r) :=
  SystemConcrete.answers_own_concrete F reqs steps t th v ht hd

/-- ★ two requests share cached data exactly when they agree on the lower-cased name, the class, the type and the
    client group (valid wire names): a query in class CH can never be served the IN answer, nor one client group
    another group's answer. -/
theorem share_iff_same_question {r₁ r₂ : SystemConcrete.Req} (h₁ : CacheKey.WfName63 r₁.q.name)
    (h₂ : CacheKey.WfName63 r₂.q.name) :
    SystemConcrete.keyOf r₁ = SystemConcrete.keyOf r₂ ↔
      (CacheKey.toLowerName r₁.q.name = CacheKey.toLowerName r₂.q.name ∧ r₁.q.cls = r₂.q.cls ∧
        r₁.q.typ = r₂.q.typ ∧ r₁.mark = r₂.mark) :=
  SystemConcrete.keyOf_eq_iff h₁ h₂

/-- non-vacuity on concrete questions: the same name (up to case) in class IN and class CH gets two keys -/
example :
    let a : SystemConcrete.Req := ⟨⟨[1, 97], 1, 1⟩, []⟩
    let b : SystemConcrete.Req := ⟨⟨[1, 65], 3, 1⟩, []⟩      -- "A" in class CH
    SystemConcrete.keyOf a ≠ SystemConcrete.keyOf b := by decide

/-- tie: the key the composed model numbers is the one `cacheKey` writes — name, terminator, class, type, group
    label: `cacheKey_translated` (Lemmas/TranslatedCacheKey, the model proved equal to the translation of the
    current source) — and, pinned source facts shared with C07, both `Store` and `Get` build it from the lower-cased
    question and the client's group. -/
theorem pins :
    Facts.ck_lowerCall = "dnsmsg.ToLowerName(q.Name)" ∧
    Facts.ck_storeKey = "k := cacheKey(q, mark)" ∧
    Facts.ck_getKey = "key := cacheKey(q, ipMark)" ∧
    Facts.ck_storeMark = "mark := c.ipMark(clientAddr)" ∧
    Facts.ck_getMark = "ipMark := c.ipMark(rc.RemoteAddr.Addr())" := by
  (repeat' apply And.intro) <;> rfl

end MosVerif.C04
