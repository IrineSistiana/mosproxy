/-
  C13 — Stream listeners frame correctly under any segmentation and pipelining.

  Models: Model/Gnet (the event-driven listener's reassembly machine over gnet's `Next`),
  Model/Framing (the goroutine listener's blocking reader, `packRespTCP`).
  Helper lemmas: Lemmas/Gnet*.lean, Lemmas/Framing.lean.

  Scope: frames of length 0 are not queries — they fail to decode and the connection is
  closed (C01's business); every theorem about delivered queries is stated for streams whose
  frames have length ≥ 1, and `OnTraffic` is assumed to fire only when octets arrived
  (segments are non-empty).
-/
import MosVerif.Lemmas.GnetResp
import MosVerif.Lemmas.Framing
import MosVerif.Lemmas.GnetMulti
import MosVerif.Lemmas.TranslatedC13
import MosVerif.Generated.Facts
namespace MosVerif.C13
open MosVerif.Gnet

/-! ## the event-driven listener (gnet) -/

/-- ★ Refinement, segments only. For every decode predicate, every limit, and EVERY list of
    non-empty segments whose concatenation contains no zero-length frame: the mode machine decodes
    exactly the frames the reference stream parser finds in the concatenation, in order, up to the
    first one that does not decode; it closes the connection iff there is such a frame; it never
    panics or spins; and otherwise it rests in the canonical state for the parser's leftover
    (nothing lost, nothing duplicated, nothing kept in `cc.buffer`). -/
theorem gnet_refines_parse (dec : Bytes → Bool) (max : Nat) (segs : List Bytes)
    (hseg : ∀ s ∈ segs, s ≠ [])
    (hne : ∀ f ∈ (parse segs.flatten).1, f ≠ []) :
    let c := runOps dec max (segs.map Op.seg) {}
    c.bad = false ∧
    c.log = (admission max 0 ((parse segs.flatten).1.takeWhile dec)).1 ∧
    c.log.map Event.body = (parse segs.flatten).1.takeWhile dec ∧
    c.closed = !(parse segs.flatten).1.all dec ∧
    ((parse segs.flatten).1.all dec = true → Rest c.cc c.inb (parse segs.flatten).2) := by
  intro c
  have hsim := run_refines dec max (segs.map Op.seg) {} {} sim_init (noEmpty_segs dec max segs {} hseg (.inr hne))
  have href := ref_segs dec max segs {} rfl (.inl (by decide))
  have hlog : c.log = (admission max 0 ((parse segs.flatten).1.takeWhile dec)).1 := hsim.log.trans href.log
  have hcl : c.closed = !(parse segs.flatten).1.all dec := hsim.closed.trans href.closed
  refine ⟨hsim.bad, hlog, by rw [hlog, admission_bodies], hcl, fun hall => ?_⟩
  have hr := (hsim.rest (by rw [hcl, hall]; rfl)).1
  rwa [(href.rest hall).1] at hr

/-- ★ `gnet_run_prefix`: all segmentations of a stream of `k` frames followed by an incomplete tail
    (cuts inside the length prefix, inside bodies, several frames per segment): exactly the `k`
    queries are decoded, in order, the connection stays open and rests on the tail. -/
theorem gnet_run_prefix (dec : Bytes → Bool) (max : Nat) (frames : List Bytes) (tail : Bytes)
    (segs : List Bytes)
    (hlen : ∀ f ∈ frames, 0 < f.length ∧ f.length < 65536)
    (hdec : ∀ f ∈ frames, dec f = true)
    (htail : Incomplete tail)
    (hseg : ∀ s ∈ segs, s ≠ [])
    (hcat : segs.flatten = frames.flatMap frame ++ tail) :
    let c := runOps dec max (segs.map Op.seg) {}
    c.log.map Event.body = frames ∧ c.closed = false ∧ c.bad = false ∧ Rest c.cc c.inb tail := by
  intro c
  have hall : frames.all dec = true := List.all_eq_true.mpr hdec
  have hne : ∀ f ∈ frames, f ≠ [] := fun f hf h0 => absurd (hlen f hf).1 (by rw [h0]; decide)
  have h := gnet_refines_parse dec max segs hseg
  rw [hcat, parse_frames frames tail (fun f hf => (hlen f hf).2) htail, takeWhile_of_all dec frames hall,
    hall] at h
  obtain ⟨hbad, _, hbodies, hcl, hrest⟩ := h hne
  exact ⟨hbodies, hcl, hbad, hrest rfl⟩

/-- ★ `gnet_frames`: for ALL frame lists (each body 1..65535 octets, decodable) and ALL segmentations
    of their concatenation, the queries delivered by the real reassembly logic are exactly the frames,
    each once, in order; afterwards the connection is idle with an empty inbound buffer. -/
theorem gnet_frames (dec : Bytes → Bool) (max : Nat) (frames : List Bytes) (segs : List Bytes)
    (hlen : ∀ f ∈ frames, 0 < f.length ∧ f.length < 65536)
    (hdec : ∀ f ∈ frames, dec f = true)
    (hseg : ∀ s ∈ segs, s ≠ [])
    (hcat : segs.flatten = frames.flatMap frame) :
    let c := runOps dec max (segs.map Op.seg) {}
    c.log.map Event.body = frames ∧ c.closed = false ∧ c.bad = false ∧
      c.cc.buffer = none ∧ c.inb = [] := by
  intro c
  obtain ⟨h1, h2, h3, h4⟩ := gnet_run_prefix dec max frames [] segs hlen hdec (Or.inl (by simp)) hseg
    (by simpa using hcat)
  exact ⟨h1, h2, h3, h4.idle_of_nil⟩

/-- ★ Refinement with handler completions interleaved (any order, any time): for every sequence of
    segments and completions (no zero-length frame, no empty segment) the model's connection and the
    reference semantics agree on the decode log, the running handlers, every write, and the closed flag;
    the machine does not panic. -/
theorem gnet_refines_ref (dec : Bytes → Bool) (max : Nat) (ops : List Op)
    (h : noEmptyRun dec max ops {} = true) :
    Sim (drain (runOps dec max ops {})) (refDrain (refRun dec max ops {})) :=
  sim_drain (run_refines dec max ops {} {} sim_init h)

/-- ★ `cc.buffer` never holds data between `OnTraffic` calls (for every admissible run): either
    there is no buffer or `readN = 0` — because `Next` is all-or-nothing. Proved, not assumed. -/
theorem partial_buffer_empty (dec : Bytes → Bool) (max : Nat) (ops : List Op)
    (h : noEmptyRun dec max ops {} = true) :
    let c := runOps dec max ops {}
    c.closed = false → c.cc.buffer = none ∨ c.cc.readN = 0 := by
  intro c hc
  have hsim := run_refines dec max ops {} {} sim_init h
  exact (hsim.rest hc).1.readN_zero

/-- ★ `over_limit_refused`: when `max` handlers are already running, every query completed by the
    arriving segment is answered REFUSED (`c.Write`), none is dropped: one event per decodable frame,
    and the counter is left unchanged. -/
theorem over_limit_refused (dec : Bytes → Bool) (max : Nat) (cc : ConnCtx) (inb u seg : Bytes)
    (hr : Rest cc inb u) (hseg : seg ≠ []) (hne : ∀ f ∈ (parse (u ++ seg)).1, f ≠ [])
    (hfull : max ≤ cc.concurrent) :
    let r := onTraffic dec max ((inb ++ seg).length + 1) cc (inb ++ seg)
    r.evs = ((parse (u ++ seg)).1.takeWhile dec).map Event.refused ∧
    ((parse (u ++ seg)).1.all dec = true → r.cc.concurrent = cc.concurrent) := by
  intro r
  obtain ⟨g1, _, g3⟩ := good_step dec max _ hr hseg (Nat.lt_succ_self _) hne
  rw [admission_over max _ _ hfull] at g1 g3
  exact ⟨g1, fun hall => (g3 hall).2⟩

/-- below the limit the query is handed to a handler and the counter grows by one; in every case
    each decodable frame produces exactly one event (one response). -/
theorem one_event_per_query (dec : Bytes → Bool) (max : Nat) (cc : ConnCtx) (inb u seg : Bytes)
    (hr : Rest cc inb u) (hseg : seg ≠ []) (hne : ∀ f ∈ (parse (u ++ seg)).1, f ≠ []) :
    (onTraffic dec max ((inb ++ seg).length + 1) cc (inb ++ seg)).evs.map Event.body =
      (parse (u ++ seg)).1.takeWhile dec := by
  rw [(good_step dec max _ hr hseg (Nat.lt_succ_self _) hne).evs, admission_bodies]


/-- ★ `one_response_each`: for EVERY sequence of segments and handler completions (any completion
    order, any timing, no side condition) — once the running handlers have finished, the responses
    written are, as a multiset, exactly the decoded queries, each with the kind it is due
    (REFUSED iff it was over the limit when decoded): nothing dropped, nothing answered twice. -/
theorem one_response_each (dec : Bytes → Bool) (max : Nat) (ops : List Op) :
    let c := drain (runOps dec max ops {})
    c.writes.Perm (c.log.map Event.tag) ∧ c.pending = [] := by
  intro c
  -- `drain` appends the pending queries to the writes: `Accounted` of the state before it is the claim
  exact ⟨accounted_run dec max ops {} (List.Perm.refl []), rfl⟩

/-- ★ the model satisfies the executable specification that judges the implementation's observed
    outcome — for every limit and every sequence of segments and completions (without zero-length
    frames / empty segments). -/
theorem model_meets_spec (c : Case) (h : caseOk c = true) : Gnet.spec c (modelObs c) = true := by
  have hs := gnet_refines_ref decB c.max c.ops h
  have : modelObs c = expected c := by
    simp only [modelObs, expected]; exact obs_of_sim hs
  simp [Gnet.spec, this]

/-- the reference outcome depends only on the concatenation of the segments -/
theorem expected_segs (max : Nat) (d1 d2 : Bool) (segs : List Bytes) :
    expected ⟨max, d1, segs.map Op.seg⟩ = expected ⟨max, d2, [Op.seg segs.flatten]⟩ := by
  have h1 := ref_segs decB max segs {} rfl (.inl (by decide))
  have h2 := refAfter_step decB max (r := {}) segs.flatten rfl
  simp only [expected, refDrain]
  rw [h1.log, h1.closed, h1.pending, h1.writes,
    show refRun decB max [Op.seg segs.flatten] {} = refStep decB max {} (.seg segs.flatten) from rfl,
    h2.log, h2.closed, h2.pending, h2.writes]

/-- ★ segmentation is irrelevant: what the client and the upstream can observe of the gnet listener
    (multiset of (id, answered/REFUSED), queries forwarded, closed) is the same for every way of cutting
    the same byte stream into non-empty segments. -/
theorem segmentation_irrelevant (max : Nat) (segs : List Bytes)
    (h : caseOk ⟨max, false, segs.map Op.seg⟩ = true) :
    Framing.spec max segs.flatten (modelObs ⟨max, false, segs.map Op.seg⟩) = true := by
  have := model_meets_spec ⟨max, false, segs.map Op.seg⟩ h
  simp only [Framing.spec, Gnet.spec] at this ⊢
  rw [← expected_segs max false false segs]
  exact this

/-! ## several connections on one gnet listener -/

/-- ★ `admission_own_history`: for ALL interleavings of the events of any number of connections
    (accepts, segments, peers going away with queries still at the upstream, replies coming back in any
    order, also after the connection is gone) the state of connection `k` — its in-flight counter, hence
    every admission decision (REFUSED iff ITS OWN in-flight ≥ max), its log and its writes — is a function of
    `k`'s own events only: it equals the run of those events alone. (In the code: `OnOpen` allocates a fresh
    `connCtx`, pinned; nothing of another connection can reach it.) -/
theorem admission_own_history (dec : Bytes → Bool) (max : Nat) (ops : List GnetMulti.MOp) (k : Nat) :
    GnetMulti.mrun dec max ops (fun _ => {}) k = GnetMulti.lrun dec max (GnetMulti.proj k ops) {} :=
  GnetMulti.mrun_proj dec max ops _ k

/-- corollary: events of other connections can be added, removed or reordered at will without changing
    what connection `k` does. -/
theorem other_connections_irrelevant (dec : Bytes → Bool) (max : Nat) (ops ops' : List GnetMulti.MOp) (k : Nat)
    (h : GnetMulti.proj k ops = GnetMulti.proj k ops') :
    GnetMulti.mrun dec max ops (fun _ => {}) k = GnetMulti.mrun dec max ops' (fun _ => {}) k := by
  rw [admission_own_history, admission_own_history, h]

/-- ★ every connection of a multi-connection history refines its own reference run (stream parser +
    its own admission counter; replies after `OnClose` are never written), and the model meets the
    executable specification that judges the implementation per connection. -/
theorem multi_model_meets_spec (c : GnetMulti.MCase) (h : GnetMulti.caseOk c = true) :
    GnetMulti.spec c (GnetMulti.modelObs c) = true := by
  simp only [GnetMulti.spec, GnetMulti.modelObs, List.length_map, List.length_range, beq_self_eq_true,
    Bool.true_and, List.all_eq_true, List.mem_range]
  intro i hi
  simp only [List.getElem?_map, List.getElem?_range hi, Option.map_some]
  simp only [GnetMulti.caseOk, List.all_eq_true, List.mem_range] at h
  have hk := h i hi
  have hs := GnetMulti.msim_drain
    (GnetMulti.msim_run decB c.max (GnetMulti.proj (i + 1) c.ops) {} {} GnetMulti.msim_init hk)
  have : GnetMulti.cobsOf (GnetMulti.mdrain (GnetMulti.mrun decB c.max c.ops (fun _ => {}) (i + 1))) =
      GnetMulti.expectedOf c (i + 1) := by
    rw [GnetMulti.mrun_proj]
    exact GnetMulti.cobs_of_msim hs
  simp [GnetMulti.specConn, this]

/-- the multi-connection specification is not vacuous: limit 1, connection 1 has one query at the upstream
    and its peer goes away, connection 2 is accepted and gets one query in flight, connection 1's late reply
    comes back, then connection 2's second query MUST be REFUSED (its own in-flight is still 1). -/
example :
    let q1 : Bytes := 0 :: 1 :: 1 :: List.replicate 14 0
    let q2 : Bytes := 0 :: 2 :: 1 :: List.replicate 14 0
    let q3 : Bytes := 0 :: 3 :: 1 :: List.replicate 14 0
    let s := GnetMulti.mrun decB 1
      [⟨1, .opn⟩, ⟨1, .seg (frame q1)⟩, ⟨1, .cls⟩, ⟨2, .opn⟩, ⟨2, .seg (frame q2)⟩, ⟨1, .rel 0⟩,
       ⟨2, .seg (frame q3)⟩] (fun _ => {})
    (s 2).c.log = [.query q2, .refused q3] ∧ (s 1).late = 1 ∧ (s 1).c.writes = [] := by
  decide

/-! ## the goroutine listener (tcp, DoT): blocking reader -/

/-- `tcp_run_prefix`: with an incomplete frame at the end of the stream the frames before it are
    decoded and the loop ends with `ReadMsgFromTCP`'s error after `tail.length` octets. -/
theorem tcp_run_prefix (dec : Bytes → Bool) (max : Nat) (done : Nat → Nat) (lim : Nat → Bool)
    (frames : List Bytes) (tail : Bytes) (chunks : List Bytes)
    (hlen : ∀ f ∈ frames, f.length < 65536) (hdec : ∀ f ∈ frames, dec f = true)
    (htail : Incomplete tail)
    (hcat : chunks.flatten = frames.flatMap frame ++ tail) :
    let r := Framing.handleConn dec max done lim (chunks.flatten.length + 1) 0 chunks 0
    r.1.map Event.body = frames ∧ r.2 = .closed tail.length := by
  intro r
  -- `r` is the `let`-bound outcome of the statement
  have hr : r = (_, _) := Framing.handleConn_stream dec max done lim chunks
  rw [hr, Framing.admissionS_bodies, Framing.endOf, hcat, parse_frames frames tail hlen htail,
    List.all_eq_true.mpr hdec]
  exact ⟨takeWhile_of_all dec frames (List.all_eq_true.mpr hdec), rfl⟩

/-- ★ `tcp_frames`: for ALL frame lists (bodies up to 65535 octets, decodable) and ALL chunkings of their
    concatenation (whatever `Read` returns), every completion schedule and limiter behaviour, `handleConn`
    decodes exactly the frames, once each, in order, and then sees a clean EOF on a frame boundary. -/
theorem tcp_frames (dec : Bytes → Bool) (max : Nat) (done : Nat → Nat) (lim : Nat → Bool)
    (frames : List Bytes) (chunks : List Bytes)
    (hlen : ∀ f ∈ frames, f.length < 65536) (hdec : ∀ f ∈ frames, dec f = true)
    (hcat : chunks.flatten = frames.flatMap frame) :
    let r := Framing.handleConn dec max done lim (chunks.flatten.length + 1) 0 chunks 0
    r.1.map Event.body = frames ∧ r.2 = .closed 0 :=
  tcp_run_prefix dec max done lim frames [] chunks hlen hdec (Or.inl (by decide))
    (by rw [hcat, List.append_nil])

/-- ★ the blocking reader refines the reference parser for every byte stream and chunking (no
    hypothesis on the stream at all: zero-length frames reach `UnpackMsg` as empty bodies). -/
theorem tcp_refines_parse (dec : Bytes → Bool) (max : Nat) (done : Nat → Nat) (lim : Nat → Bool)
    (chunks : List Bytes) :
    let r := Framing.handleConn dec max done lim (chunks.flatten.length + 1) 0 chunks 0
    r.1.map Event.body = (parse chunks.flatten).1.takeWhile dec ∧ r.2 = Framing.endOf dec chunks.flatten := by
  intro r
  -- `r` is the `let`-bound outcome of the statement
  have hr : r = (_, _) := Framing.handleConn_stream dec max done lim chunks
  rw [hr, Framing.admissionS_bodies]
  exact ⟨rfl, rfl⟩

/-- ★ the goroutine listener's model satisfies the executable specification (queries held until the
    stream is read, limiter open): for every limit and every chunking. -/
theorem tcp_model_meets_spec (max : Nat) (chunks : List Bytes) :
    Framing.spec max chunks.flatten (Framing.tcpObs max chunks) = true := by
  have : Framing.tcpObs max chunks = expected ⟨max, false, [Op.seg chunks.flatten]⟩ := by
    rw [Framing.tcpObs, Framing.handleConn_stream, Framing.admissionS_nodone, Framing.endOf_invalid]
    -- one reference step from the empty state, drained: the same events, writes and closed flag
    rfl
  simp [Framing.spec, Gnet.spec, this]

/-- ★ the goroutine listener's model satisfies the executable specification for EVERY completion
    schedule (how many handlers finish while each message is read), every limit and every chunking:
    a query is REFUSED iff `max` handlers are running when it is decoded, none is dropped. -/
theorem tcp_model_meets_spec_sched (max : Nat) (done : Nat → Nat) (chunks : List Bytes) :
    Framing.specS max done chunks.flatten (Framing.tcpObsS max done chunks) = true := by
  have : Framing.tcpObsS max done chunks = Framing.expectedS max done chunks.flatten := by
    rw [Framing.tcpObsS, Framing.handleConn_stream, Framing.endOf_invalid]
    rfl
  simp [Framing.specS, this]

/-- ★ ping-pong (the client waits for each response before it sends the next query; limit ≥ 1): the
    goroutine listener's model answers every decodable frame through the upstream and refuses none,
    for every chunking and ANY number of queries (also more than the limit). -/
theorem tcp_pingpong_meets_spec (max : Nat) (hmax : 1 ≤ max) (chunks : List Bytes) :
    Framing.ppSpec chunks.flatten (Framing.tcpObsPP max chunks) = true := by
  have : Framing.tcpObsPP max chunks = Framing.ppExpected chunks.flatten := by
    rw [Framing.tcpObsPP, Framing.handleConn_stream, Framing.endOf_invalid,
      Framing.admissionS_pingpong max hmax _ 0 0 (Nat.zero_le 1)]
    rfl
  simp [Framing.ppSpec, this]

/-- over the limit (or when the limiter objects) the goroutine listener answers REFUSED — the query
    is not dropped: it is the head of the event list. -/
theorem tcp_over_limit_refused (dec : Bytes → Bool) (max : Nat) (done : Nat → Nat) (lim : Nat → Bool)
    (fuel i : Nat) (cs rest : Framing.Chunks) (running : Nat) (body : Bytes)
    (hr : Framing.readMsgFromTCP dec cs = .msg body rest)
    (hover : running - done i + 1 > max ∨ lim i = true) :
    ∃ evs e, Framing.handleConn dec max done lim (fuel + 1) i cs running = (.refused body :: evs, e) := by
  have : (decide (running - done i + 1 > max) || lim i) = true := by
    rcases hover with h | h <;> simp [h]
  rw [Framing.handleConn, hr]
  simp only [this, if_true]
  exact ⟨_, _, rfl⟩

/-! ## timed segmentation: the idle deadline -/

/-- ★ `idle_never_fires` (tcp, DoT): because the read deadline is re-armed at the top of EVERY pass of
    `handleConn`'s loop (pinned), for every timing of the stream — however it is cut into segments and however
    long the pauses add up to — in which each message is complete no later than `idle` after the previous one
    was (the first one after the accept), and for any dispatch/scheduling delays `lag`, the deadline never
    fires: every message is read. -/
theorem idle_never_fires (idle : Nat) (lag : Nat → Nat) (t0 : Nat) (arr : List Nat)
    (h : Framing.paced idle t0 arr) : Framing.idleLoop idle lag 0 t0 arr = arr.length :=
  Framing.idleLoop_paced idle lag arr 0 t0 t0 (Nat.le_refl _) h

/-- ★ gnet: the idle timer is reset on every segment (pinned), so a connection on which every pause between
    segments is shorter than `idle` is never closed by it, whatever the pauses add up to. -/
theorem gnet_idle_never_fires (idle t0 : Nat) (ts : List Nat) (h : Framing.gapsBelow idle t0 ts) :
    Framing.gnetIdle idle t0 ts = ts.length :=
  Framing.gnetIdle_gaps idle ts t0 t0 (Nat.le_refl _) h

/-- ★ `waiting_client_never_closed` (tcp, DoT, after the fix "a connection with queries in flight is not idle"):
    for every timing, every behaviour `busy` of the handlers and any scheduling delays, a client that for each
    query either keeps the pace or — while answers are still outstanding during the whole wait — sends the
    query in one piece whenever it likes (also after many times the idle timeout) has every query read: the
    deadline firing with `n == 0` and queries in flight only re-arms. -/
theorem waiting_client_never_closed (idle : Nat) (hidle : 1 ≤ idle) (busy : Nat → Bool) (lag : Nat → Nat)
    (t0 : Nat) (arr : List Nat) (h : Framing.pacedB idle busy t0 arr) :
    Framing.idleLoopB idle busy lag (Framing.fuelFor t0 arr) 0 t0 (arr.map (fun a => (a, a))) = arr.length :=
  Framing.idleLoopB_pacedB idle hidle busy lag _ arr 0 t0 t0 (Nat.le_refl _) h (Nat.le_refl _)

/-- ★ a partial message still times out (`n > 0`): if some of its octets are there when the deadline passes
    and the rest is not, the connection is closed, queries in flight or not. -/
theorem partial_frame_times_out (idle : Nat) (busy : Nat → Bool) (lag : Nat → Nat) (fuel j now p a : Nat)
    (as : List (Nat × Nat)) (hp : p ≤ now + idle) (ha : now + idle < a) :
    Framing.idleLoopB idle busy lag (fuel + 1) j now ((p, a) :: as) = 0 :=
  Framing.idleLoopB_partial idle busy lag fuel j now p a as hp ha

/-- ★ gnet: the timer callback re-arms while queries are in flight, so a connection whose every pause is
    shorter than `idle` OR covered by outstanding answers is never closed by it. -/
theorem gnet_waiting_never_closed (idle : Nat) (hidle : 1 ≤ idle) (busy : Nat → Bool) (t0 : Nat) (ts : List Nat)
    (h : Framing.gapsBelowB idle busy t0 ts) :
    Framing.gnetIdleB idle busy (Framing.fuelFor t0 ts) t0 ts = ts.length :=
  Framing.gnetIdleB_gaps idle hidle busy _ ts t0 t0 (Nat.le_refl _) h (Nat.le_refl _)

/-- the harness' slow-upstream script (idle 1000: query 1 at 100, answered at 1400; query 2 in one piece at
    1600) is inside `pacedB` although 1600 > 100 + 1000; without the `continue` branch (`busy` never true) the
    second query is lost. -/
example : Framing.idleLoopB 1000 (fun t => decide (t < 1400)) (fun _ => 0) 10 0 0 [(100, 100), (1600, 1600)] = 2 := by
  decide
example : Framing.idleLoopB 1000 (fun _ => false) (fun _ => 0) 10 0 0 [(100, 100), (1600, 1600)] = 1 := by decide

/-- the hypothesis of `idle_never_fires` is about whole messages, and necessarily so: one message whose
    two halves arrive at 600 and 1200 (no pause reaches idle = 1000) is NOT read — the code arms one absolute
    deadline per message. (A legal behaviour of the code; the timed scripts of the harness stay inside `paced`.) -/
example : Framing.idleLoop 1000 (fun _ => 0) 0 0 [1200] = 0 := by decide
example : Framing.paced 1000 0 [100, 750, 1350] ∧ Framing.idleLoop 1000 (fun _ => 0) 0 0 [100, 750, 1350] = 3 :=
  ⟨by simp [Framing.paced], by decide⟩

/-- what the pin on "SetReadDeadline directly before ReadMsgFromTCP, unconditionally" guards against: with the
    deadline re-armed only when the read buffer is empty, the same paced timing (query 1 at 100, quiet, one
    segment with query 2 and the start of query 3 at 750, the rest at 1350) loses query 3. -/
example : Framing.idleLoopGuarded 1000 1000 0 [(100, false), (750, false), (1350, true)] = 2 := by decide

/-! ## response framing -/

/-- ★ `resp_frame_prefix`: the buffer `packRespTCP` hands to the single `Write`/`AsyncWrite` starts with
    the big-endian length of the rest, the rest is the packed message, and it is at most 65535 octets. -/
theorem resp_frame_prefix (body : Bytes) (h : body.length ≤ 65535) :
    (Framing.packRespTCP body).take 2 = be16 ((Framing.packRespTCP body).length - 2) ∧
    (Framing.packRespTCP body).drop 2 = body ∧
    (Framing.packRespTCP body).length - 2 ≤ 65535 ∧
    (∀ a b rest, Framing.packRespTCP body = a :: b :: rest → rd16 a b = rest.length) := by
  refine ⟨by simp [Framing.packRespTCP, be16], by simp [Framing.packRespTCP, be16],
    by simp [Framing.packRespTCP, be16]; omega, ?_⟩
  intro a b rest hab
  cases hab
  exact rd16_be16 _ (by omega)

/-- ★ responses never mix: a client that reads the concatenation of the buffers written (one `Write`
    per response, in whatever order the handlers completed) re-frames it into exactly those responses. -/
theorem responses_reframe (resps : List Bytes) (h : ∀ r ∈ resps, r.length ≤ 65535) :
    parse (resps.map Framing.packRespTCP).flatten = (resps, []) := by
  have := parse_frames resps [] (fun f hf => by have := h f hf; omega) (Or.inl (by simp))
  rw [show Framing.packRespTCP = frame from rfl]
  simpa [List.flatMap] using this

/-! ## non-vacuity -/

/-- the hypotheses of `gnet_frames` are satisfiable, with a cut inside the length prefix -/
example : ∃ (frames segs : List Bytes),
    (∀ f ∈ frames, 0 < f.length ∧ f.length < 65536) ∧ (∀ s ∈ segs, s ≠ []) ∧
    segs.flatten = frames.flatMap frame :=
  ⟨[[7], [8, 9]], [[0], [1, 7, 0], [2, 8, 9]], by decide, by decide, by decide⟩

/-- the specification is strict: it rejects an outcome in which a response is missing … -/
theorem spec_rejects_missing_response (c : Case) (o : Obs) (h : o.w.length < (expected c).w.length) :
    Gnet.spec c o = false := by
  have : (sortW o.w == sortW (expected c).w) = false := Bool.eq_false_iff.mpr fun hb => by
    have := congrArg List.length (eq_of_beq hb)
    simp only [sortW, List.length_mergeSort] at this
    omega
  simp [Gnet.spec, this]

/-- … and one in which the connection was (not) closed when it should (not) have been. -/
theorem spec_rejects_wrong_close (c : Case) (o : Obs) (h : o.closed ≠ (expected c).closed) :
    Gnet.spec c o = false := by
  have : (o.closed == (expected c).closed) = false := by simpa using h
  simp [Gnet.spec, this]

/-- `over_limit_refused` is not vacuous: limit 1, one handler running, idle connection, one frame. -/
example : (onTraffic (fun _ => true) 1 4 ⟨none, 0, false, 1⟩ [0, 1, 7]).evs = [.refused [7]] := by decide

/-- The restriction to frames of length ≥ 1 is necessary, and the model shows why: in the idle state a
    zero-length prefix makes `c.Next(0)` return EVERYTHING that is buffered, and `UnpackMsg` is applied to
    all of it — if that happens to decode, the octets after `00 00` are served as a query (with the same
    octets cut right after the prefix the empty buffer fails to decode and the connection is closed).
    Observed on the real `OnTraffic` as well (see the report); zero-length frames are C01's business. -/
theorem zero_length_frame_quirk (dec : Bytes → Bool) (rest : Bytes) (h : dec rest = true) :
    (onTraffic dec 1 1 ⟨none, 0, false, 0⟩ (0 :: 0 :: rest)).evs = [.query rest] ∧
    (parse (0 :: 0 :: rest)).1.head? = some [] := by
  have hz : rd16 0 0 = 0 := by decide
  constructor
  · have hb : next rest 0 = (rest, []) := next_all rest _ (Int.le_refl 0)
    simp [onTraffic, readOne, next_two, hz, hb, h, inboundBuffered]
  · rw [parse_complete 0 0 rest (by rw [hz]; omega), hz]
    rfl

/-! ## tie to the source -/

/-- pinned source facts the models were transcribed from -/
theorem pins :
    -- (the integer / boolean tests of `OnTraffic` and the admission test of `handleConn` are tied by translation:
    -- `Lemmas/TranslatedC13`, `readBody_translated`, `readOne_translated`, `onTraffic_translated`,
    -- `handleConn_translated`, `idleLoopB_translated`, `gnetIdleB_translated`; the pins below are calls, statement order, counts and nil tests)
    Facts.gnetfr_bufCond = "cc.buffer != nil" ∧
    Facts.gnetfr_nextHdrRemains = "b, _ := c.Next(hdrRemains)" ∧
    Facts.gnetfr_msgLen = "msgLen := binary.BigEndian.Uint16(cc.buffer)" ∧
    Facts.gnetfr_bodyBuf = "cc.buffer = pool.GetBuf(int(msgLen))" ∧
    Facts.gnetfr_nextBodyRemains = "b, _ := c.Next(bodyRemains)" ∧
    Facts.gnetfr_unpackBuf = "m, err = dnsmsg.UnpackMsg(cc.buffer)" ∧
    Facts.gnetfr_copyCount = 2 ∧
    Facts.gnetfr_nextHdr = "hdr, _ := c.Next(2)" ∧
    Facts.gnetfr_lenDecode = "l := int(binary.BigEndian.Uint16(hdr))" ∧
    Facts.gnetfr_nextBody = "body, _ := c.Next(l)" ∧
    Facts.gnetfr_unpackBody = "m, err = dnsmsg.UnpackMsg(body)" ∧
    Facts.gnetfr_errCond = "err != nil" ∧
    Facts.gnetfr_closeCount = 1 ∧
    Facts.gnetfr_ccrAdd = "ccr := cc.concurrentRequests.Add(1)" ∧
    Facts.gnetfr_refusedResp = "resp := mustHaveRespB(m, nil, dnsmsg.RCodeRefused, true, 0)" ∧
    Facts.gnetfr_write = "c.Write(resp)" ∧
    Facts.gnetfr_writeCount = 1 ∧
    Facts.gnetfr_asyncResp = "buf := mustHaveRespB(m, rc.Response.Msg, dnsmsg.RCodeRefused, true, 0)" ∧
    Facts.gnetfr_asyncWriteArg = "buf" ∧
    Facts.gnetfr_asyncWriteCount = 1 ∧
    Facts.gnetfr_decCount = 2 ∧
    Facts.gnetfr_gotoCount = 1 ∧
    Facts.gnetfr_defaultMax = 100 ∧
    Facts.gnetfr_defaultMaxUse = "maxConcurrent = defaultMaxConcurrentRequestPreTCPConn" ∧
    Facts.tcpfr_defaultMaxUse = "maxConcurrent = defaultMaxConcurrentRequestPreTCPConn" ∧
    Facts.tcpfr_read = "m, n, err := dnsutils.ReadMsgFromTCP(br)" ∧
    Facts.tcpfr_ccAdd = "cc := concurrent.Add(1)" ∧
    Facts.tcpfr_refusedResp = "resp := mustHaveRespB(m, nil, dnsmsg.RCodeRefused, true, 0)" ∧
    Facts.tcpfr_refusedWriteCount = 1 ∧
    Facts.tcpfr_decCount = 2 ∧
    Facts.tcpfr_respBuf = "buf := mustHaveRespB(m, rc.Response.Msg, dnsmsg.RCodeRefused, true, 0)" ∧
    Facts.tcpfr_respWrite = "_, err := c.Write(buf)" ∧
    Facts.tcpfr_respWriteCount = 1 ∧
    Facts.tcpfr_deadlineStmt = "c.SetReadDeadline(time.Now().Add(s.idleTimeout))" ∧
    Facts.tcpfr_deadlineCount = 1 ∧
    Facts.tcpfr_deadlineBeforeRead = 1 ∧
    Facts.tcpfr_bufferedCount = 0 ∧
    Facts.gnetfr_timerRearm = "cc.idleTimer.Reset(e.idleTimeout)" ∧
    Facts.gnetfr_timerClose = "c.Close()" ∧
    Facts.tcpfr_idleFromCfg = "idleTimeout := time.Duration(cfg.IdleTimeout) * time.Second" ∧
    Facts.tcpfr_idleDefault = 10000000000 ∧
    Facts.gnetfr_idleReset = "cc.idleTimer.Reset(e.idleTimeout)" ∧
    Facts.gnetfr_idleResetFirst = 2 ∧
    Facts.gnetfr_idleTimerArg = "e.idleTimeout" ∧
    Facts.gnetfr_freshCtx =
      "cc := &connCtx{ remoteAddr: netAddr2NetipAddr(c.RemoteAddr()), localAddr: netAddr2NetipAddr(c.LocalAddr()), }" ∧
    Facts.gnetfr_setCtx = "c.SetContext(cc)" ∧
    Facts.gnetfr_openPoolGets = 0 ∧
    Facts.gnetfr_closePoolPuts = 0 ∧
    Facts.gnetfr_closeCtx = "cc := c.Context().(*connCtx)" ∧
    Facts.tcpfr_hdrBuf = "hdrBuf := pool.GetBuf(2)" ∧
    Facts.tcpfr_readFullHdr = "nr, err := io.ReadFull(c, hdrBuf)" ∧
    Facts.tcpfr_length = "length := binary.BigEndian.Uint16(hdrBuf)" ∧
    Facts.tcpfr_msgBuf = "msgBuf := pool.GetBuf(int(length))" ∧
    Facts.tcpfr_readFullBody = "nr, err = io.ReadFull(c, msgBuf)" ∧
    Facts.packtcp_getBuf = "b := pool.GetBuf(2 + m.Len())" ∧
    Facts.packtcp_pack = "n, err := m.Pack(b[2:], compression, 65535)" ∧
    Facts.packtcp_prefix = "binary.BigEndian.PutUint16(b, uint16(n))" ∧
    Facts.packtcp_trim = "b = b[:2+n]" ∧
    Facts.packtcp_mustTcp = 2 := by
  -- splits the conjunction; each equation is closed by `Eq.refl`
  repeat' constructor

end MosVerif.C13
