/-
  C09 — Responses respect the transport size limit and truncate well-formedly.

  Model: `packMsg m compression size cap` (Model/Pack.lean: floor 512, `PopEDNS0` swap-remove,
  budget = limit − OPT size, per-element skip with `continue`, OPT re-appended last, header with
  TC and the reduced counts written last) and the router's wrappers (Model/RespIO.lean).
  All theorems: ALL messages, ALL limits, compression on and off.

  Notation: `effSize size` = the limit after the floor (`max 512 size` for `size > 0`),
  `popped m size = (edns0Opt, additionals after PopEDNS0)`, `keptMsg m c size` = the sub-message the
  loops retain (explicitly computed), OPT re-appended last, `Truncated` or-ed with "something skipped".

  Every proof starts from `packMsg_ok_iff` (Lemmas/CodecTruncMsg): a successful `Msg.Pack` is a `Run`,
  the states between the section loops and the numbers of skipped elements; `keptMsg`, the output
  and the bounds are read off the run (Lemmas/CodecTruncProps).
-/
-- the first two imports bring the translation theorems into what this module's audit covers; no line below names them
import MosVerif.Lemmas.TranslatedC09
import MosVerif.Lemmas.TranslatedEncRR2
import MosVerif.Lemmas.CodecTruncProps
import MosVerif.Model.RespIO
namespace MosVerif.C09
open MosVerif.Wire

/-- the limit the loops work with -/
theorem effSize_spec (size : Nat) : effSize 0 = 0 ∧ (0 < size → effSize size = max 512 size) :=
  ⟨effSize_zero, effSize_eq_max⟩

/-- A size-limited `Msg.Pack` that succeeds writes exactly the bytes of the
    unlimited `Msg.Pack` of the retained sub-message — TC set iff something was skipped, counts =
    what is present.  No well-formedness hypothesis. This reduces everything below to C02. -/
theorem trunc_is_pack_of_kept (m : Msg) (c : Bool) (size cap : Nat) (out : Bytes)
    (h : packMsg m c size cap = .ok out) : packMsg (keptMsg m c size) c 0 cap = .ok out := by
  obtain ⟨hcnt, hcap, r, rfl, hlen⟩ := packMsg_ok_iff.1 h
  obtain ⟨l1, l2, l3, l4⟩ := r.counts
  have hk := r.keptMsg_eq
  -- the run of the unlimited pack: the same states, the kept lists packed whole, the OPT record as last additional
  let r' : Run (keptMsg m c size) c 0 :=
    { s1 := r.s1, s2 := r.s2, s3 := r.s3, s4 := r.s5, s5 := r.s5, kq := 0, ka := 0, kn := 0, kx := 0
      questions := by rw [hk]; exact (questionsLoop.ok_kept r.questions).1
      answers := by rw [hk]; exact (resourcesLoop.ok_kept r.answers).1
      authorities := by rw [hk]; exact (resourcesLoop.ok_kept r.authorities).1
      additionals := by
        rw [hk]
        show packResourcesLoop none (keptR _ _ r.s3 ++ _) r.s3 = _
        rw [resourcesLoop.none_append, (resourcesLoop.ok_kept r.additionals).1]
        exact packOpt_eq_loop r.opt
      opt := rfl }
  have e : r'.out = r.out := by
    have hid : (keptMsg m c size).hdr.id = m.hdr.id := by rw [hk]
    have hb : bitsOfHeader (keptMsg m c size).hdr =
        if r.skipped > 0 then Nat.lor (bitsOfHeader m.hdr) headerBitTC else bitsOfHeader m.hdr := by
      rw [hk]
      exact bitsOfHeader_or_tc _ _
    show msgBytes (keptMsg m c size) 0 0 0 0 r.s5.body = msgBytes m r.kq r.ka r.kn r.kx r.s5.body
    rw [msgBytes, msgBytes, if_neg (Nat.lt_irrefl 0), hid, hb, Nat.sub_zero, Nat.sub_zero, Nat.sub_zero, Nat.sub_zero,
      Nat.eq_sub_of_add_eq' l1, Nat.eq_sub_of_add_eq' l2, Nat.eq_sub_of_add_eq' l3, Nat.eq_sub_of_add_eq' l4]
    rfl
  exact packMsg_ok_iff.2 ⟨by unfold countsOK at *; omega, hcap, r', e, hlen⟩

/-- ★ The output of a size-limited pack of a well-formed message decodes
    cleanly (the section counts equal the records actually present) to the retained sub-message. -/
theorem counts_match_present (m : Msg) (c : Bool) (size cap : Nat) (hm : msgWF m = true) (out : Bytes)
    (h : packMsg m c size cap = .ok out) : unpackMsg out = .ok (keptMsg m c size) := by
  obtain ⟨_, _, r, _⟩ := packMsg_ok_iff.1 h
  obtain ⟨bs, hb, _, _, hdec, _⟩ := packMsg_roundtrip (keptMsg m c size) c (r.keptMsg_wf hm)
  rw [packMsg_cap_indep (trunc_is_pack_of_kept m c size cap out h) hb]
  exact hdec

/-- "something was omitted": some section of `k` is shorter than in `m` -/
def dropped (m k : Msg) : Bool :=
  decide (k.questions.length < m.questions.length ∨ k.answers.length < m.answers.length ∨
    k.authorities.length < m.authorities.length ∨ k.additionals.length < m.additionals.length)

/-- ★ The decoded output carries the original header with TC set iff it was
    already set or a question/record was omitted; every other header field is unchanged. -/
theorem tc_iff_dropped (m : Msg) (c : Bool) (size cap : Nat) (hm : msgWF m = true) (out : Bytes)
    (h : packMsg m c size cap = .ok out) :
    ∃ k, unpackMsg out = .ok k ∧
      k.hdr = { m.hdr with truncated := m.hdr.truncated || dropped m k } := by
  refine ⟨keptMsg m c size, counts_match_present m c size cap hm out h, ?_⟩
  obtain ⟨_, _, r, _⟩ := packMsg_ok_iff.1 h
  obtain ⟨l1, l2, l3, l4⟩ := r.counts
  -- `l1 … l4` give each original length as `skipped + kept`, so after rewriting with them "the section got shorter"
  -- reads `kept < k + kept`, i.e. `0 < k`; and a sum is positive iff a summand is
  have : decide (r.skipped > 0) = dropped m (keptMsg m c size) :=
    decide_eq_decide.2 (by
      rw [← l1, ← l2, ← l3, ← l4]
      simp only [Run.skipped, gt_iff_lt, Nat.lt_add_left_iff_pos, Nat.add_pos_iff_pos_or_pos, or_assoc])
  rw [← this, r.keptMsg_eq]

/-- ★ The kept questions, answers and authorities are sub-lists of the originals
    (same records, unmodified, original relative order); the additionals are a sub-list of the
    (swap-removed) additionals followed by the OPT record. -/
theorem kept_sublist (m : Msg) (c : Bool) (size cap : Nat) (out : Bytes) (h : packMsg m c size cap = .ok out) :
    (keptMsg m c size).questions.Sublist m.questions ∧ (keptMsg m c size).answers.Sublist m.answers ∧
    (keptMsg m c size).authorities.Sublist m.authorities ∧
    ∃ kx, (keptMsg m c size).additionals = kx ++ (popped m size).1.toList ∧ kx.Sublist (popped m size).2 := by
  obtain ⟨_, _, r, _⟩ := packMsg_ok_iff.1 h
  rw [r.keptMsg_eq]
  exact ⟨questionsLoop.kept_sublist _ _ _, resourcesLoop.kept_sublist _ _ _, resourcesLoop.kept_sublist _ _ _,
    _, rfl, resourcesLoop.kept_sublist _ _ _⟩

/-- General size bound: whenever a budget is in force (`limitOf = some L`), the output is at most
    `max L 12` plus the OPT record. -/
theorem size_le_general (m : Msg) (c : Bool) (size cap : Nat) (hm : msgWF m = true) (out : Bytes)
    (h : packMsg m c size cap = .ok out) (L : Nat) (hL : limitOf m size = some L) :
    out.length ≤ max L 12 + ((popped m size).1.toList.map resourcePackLen).sum := by
  obtain ⟨_, _, r, rfl, _⟩ := packMsg_ok_iff.1 h
  rw [Nat.max_comm]
  exact (r.within_budget hm hL).1

/-- the hypotheses on the OPT record below, read as a bound on the octets it takes (none if absent) -/
theorem optLen_le {o : Option Resource} {b : Nat} (h : ∀ x, o = some x → resourcePackLen x ≤ b) :
    (o.toList.map resourcePackLen).sum ≤ b := by
  cases o with
  | none => exact Nat.zero_le b
  | some x =>
    rw [Option.toList_some, List.map_singleton, List.sum_singleton]
    exact h x rfl

/-- ★ With a limit `size > 0` the output never exceeds `max 512 size`, provided the OPT
    record alone leaves room for the header (`OPT + 12 ≤ limit`; the router's OPT has 11 octets). -/
theorem size_le (m : Msg) (c : Bool) (size cap : Nat) (hm : msgWF m = true) (hpos : 0 < size) (out : Bytes)
    (hopt : ∀ o, (popped m size).1 = some o → resourcePackLen o + 12 ≤ max 512 size)
    (h : packMsg m c size cap = .ok out) : out.length ≤ max 512 size := by
  have he := effSize_eq_max hpos
  have h512 : 512 ≤ max 512 size := Nat.le_max_left _ _
  generalize max 512 size = M at he hopt h512 ⊢
  cases hL : limitOf m size with
  | none =>
    rcases limitOf_eq_none hL with h0 | ⟨o, ho, hge⟩
    · omega
    · have := hopt o ho
      omega
  | some L =>
    have := size_le_general m c size cap hm out h L hL
    have := (limitOf_eq_some hL).2
    have := optLen_le (b := M - 12) fun o ho => Nat.le_sub_of_add_le (hopt o ho)
    omega

/-- ★ If the uncompressed encoding already fits the limit, nothing is omitted and
    TC is not added — the retained message is the original, its additionals as `PopEDNS0` leaves them
    (the last record in the OPT record's place) followed by the OPT record. -/
theorem fits_untouched (m : Msg) (c : Bool) (size cap : Nat) (hm : msgWF m = true) (out : Bytes)
    (hfit : msgLen m ≤ effSize size) (h : packMsg m c size cap = .ok out) :
    keptMsg m c size = { m with additionals := (popped m size).2 ++ (popped m size).1.toList } := by
  obtain ⟨_, _, r, _⟩ := packMsg_ok_iff.1 h
  apply r.keptMsg_of_skipped_zero
  cases hL : limitOf m size with
  | none => exact r.skipped_of_no_limit hL
  | some L =>
    have := popped_sum m size resourcePackLen
    have := (limitOf_eq_some hL).2
    unfold msgLen at hfit
    exact (r.within_budget hm hL).2 (by omega)

/-- ★ A response with at most one question keeps it, and the OPT record is
    retained (as the last additional), provided the OPT record has at most 241 octets (so that
    header + a maximal question + OPT fit in 512). -/
theorem question_and_opt_kept (m : Msg) (c : Bool) (size cap : Nat) (out : Bytes)
    (hq1 : m.questions.length ≤ 1) (hopt : ∀ o, (popped m size).1 = some o → resourcePackLen o ≤ 241)
    (h : packMsg m c size cap = .ok out) :
    (keptMsg m c size).questions = m.questions ∧
    ∀ o, (popped m size).1 = some o → (keptMsg m c size).additionals.getLast? = some o := by
  obtain ⟨_, _, r, _⟩ := packMsg_ok_iff.1 h
  rw [r.keptMsg_eq]
  refine ⟨?_, fun o ho => by simp [ho]⟩
  show keptQ (limitOf m size) m.questions (initState c) = m.questions
  match hqs : m.questions with
  | [] => rfl
  | [q] =>
    apply questionsLoop.kept_singleton
    cases hL : limitOf m size with
    | none => rfl
    | some L =>
      -- `L` + OPT is the limit, at least 512; a question has at most 255 + 4 octets
      obtain ⟨hpos, hsum⟩ := limitOf_eq_some hL
      have := effSize_pos_ge (size := size) (by omega)
      have := optLen_le hopt
      have := namePackLen_le q.name
      rw [Bool.eq_false_iff, ne_eq, skips_some]
      show ¬ L < 12 + 0 + (namePackLen q.name + 4)
      omega
  | _ :: _ :: _ => rw [hqs] at hq1; simp at hq1

/-- `opt_ge_size_unbounded` (the honest corner): if the OPT record alone is at least as large as
    the limit, `size -= opt.packLen()` drops to ≤ 0, which the loops read as "no limit": nothing
    is omitted, whatever the size. -/
theorem opt_ge_size_unbounded (m : Msg) (c : Bool) (size cap : Nat) (out : Bytes) (o : Resource)
    (ho : (popped m size).1 = some o) (hge : effSize size ≤ resourcePackLen o)
    (h : packMsg m c size cap = .ok out) :
    limitOf m size = none ∧ (keptMsg m c size).questions = m.questions ∧
    (keptMsg m c size).answers = m.answers ∧ (keptMsg m c size).authorities = m.authorities ∧
    (keptMsg m c size).additionals = (popped m size).2 ++ [o] := by
  have hL : limitOf m size = none := by
    cases hL : limitOf m size with
    | none => rfl
    | some L =>
      have := limitOf_eq_some hL
      rw [ho, Option.toList_some, List.map_singleton, List.sum_singleton] at this
      omega
  obtain ⟨_, _, r, _⟩ := packMsg_ok_iff.1 h
  rw [r.keptMsg_of_skipped_zero (r.skipped_of_no_limit hL), ho]
  exact ⟨hL, rfl, rfl, rfl, rfl⟩

/-- the OPT record the router itself builds (`newEDNS0`: root owner, empty RDATA) has 11 octets,
    so the budget hypotheses of `size_le` (≤ 500) and `question_and_opt_kept` (≤ 241) hold for it -/
theorem router_opt_is_11 (o : Resource) (hn : o.name = []) (hd : o.rdata = .raw []) : resourcePackLen o = 11 := by
  rw [resourcePackLen, hn, hd]
  rfl

/-! ### the router's wrappers -/

theorem packResp_eq (m : Msg) (c : Bool) (size : Nat) :
    packResp m c size = packMsg m c (min size 65535) (msgLen m) := by
  have : (if size > respCap then respCap else size) = min size 65535 := by
    rw [Nat.min_def, show respCap = 65535 from rfl]
    by_cases h : size ≤ 65535
    · rw [if_pos h, if_neg (Nat.not_lt.2 h)]
    · rw [if_neg h, if_pos (Nat.lt_of_not_le h)]
  exact congrArg (packMsg m c · (msgLen m)) this

/-- ★ `packResp` (UDP, DoH): at most `max 512 (min size 65535)` octets for `size > 0`;
    in particular a DoH body (`size = 65535`) never exceeds 65535 octets. -/
theorem packResp_le (m : Msg) (c : Bool) (size : Nat) (hm : msgWF m = true) (hpos : 0 < size) (out : Bytes)
    (hopt : ∀ o, (popped m (min size 65535)).1 = some o → resourcePackLen o + 12 ≤ max 512 (min size 65535))
    (h : packResp m c size = .ok out) : out.length ≤ max 512 (min size 65535) :=
  size_le m c (min size 65535) (msgLen m) hm (by omega) out hopt (packResp_eq m c size ▸ h)

/-- ★ `packRespTCP` (TCP, DoT, DoQ): the frame is a 2-octet prefix holding exactly the body
    length, and the body never exceeds 65535 octets. -/
theorem packRespTCP_frame (m : Msg) (c : Bool) (hm : msgWF m = true) (out : Bytes)
    (hopt : ∀ o, (popped m 65535).1 = some o → resourcePackLen o + 12 ≤ 65535)
    (h : packRespTCP m c = .ok out) :
    ∃ p0 p1 body, out = p0 :: p1 :: body ∧ be16 p0 p1 = body.length ∧ body.length ≤ 65535 ∧
      packMsg m c 65535 (msgLen m) = .ok body := by
  obtain ⟨body, hb, h2⟩ := Res.bind_eq_ok h
  have hle : body.length ≤ 65535 := size_le m c 65535 (msgLen m) hm (by omega) body hopt hb
  cases h2
  rw [Nat.mod_eq_of_lt (by omega)]
  exact ⟨_, _, body, rfl, be16_enc16 _ (by omega), hle, hb⟩

theorem udpClamp_eq (s : Nat) : udpClamp s = min 65507 (max 512 s) := by
  rw [udpClamp, show udpFloor = 512 from rfl, show udpMax = 65507 from rfl]
  split <;> split <;> omega

/-- ★ the UDP server's client limit is `min 65507 (max 512 (class of the query's OPT record))`. -/
theorem clientUdpSize_spec (q : Msg) :
    clientUdpSize q = min 65507 (max 512 (match queryOpt q with | some o => o.rclass | none => 0)) := by
  unfold clientUdpSize
  cases queryOpt q <;> exact udpClamp_eq _

/-- ★ end to end for UDP: the datagram never exceeds `max 512 (advertised size)` nor the largest UDP
    payload 65507, under the budget hypothesis on the response's OPT record. -/
theorem udp_response_le (q m : Msg) (hm : msgWF m = true) (out : Bytes)
    (hopt : ∀ o, (popped m (clientUdpSize q)).1 = some o → resourcePackLen o + 12 ≤ 512)
    (h : packResp m true (clientUdpSize q) = .ok out) :
    out.length ≤ clientUdpSize q ∧ clientUdpSize q ≤ 65507 ∧
    clientUdpSize q ≤ max 512 (match queryOpt q with | some o => o.rclass | none => 0) := by
  have hs := clientUdpSize_spec q
  have hge : 512 ≤ clientUdpSize q := hs ▸ Nat.le_min.2 ⟨by decide, Nat.le_max_left _ _⟩
  have hle : clientUdpSize q ≤ 65507 := hs ▸ Nat.min_le_left _ _
  have hmin : min (clientUdpSize q) 65535 = clientUdpSize q := Nat.min_eq_left (Nat.le_trans hle (by decide))
  have := packResp_le m true _ hm (Nat.lt_of_lt_of_le (by decide) hge) out
    (by rw [hmin]; exact fun o ho => Nat.le_trans (hopt o ho) (Nat.le_max_left _ _)) h
  rw [hmin, Nat.max_eq_right hge] at this
  exact ⟨this, hle, hs ▸ Nat.min_le_right _ _⟩

/-! ### non-vacuity and the corner made concrete -/

/-- six records with 100 octets of RDATA each at limit 512 (the shape of defect D3, DESIGN.md §6) -/
def big (i : Nat) : Resource := ⟨[1, 116], 16, 1, 60, .raw (List.replicate 100 (UInt8.ofNat i))⟩
def exResp : Msg :=
  { hdr := ⟨7, true, 0, false, false, true, true, false, false, 0, false⟩
    questions := [⟨[1, 116], 16, 1⟩]
    answers := [big 1, big 2, big 3, big 4, big 5, big 6]
    authorities := []
    additionals := [⟨[], 41, 1232, 0, .raw []⟩, ⟨[1, 120], 1, 1, 5, .a [1, 2, 3, 4]⟩] }

example : msgWF exResp = true := by decide

set_option maxRecDepth 100000 in
/-- on it the limit 512 really drops records, sets TC, and keeps question, OPT and the small record -/
example : ∃ out, packMsg exResp true 512 (msgLen exResp) = .ok out ∧ out.length ≤ 512 ∧
    (keptMsg exResp true 512).hdr.truncated = true ∧
    (keptMsg exResp true 512).answers.length = 4 ∧
    (keptMsg exResp true 512).questions = exResp.questions ∧
    (keptMsg exResp true 512).additionals.length = 2 := by
  have h : (match packMsg exResp true 512 (msgLen exResp) with
      | .ok out => decide (out.length ≤ 512) | _ => false) = true := by decide
  split at h
  · next out hp => exact ⟨out, hp, of_decide_eq_true h, by decide⟩
  · cases h

/-- the corner: an OPT record of 531 octets at limit 512 — the limit is silently ignored and the
    datagram has more than 512 octets -/
def exCorner : Msg :=
  { hdr := ⟨7, true, 0, false, false, true, true, false, false, 0, false⟩
    questions := [⟨[1, 116], 16, 1⟩]
    answers := [⟨[1, 116], 1, 1, 60, .a [1, 2, 3, 4]⟩]
    authorities := []
    additionals := [⟨[], 41, 1232, 0, .raw (List.replicate 520 0)⟩] }

set_option maxRecDepth 100000 in
example : (match packMsg exCorner false 512 (msgLen exCorner) with
    | .ok out => decide (512 < out.length) | _ => false) = true := by decide

/-- tie: the constants and statements of `Msg.Pack`, `packResp`, `packRespTCP` and the UDP handler
    the model is written against. -/
theorem pins :
    Facts.pack_minSize = 512 ∧ Facts.pack_minSizeAssign = 512 ∧
    Facts.pack_continueCount = 4 ∧ Facts.pack_breakCount = 0 ∧ Facts.pack_tcCount = 4 ∧ Facts.pack_decCount = 4 ∧
    Facts.pack_hdrWritten = "h.pack(b[:12])" ∧
    Facts.resp_cap = 65535 ∧ Facts.resp_capAssign = 65535 ∧ Facts.resp_tcpSize = "65535" ∧
    Facts.resp_tcpPrefix = "binary.BigEndian.PutUint16(b, uint16(n))" ∧
    Facts.udp_fromOpt = "clientUdpSize = int(hdr.Class)" ∧ Facts.udp_fromOptInit = "hdr := queryOpt(m)" ∧
    Facts.udp_queryOpt = "{ for _, rs := range [...][]dnsmsg.Resource{m.Additionals, m.Authorities, m.Answers} { for _, rr := range rs { if hdr := rr.Hdr(); hdr.Type == dnsmsg.TypeOPT { return hdr } } } return nil }" ∧
    Facts.udp_packCall = "b := mustHaveRespB(m, rc.Response.Msg, dnsmsg.RCodeRefused, false, clientUdpSize)" :=
  ⟨rfl, rfl, rfl, rfl, rfl, rfl, rfl, rfl, rfl, rfl, rfl, rfl, rfl, rfl, rfl⟩

end MosVerif.C09
