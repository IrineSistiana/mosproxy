/-
  C03 — Every query gets exactly one matching response whatever the upstream does (handler level).
  `Router.handle` is a total function of the query, the configuration and the upstream outcomes:
  for every decodable query there is exactly one response value, on every path.  The theorems below fix
  its header, question section and rcode.  That each listener writes this response exactly once, and
  the 6 s deadline, are observed by the listener-level correspondence runs (partial).
-/
import MosVerif.Lemmas.RouterSpecMain
-- the tie theorems of the property: imported so that they are checked with it
import MosVerif.Props.C03Pins
import MosVerif.Lemmas.TranslatedC03
namespace MosVerif.C03
open MosVerif.Wire MosVerif.Router

/-- the query is one the proxy serves: QR=0, RD=1, opcode QUERY, exactly one question -/
def supported (m : Msg) : Prop :=
  m.hdr.response = false ∧ m.hdr.rd = true ∧ m.hdr.opcode = 0 ∧ m.questions.length = 1

instance (m : Msg) : Decidable (supported m) := by unfold supported; infer_instance

theorem notImpl_of_not_supported {m : Msg} (h : ¬ supported m) : notImpl m = true :=
  Bool.of_not_eq_false (mt (notImpl_eq_false m).mp h)

/-- ★ Whatever the rules, the client address and the upstreams do, the response carries the query's
    ID and opcode, QR=1, RA=1 and the query's RD bit. -/
theorem resp_header (env : Env) (m : Msg) :
    let r := (handle env m).resp
    r.hdr.id = m.hdr.id ∧ r.hdr.opcode = m.hdr.opcode ∧ r.hdr.response = true ∧ r.hdr.ra = true ∧
      r.hdr.rd = m.hdr.rd :=
  ⟨rfl, rfl, rfl, rfl, rfl⟩

/-- ★ Unsupported queries (QR=1, RD=0, opcode ≠ QUERY, question count ≠ 1) get NOTIMP, and no
    upstream is contacted. -/
theorem unsupported_notimp (env : Env) (m : Msg) (h : ¬ supported m) :
    (handle env m).resp.hdr.rcode = rcodeNotImp ∧ (handle env m).forwards = [] := by
  obtain ⟨h1, h2⟩ := handle_notImpl env m (notImpl_of_not_supported h)
  rw [h1, h2]
  exact ⟨rfl, rfl⟩

/-- ★ The response has at most one question, and it equals the query's first question
    ASCII-case-insensitively (same type and class) — also when the upstream reply is relayed
    (a reply with a different or a second question is not relayed at all). -/
theorem question_ok (env : Env) (m : Msg) :
    let r := (handle env m).resp
    r.questions.length ≤ 1 ∧
    ∀ rq ∈ r.questions, ∃ q0, m.questions.head? = some q0 ∧ lowerName rq.name = lowerName q0.name ∧
      rq.qtype = q0.qtype ∧ rq.qclass = q0.qclass := by
  intro r
  cases hn : notImpl m with
  | true =>
    have hr : r.questions = m.questions.take 1 := by
      rw [show r = _ from (handle_notImpl env m hn).1]
      rfl
    rw [hr]
    cases m.questions with
    | nil => exact ⟨Nat.zero_le _, nofun⟩
    | cons q0 rest =>
      exact ⟨Nat.le_refl _, fun rq hrq => ⟨q0, rfl, by cases List.mem_singleton.mp hrq; exact ⟨rfl, rfl, rfl⟩⟩⟩
  | false =>
    obtain ⟨q0, hq0⟩ := List.length_eq_one_iff.mp ((notImpl_eq_false m).mp hn).2.2.2
    obtain ⟨rq, hrq, hname, htype, hclass⟩ := (handleReq_answer env (lowerQ q0)).questions
    have hr : r.questions = [rq] := by
      rw [show r = _ from (handle_impl env m q0 hn hq0).1, optFix_eq]
      exact hrq
    rw [hr, hq0]
    refine ⟨Nat.le_refl _, fun rq' h => ⟨q0, rfl, ?_⟩⟩
    cases List.mem_singleton.mp h
    exact ⟨hname.trans (lowerName_idem _), htype, hclass⟩

/-- ★ Upstream failure (error, time-out, undecodable or mismatching reply — everything the transport
    layer reports as a failed exchange, or a reply that does not answer this question) ⇒ SERVFAIL. -/
theorem upstream_failure_servfail (env : Env) (q : Question) (r : Rule) (u : Nat)
    (h : env.rules.find? (fun r => r.applies q.name) = some r) (hr : r.reject = 0) (hu : r.upstream = some u)
    (hf : ∀ resp, env.ups[u]? = some (.reply resp) → isRespOfQuestion resp q = false) :
    (handleReq env q).1.hdr.rcode = rcodeServFail := by
  rw [(first_match env q h).1]
  simp only [outcome, hr, Nat.lt_irrefl, ↓reduceIte, hu]
  split
  · rw [relay_fail hf]
    rfl
  · rfl

/-- The rcode of a relayed reply is the upstream's (error rcodes are answers, not failures): the reply is
    relayed as it is but for its OPT records (`dnsmsg.RemoveEDNS0`: every OPT of every section goes). -/
theorem relayed_rcode (env : Env) (q : Question) (r : Rule) (u : Nat) (resp : Msg) (wire : Bytes)
    (h : env.rules.find? (fun r => r.applies q.name) = some r) (hr : r.reject = 0) (hu : r.upstream = some u)
    (hp : packReq env q = .ok wire)
    (hup : env.ups[u]? = some (.reply resp)) (hq : isRespOfQuestion resp q = true) :
    (handleReq env q).1 = stripOpt resp := by
  rw [(first_match env q h).1, outcome_forward env q hr hu hp]
  exact relay_reply hup hq

/-- non-vacuity: an opcode-5 query gets NOTIMP with its own ID -/
example : (handle ⟨false, .none, [], []⟩ ⟨{ emptyHdr with id := 77, opcode := 5, rd := true }, [⟨[1, 97], 1, 1⟩], [], [], []⟩).resp.hdr
    = { emptyHdr with id := 77, response := true, opcode := 5, rd := true, ra := true, rcode := 4 } := by decide

/-! ### The model meets the executable specification

  `RouterIO.spec` is the judgement of C03 + C10 + C12 that the harness applies to what the Go code answered.
  The theorems below apply the same function to what the MODEL answers and prove the verdict is "ok" on every
  path (NOTIMP, no rule, reject, no action, forward with failure / mismatching reply / relayed reply), for every
  rule list (domain sets shared or not, reverse), every upstream behaviour, ECS on or off and every client
  address.  Proof: Lemmas/RouterBasic.lean (`first_match`: the first applicable rule decides alone),
  Lemmas/RouterSpecReq.lean (the forwarded bytes decode back to `reqMsg`, through the C02 round trip) and
  Lemmas/RouterSpecMain.lean (the checks on the response as `RespOK`, then the routing checks by cases on the
  deciding rule).

  Hypotheses — both are needed (counterexamples below), both are decidable (`specHyps`):
   * the query's questions are well formed (`questionWF`: scannable name of ≤ 254 octets, 16-bit type and class)
     — true for every query the decoder accepts (`C02.unpackMsg_wf`); without it `packReq` fails or re-decodes to
     another question.  Nothing else of `msgWF m` is used (no range condition on the header, no condition on
     the query's records);
   * reject codes fit the 4-bit RCODE field: the model answers `reject` itself, the specification expects what
     survives the wire header, `reject % 16` (start-up validation refuses reject codes outside 0..15).
  There is NO hypothesis on the upstream replies: `dnsmsg.RemoveEDNS0` (`stripOpt`) removes every OPT
  record of every section of a relayed reply, so whatever the upstream sends, only the proxy's own OPT (or none)
  reaches the client — and an OPT anywhere in the query counts as "the query contained one". -/

/-- what `spec` says about the model's own answer -/
def judged (env : Env) (m : Msg) : String :=
  RouterIO.spec env m ⟨(handle env m).resp, (handle env m).forwards⟩

/-- ★★ `model_meets_spec`: for every environment (any upstream replies whatsoever) and every query — questions
    well formed, reject codes < 16 — the executable specification judges the model's answer and its upstream
    traffic "ok". -/
theorem model_meets_spec (env : Env) (m : Msg)
    (hq : ∀ q ∈ m.questions, questionWF q = true)
    (hrej : ∀ ru ∈ env.rules, ru.reject < 16) :
    RouterIO.spec env m ⟨(handle env m).resp, (handle env m).forwards⟩ = "ok" :=
  spec_model env m hq hrej

/-- the same for a query the decoder accepted (`msgWF`, see `C02.unpackMsg_wf`) -/
theorem model_meets_spec_wf (env : Env) (m : Msg) (hm : msgWF m = true)
    (hrej : ∀ ru ∈ env.rules, ru.reject < 16) :
    judged env m = "ok" :=
  spec_model_wf env m hm hrej

theorem model_meets_spec_unsupported (env : Env) (m : Msg) (h : ¬ supported m) : judged env m = "ok" :=
  spec_model_notImpl env m (notImpl_of_not_supported h)

/-- ★ The sharpest form: each hypothesis only for the path the query really takes — `ru` is the deciding
    (first applicable) rule; the question must be well formed only if `ru` forwards. -/
theorem model_meets_spec_path (env : Env) (m : Msg) (q0 : Question) (hs : supported m) (hq : m.questions = [q0])
    (hwf : ∀ ru u, env.rules.find? (fun r => r.applies (lowerName q0.name)) = some ru → ru.reject = 0 →
      ru.upstream = some u → questionWF q0 = true)
    (hrej : ∀ ru, env.rules.find? (fun r => r.applies (lowerName q0.name)) = some ru → ru.reject < 16) :
    judged env m = "ok" :=
  spec_model_supported env m q0 ((notImpl_eq_false m).mpr hs) hq hwf hrej

/-- the two hypotheses of `model_meets_spec` as one decidable check -/
def specHyps (env : Env) (m : Msg) : Bool :=
  m.questions.all questionWF && env.rules.all (fun ru => decide (ru.reject < 16))

theorem model_meets_spec_dec (env : Env) (m : Msg) (h : specHyps env m = true) : judged env m = "ok" := by
  simp only [specHyps, Bool.and_eq_true, List.all_eq_true, decide_eq_true_eq] at h
  exact spec_model env m h.1 h.2

/-- ★ Key sub-lemma: the query bytes `packReq` produces for a well-formed question always exist and decode
    back to exactly `reqMsg env q` — RD set, that one question, no answer/authority records and the proxy's own
    OPT (UDP size 1200) whose data is the expected ECS option (`wantEcs`) or empty. -/
theorem packReq_roundtrip (env : Env) (q : Question) (hq : questionWF q = true) :
    ∃ wire, packReq env q = .ok wire ∧ unpackMsg wire = .ok (reqMsg env q) ∧
      reqMsg env q = ⟨{ emptyHdr with rd := true }, [q], [], [], [⟨[], typeOPT, 1200, 0, .raw (RouterIO.wantEcs env)⟩]⟩ := by
  obtain ⟨wire, h1, h2⟩ := packReq_decodes env q hq
  exact ⟨wire, h1, h2, reqMsg_eq env q⟩

/-- lower-casing a well-formed name gives a well-formed name (length octets ≤ 63 are not letters) -/
theorem lowerName_wf (n : Name) (h : nameWF n = true) : nameWF (lowerName n) = true := nameWF_lowerName n h

/-- ★ `prefetch_forward_ok`: the refresh path (`runPrefetchFw`) — whatever `packReq` sends for the
    (lower-cased, well-formed) question passes the C10/C12 judgement of a forwarded query. -/
theorem prefetch_forward_ok (env : Env) (q : Question) (wire : Bytes) (hq : questionWF q = true)
    (h : packReq env q = .ok wire) : RouterIO.checkForwarded env q wire = "ok" :=
  checkForwarded_packReq env q hq wire h

/-- … in the form `runPrefetchFw` uses it: the model side never answers "no refresh query" for a well-formed
    question, and the query it predicts is judged ok. -/
theorem prefetch_forward_ok' (env : Env) (q0 : Question) (hq : questionWF q0 = true) :
    ∃ wire, packReq env { q0 with name := lowerName q0.name } = .ok wire ∧
      RouterIO.checkForwarded env { q0 with name := lowerName q0.name } wire = "ok" := by
  obtain ⟨wire, h1, _⟩ := packReq_decodes env (lowerQ q0) (questionWF_lower q0 hq)
  exact ⟨wire, h1, checkForwarded_packReq env _ (questionWF_lower q0 hq) wire h1⟩

/-- `www.Example.com` -/
def exName : Name := [3, 119, 119, 119, 7, 69, 120, 97, 109, 112, 108, 101, 3, 99, 111, 109]
/-- a query: RD, AD, one question (mixed case), and the given authority and additional sections -/
def exQueryWith (name : Name) (auth adds : List Resource) : Msg :=
  ⟨{ emptyHdr with id := 0xBEEF, rd := true, ad := true }, [⟨name, 28, 1⟩], [], auth, adds⟩
/-- the client's OPT: DO bit, 4096-octet buffer, a cookie option -/
def exClientOpt : Resource := ⟨[], 41, 4096, 32768, .raw [0, 10, 0, 2, 1, 2]⟩
/-- the usual query: its OPT, plus a non-OPT record, in the additional section -/
def exQuery (name : Name) : Msg := exQueryWith name [] [exClientOpt, ⟨[1, 120], 16, 1, 5, .raw [1, 65]⟩]
def exOpt (size : Nat) : Resource := ⟨[], 41, size, 0, .raw []⟩
def exTxt : Resource := ⟨[1, 120], 16, 1, 5, .raw []⟩
def exSoa : Resource := ⟨[3, 99, 111, 109], 6, 1, 60, .soa [1, 97] [1, 98] 1 2 3 4 5⟩
/-- an upstream reply (NXDOMAIN) to `exQuery` with the given answer, authority and additional sections -/
def exReplyWith (ans auth adds : List Resource) : Msg :=
  ⟨{ emptyHdr with id := 7, response := true, rd := true, ra := true, rcode := 3 },
    [⟨[3, 119, 119, 119, 7, 101, 120, 97, 109, 112, 108, 101, 3, 99, 111, 109], 28, 1⟩], ans, auth, adds⟩
/-- a shared domain set (`org`, `example.net`), a reverse rule, a reject rule, ECS on, an IPv4-mapped client -/
def exEnvWith (reject : Nat) (reply : Msg) : Env :=
  let set : List Name := [[3, 111, 114, 103], [7, 101, 120, 97, 109, 112, 108, 101, 3, 110, 101, 116]]
  { ecs := true, addr := .v6 [0, 0, 0, 0, 0, 0, 0, 0, 0, 0, 255, 255, 192, 0, 2, 77]
    rules := [⟨some set, false, 0, some 1⟩, ⟨some [[3, 99, 111, 109]], true, reject, none⟩, ⟨some set, true, 0, some 0⟩,
      ⟨none, false, 5, none⟩]
    ups := [.reply reply, .fail] }
def exEnv (reject : Nat) (adds : List Resource) : Env := exEnvWith reject (exReplyWith [] [exSoa] adds)

/-- the hypotheses hold for a non-trivial environment and query: third rule (reverse of a shared set) forwards to
    upstream 0, whose reply (NXDOMAIN, three OPT records and another record) is relayed … -/
example : specHyps (exEnv 3 [exOpt 1232, exTxt, exOpt 512, exOpt 513]) (exQuery exName) = true := by decide
/-- … so the specification accepts what the model does with it -/
example : judged (exEnv 3 [exOpt 1232, exTxt, exOpt 512, exOpt 513]) (exQuery exName) = "ok" :=
  model_meets_spec_dec _ _ (by decide)
/-- … and on that path the model really relays NXDOMAIN with the proxy's own OPT only -/
example : (handle (exEnv 3 [exOpt 1232, exTxt, exOpt 512, exOpt 513]) (exQuery exName)).resp.hdr.rcode = 3 ∧
    (handle (exEnv 3 [exOpt 1232, exTxt, exOpt 512, exOpt 513]) (exQuery exName)).resp.additionals
      = [exTxt, exOpt 1200] := by decide

/-- OPT records in the answer AND authority AND additional sections of the upstream reply, and a query whose only
    OPT record sits in its authority section: the hypotheses hold, the specification accepts the model … -/
def exEnvAll : Env :=
  exEnvWith 3 (exReplyWith [exOpt 1, ⟨[1, 97], 1, 1, 60, .a [192, 0, 2, 1]⟩, exOpt 2] [exOpt 3, exSoa] [exTxt, exOpt 1232, exOpt 4])
def exQueryAuthOpt : Msg := exQueryWith exName [exClientOpt] [exTxt]
example : judged exEnvAll exQueryAuthOpt = "ok" := model_meets_spec_dec _ _ (by decide)
/-- … and the model's answer: every upstream OPT of every section is gone, the other records are relayed in
    order, and because the query had an OPT (if only in the authority section) the proxy's own OPT is attached -/
example : (handle exEnvAll exQueryAuthOpt).resp.answers = [⟨[1, 97], 1, 1, 60, .a [192, 0, 2, 1]⟩] ∧
    (handle exEnvAll exQueryAuthOpt).resp.authorities = [exSoa] ∧
    (handle exEnvAll exQueryAuthOpt).resp.additionals = [exTxt, exOpt 1200] := by decide
/-- the same reply for a query without any OPT: no OPT at all in the answer -/
example : judged exEnvAll (exQueryWith exName [] [exTxt]) = "ok" ∧
    (handle exEnvAll (exQueryWith exName [] [exTxt])).resp.additionals = [exTxt] :=
  ⟨model_meets_spec_dec _ _ (by decide), by decide⟩

/-- necessity 1 — an ill-formed question (a label running past the end of the name, which no decoded query can
    contain): `packReq` fails, nothing is forwarded, the specification objects -/
example : judged { exEnv 3 [] with rules := [⟨none, false, 0, some 0⟩] } (exQuery [9, 119, 119, 119])
    = "viol:C10:not-forwarded" := by decide
/-- necessity 2 — a reject code ≥ 16 (`test.de` hits the second rule): the model answers 19, the wire can only carry 3 -/
example : judged (exEnv 19 []) (exQuery [4, 116, 101, 115, 116, 2, 100, 101]) = "viol:C10:reject-rcode" := by decide

/-- tie by translation (Lemmas/TranslatedC03.lean): `handle` branches on the mechanical translation of the current
    `notImpl := …` statement of `handleReqMsg`; the OPT class floor of `newEDNS0` and the UDP listener's client-size
    computation (OPT class, floor 512, cap `maxUdpPayloadSize`) are the translated statements, for all arguments. -/
theorem int_logic_is_the_translated_source (m : Msg) (size optHdr : Nat) (data : Bytes) (opt : Bool) :
    (m.hdr.response || !m.hdr.rd || m.hdr.opcode != 0 || m.questions.length != 1) =
      Translated.c03_notImpl m.hdr.response m.hdr.rd m.hdr.opcode m.questions.length ∧
    newEDNS0 size data = ⟨[], typeOPT, Translated.c03_edns0Size size, 0, .raw data⟩ ∧
    Listeners.udpClientSize opt size = Translated.c03_udpClientSize optHdr opt size :=
  ⟨notImpl_translated m, newEDNS0_translated size data, udpClientSize_translated optHdr opt size⟩

/-- tie (pins; the NOTIMP predicate is tied by translation, `handle_translated`): the five header assignments, the
    request deadline (6 s), the deferred "always a response" fallback, the single-question copy and the upstream
    question check. -/
theorem pins :
    Facts.hdrfix_id = "rc.Response.Msg.Header.ID = m.Header.ID" ∧
    Facts.hdrfix_qr = "rc.Response.Msg.Header.Response = true" ∧
    Facts.hdrfix_opcode = "rc.Response.Msg.Header.OpCode = m.Header.OpCode" ∧
    Facts.hdrfix_ra = "rc.Response.Msg.Header.RecursionAvailable = true" ∧
    Facts.hdrfix_rd = "rc.Response.Msg.Header.RecursionDesired = m.Header.RecursionDesired" ∧
    Facts.req_timeout_s = 6 ∧
    Facts.deferred_resp = "rc.Response.Msg == nil" ∧
    Facts.deferred_resp_stmt = "rc.Response.Msg = makeEmptyRespM(m, dnsmsg.RCodeServerFailure)" ∧
    Facts.fwd_question_check = "!isRespOfQuestion(resp, q)" ∧
    Facts.emptyresp_one_question = 1 :=
  ⟨rfl, rfl, rfl, rfl, rfl, rfl, rfl, rfl, rfl, rfl⟩

end MosVerif.C03
