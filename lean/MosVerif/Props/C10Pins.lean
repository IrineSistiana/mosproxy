/-
  C10 — source facts of the start-up checks the LoadCfg model relies on (regenerated on every run).
-/
import MosVerif.Generated.Facts
namespace MosVerif.C10

/-- (the range check `cfg.Reject < 0 || cfg.Reject > 15` of `loadRule` is tied by translation:
    `Router.rejectRange_translated` in `Lemmas/TranslatedC10.lean`) -/
theorem pins_cfg :
    Facts.yaml_onedoc = "!errors.Is(err, io.EOF)" := rfl

end MosVerif.C10
