/-
  C12 — EDNS0 ends at the proxy; ECS reveals only a truncated client prefix.
  Theorems over `Router.handle`, `Router.reqMsg`, `Router.makeECS` for every query, rule list, client
  address and upstream reply (any number of OPT records in any section: `dnsmsg.RemoveEDNS0` removes them all).
-/
import MosVerif.Lemmas.RouterSpecMain
-- the tie theorems of the property: imported so that they are checked with it
import MosVerif.Props.C12Pins
import MosVerif.Lemmas.TranslatedC12
namespace MosVerif.C12
open MosVerif.Wire MosVerif.Router

/-- "the query contained an OPT record": in ANY section (`queryOpt(m) != nil`) -/
def queryHasOpt (m : Msg) : Bool := queryHasOptAny m

theorem queryHasOpt_iff (m : Msg) :
    queryHasOpt m = (m.answers ++ m.authorities ++ m.additionals).any (fun r => r.rtype == typeOPT) :=
  (queryAny_eq m).symm

theorem countOpt_nil : countOpt [] = 0 := rfl

theorem countOpt_newEDNS0 (size : Nat) (d : Bytes) : countOpt [newEDNS0 size d] = 1 := rfl

/-- ★ `dnsmsg.RemoveEDNS0`: whatever the upstream sent — any number of OPT records, in any section — nothing of
    it is left; every other record stays, in order (`relayed` is the specification's "everything but OPT"). -/
theorem stripOpt_spec (x : Msg) :
    RouterIO.optCount (stripOpt x) = 0 ∧ (stripOpt x).answers = RouterIO.relayed x.answers ∧
      (stripOpt x).authorities = RouterIO.relayed x.authorities ∧
      (stripOpt x).additionals = RouterIO.relayed x.additionals ∧
      (stripOpt x).hdr = x.hdr ∧ (stripOpt x).questions = x.questions :=
  ⟨stripOpt_noOpt x, rfl, rfl, rfl, rfl, rfl⟩

/-- what `handleReq` returns never carries an OPT record, in no section: it is either a locally built empty
    response or an upstream reply from which every OPT was removed — no hypothesis on the upstream -/
theorem handleReq_no_opt (env : Env) (q : Question) : RouterIO.optCount (handleReq env q).1 = 0 :=
  (handleReq_answer env q).noOpt

/-- ★ The answer to a supported query contains exactly one OPT record (counting ALL sections) iff the query
    contained one (in any section), and none otherwise — on every path (no rule, reject, forward, upstream
    failure, relayed reply), whatever the upstream replied. -/
theorem resp_opt_iff (env : Env) (m : Msg) (q0 : Question) (hq : m.questions = [q0])
    (hs : m.hdr.response = false ∧ m.hdr.rd = true ∧ m.hdr.opcode = 0) :
    RouterIO.optCount (handle env m).resp = if queryHasOpt m then 1 else 0 := by
  rw [(handle_impl env m q0 (notImpl_single hq hs) hq).1]
  exact (optFix_opt m _ (handleReq_no_opt env _)).1

/-- ★ … and that OPT record is the proxy's own, in the additional section: UDP size 1200, TTL 0 (no extended
    rcode, version 0, DO clear) and no options — nothing of the upstream's or the client's OPT is relayed. -/
theorem resp_opt_content (env : Env) (m : Msg) (q0 : Question) (hq : m.questions = [q0])
    (hs : m.hdr.response = false ∧ m.hdr.rd = true ∧ m.hdr.opcode = 0)
    (hopt : queryHasOpt m = true) :
    (handle env m).resp.additionals.filter isOptB = [⟨[], typeOPT, 1200, 0, .raw []⟩] := by
  rw [(handle_impl env m q0 (notImpl_single hq hs) hq).1, funext isOptB_eq]
  exact (optFix_opt m _ (handleReq_no_opt env _)).2 hopt

/-- ★ The answer and authority sections of the response never contain an OPT record. -/
theorem resp_no_opt_outside_additional (env : Env) (m : Msg) (q0 : Question) (hq : m.questions = [q0])
    (hs : m.hdr.response = false ∧ m.hdr.rd = true ∧ m.hdr.opcode = 0) :
    (handle env m).resp.answers.filter isOptB = [] ∧ (handle env m).resp.authorities.filter isOptB = [] := by
  have h0 := handleReq_no_opt env (lowerQ q0)
  rw [optCount_parts] at h0
  rw [(handle_impl env m q0 (notImpl_single hq hs) hq).1, optFix_eq, funext isOptB_eq]
  exact ⟨(countOpt_eq_zero (handleReq env (lowerQ q0)).1.answers).mp (by omega),
    (countOpt_eq_zero (handleReq env (lowerQ q0)).1.authorities).mp (by omega)⟩

/-- ★ An unsupported query is answered with an empty additional section: no OPT record, whatever the query
    carried. -/
theorem unsupported_no_opt (env : Env) (m : Msg)
    (h : (m.hdr.response || !m.hdr.rd || m.hdr.opcode != 0 || m.questions.length != 1) = true) :
    (handle env m).resp.additionals = [] := by
  rw [(handle_notImpl env m h).1]
  rfl

/-- ★ Every upstream query carries exactly one additional record, an OPT with the proxy's UDP size, whose
    only possible option is the ECS option — present iff ECS is enabled and the client address is known.
    The upstream query is a function of the question, the ECS switch and the client address only:
    nothing of the client's own OPT (cookies, ECS, padding, DO, …) can reach the upstream. -/
theorem upstream_query_one_opt (env : Env) (q : Question) :
    (reqMsg env q).additionals =
      [⟨[], typeOPT, 1200, 0, .raw (if env.ecs ∧ env.addr.isValid then (makeECS env.addr).getD [] else [])⟩] := by
  rw [reqMsg_eq, ← reqData_eq]
  rfl

/-- ★ What is forwarded is a function of the query's header and question section: two queries that differ only in
    their records (the client's OPT among them) cause the same upstream traffic. -/
theorem client_options_never_forwarded (env : Env) (m m' : Msg)
    (hq : m.questions = m'.questions) (hh : m.hdr = m'.hdr) :
    (handle env m).forwards = (handle env m').forwards := by
  -- `notImpl` reads the header and the number of questions only; after that the two sides differ in `optFix m`,
  -- which is not in the forwards
  rw [handle_eq, handle_eq, notImpl, notImpl, hq, hh]
  dsimp only
  split
  · rfl
  · cases m'.questions with
    | nil => rfl
    | cons q0 rest => rfl

/-- ★ ECS for an IPv4 client (also when it arrives as an IPv4-mapped IPv6 address): option code 8,
    length 7, family 1, source prefix 24, scope 0 and exactly the first three address octets. -/
theorem ecs_v4 (b0 b1 b2 b3 : UInt8) :
    makeECS (.v4 [b0, b1, b2, b3]) = some [0, 8, 0, 7, 0, 1, 24, 0, b0, b1, b2] :=
  makeECS_v4 (b := [b0, b1, b2, b3]) rfl

theorem ecs_v4mapped (b0 b1 b2 b3 : UInt8) :
    makeECS (.v6 [0, 0, 0, 0, 0, 0, 0, 0, 0, 0, 255, 255, b0, b1, b2, b3]) = makeECS (.v4 [b0, b1, b2, b3]) :=
  (makeECS_v4 (b := [b0, b1, b2, b3]) rfl).trans (ecs_v4 b0 b1 b2 b3).symm

/-- ★ ECS for an IPv6 client: length 11, family 2, source prefix 56, scope 0, first seven octets. -/
theorem ecs_v6 (a0 a1 a2 a3 a4 a5 a6 a7 a8 a9 a10 a11 a12 a13 a14 a15 : UInt8)
    (hnm : ¬ ([a0, a1, a2, a3, a4, a5, a6, a7, a8, a9] = List.replicate 10 0 ∧ [a10, a11] = [255, 255])) :
    makeECS (.v6 [a0, a1, a2, a3, a4, a5, a6, a7, a8, a9, a10, a11, a12, a13, a14, a15])
      = some [0, 8, 0, 11, 0, 2, 56, 0, a0, a1, a2, a3, a4, a5, a6] := by
  have : Addr.unmap (.v6 [a0, a1, a2, a3, a4, a5, a6, a7, a8, a9, a10, a11, a12, a13, a14, a15])
      = .v6 [a0, a1, a2, a3, a4, a5, a6, a7, a8, a9, a10, a11, a12, a13, a14, a15] := if_neg hnm
  exact makeECS_v6 this

/-- no ECS for an unknown client address -/
theorem ecs_none : makeECS .none = none := rfl

/-- ★ The ECS option the proxy builds is octet for octet the one the executable specification expects
    (code 8, length 7 / 11, family, /24 or /56, scope 0, the first 3 / 7 address octets; nothing when ECS is off
    or the address unknown) — for every client address, whatever its length. -/
theorem ecs_matches_spec (env : Env) :
    (if env.ecs ∧ env.addr.isValid then (makeECS env.addr).getD [] else []) = RouterIO.wantEcs env :=
  reqData_eq env

/-- ★ What the upstream receives, decoded from the wire: one additional record, the proxy's own OPT (UDP
    size 1200, TTL 0) carrying exactly the expected ECS option or nothing. -/
theorem upstream_query_wire_opt (env : Env) (q : Question) (hq : questionWF q = true) :
    ∃ wire fm, packReq env q = .ok wire ∧ unpackMsg wire = .ok fm ∧
      fm.additionals = [⟨[], typeOPT, 1200, 0, .raw (RouterIO.wantEcs env)⟩] := by
  obtain ⟨wire, h1, h2⟩ := packReq_decodes env q hq
  exact ⟨wire, _, h1, h2, by rw [reqMsg_eq]; rfl⟩

/-- ★ The EDNS0 judgement of the executable specification (client side: OPT iff the query had one, and then the
    proxy's own; relayed sections = the upstream's minus OPT; upstream side: one OPT, expected ECS data) accepts
    the model on every path, for every decoded query and EVERY upstream reply — the C12 face of
    `C03.model_meets_spec`. -/
theorem edns0_meets_spec (env : Env) (m : Msg) (hm : msgWF m = true) (hrej : ∀ ru ∈ env.rules, ru.reject < 16) :
    RouterIO.spec env m ⟨(handle env m).resp, (handle env m).forwards⟩ = "ok" :=
  spec_model_wf env m hm hrej

/-- a reply full of OPT records, relayed: all of them are removed, then the fix-up attaches the proxy's own iff
    the query had one -/
theorem all_opts_removed (m x : Msg) :
    RouterIO.optCount (optFix m (stripOpt x)) = if queryHasOpt m then 1 else 0 :=
  (optFix_opt m (stripOpt x) (stripOpt_noOpt x)).1

/-- non-vacuity: OPT records in all three sections of a reply, a query whose only OPT is in its authority
    section, and a concrete v4 witness -/
example : stripOpt ⟨emptyHdr, [], [⟨[], 41, 1, 0, .raw []⟩, ⟨[1, 97], 1, 1, 60, .a [1, 2, 3, 4]⟩],
      [⟨[], 41, 2, 0, .raw []⟩], [⟨[1, 120], 16, 1, 5, .raw []⟩, ⟨[], 41, 3, 0, .raw []⟩, ⟨[], 41, 4, 0, .raw []⟩]⟩
    = ⟨emptyHdr, [], [⟨[1, 97], 1, 1, 60, .a [1, 2, 3, 4]⟩], [], [⟨[1, 120], 16, 1, 5, .raw []⟩]⟩ := by decide
example : queryHasOpt ⟨emptyHdr, [⟨[1, 97], 1, 1⟩], [], [⟨[], 41, 4096, 0, .raw []⟩], []⟩ = true := by decide
example : queryHasOpt ⟨emptyHdr, [⟨[1, 97], 1, 1⟩], [], [], [⟨[1, 120], 16, 1, 5, .raw []⟩]⟩ = false := by decide
example : makeECS (.v4 [192, 0, 2, 77]) = some [0, 8, 0, 7, 0, 1, 24, 0, 192, 0, 2] := by decide

end MosVerif.C12
