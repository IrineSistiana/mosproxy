/-
  C05 — Multiplexed upstream replies reach exactly the exchange that asked.

  All theorems quantify over an arbitrary `steps : List Step`, i.e. over every interleaving
  of any number of concurrent exchanges (also more than 65536 on one connection), any number
  of connections, every server behaviour (`srvReply` with any id/payload at any time: out of
  order, duplicated, unsolicited, late; no `srvReply` at all: dropped) and every cancellation /
  connection failure, starting from connections whose id counters are `cfg.base c ≤ 65536`
  (`base = 0`: freshly dialled).  Histories are lists of events, newest first.
-/
import MosVerif.Lemmas.PipelineRun
import MosVerif.Lemmas.PipelineLate
import MosVerif.Lemmas.PipelineEol
import MosVerif.Lemmas.PipeFrame
import MosVerif.Lemmas.TranslatedC05
import MosVerif.Generated.Facts
namespace MosVerif.C05
open MosVerif.Pipeline

/-- the state after an arbitrary schedule -/
abbrev after (cfg : Cfg) (steps : List Step) : State := exec cfg (init cfg) steps

variable (cfg : Cfg) (hb : ∀ c, cfg.base c ≤ 65536) (steps : List Step)
include hb

theorem inv_after : Inv cfg (after cfg steps) := inv_exec (inv_init cfg hb) steps
theorem ginv_after : GInv cfg (after cfg steps) :=
  ginv_exec (inv_init cfg hb) (ginv_clean cfg _ rfl rfl (fun _ => rfl) (fun _ => rfl)) steps

/-- ★ CENTRAL: the observable history of every schedule satisfies the executable specification
    (the same `spec` that judges the implementation's logs in the harness runs). -/
theorem model_meets_spec : spec cfg (after cfg steps).hist = true := (inv_after cfg hb steps).sp

/-- ★ the wire ids handed out on a connection are strictly increasing along every schedule
    (newest first: strictly decreasing). -/
theorem ids_fresh (c : Nat) : (assignedIds c (after cfg steps).hist).Pairwise (· > ·) :=
  mono_exec (inv_init cfg hb) (fun _ => .nil) steps c

/-- ★ a wire id is never reused during a connection's life: around any `assign e c id` event
    there is no other assignment of `id` on `c`, neither later nor earlier, to any exchange. -/
theorem id_never_reused (newer older : List Ev) (e c id : Nat)
    (hh : (after cfg steps).hist = newer ++ Ev.assign e c id :: older) (e' : Nat) :
    Ev.assign e' c id ∉ newer ∧ Ev.assign e' c id ∉ older := by
  have hp := ids_fresh cfg hb steps c
  rw [hh, assignedIds_append] at hp
  simp only [assignedIds, if_true] at hp
  rw [List.pairwise_append] at hp
  obtain ⟨_, h2, h3⟩ := hp
  rw [List.pairwise_cons] at h2
  constructor
  · intro hm
    have := h3 id (mem_assignedIds_iff.mpr ⟨_, hm⟩) id List.mem_cons_self
    omega
  · intro hm
    have := h2.1 id (mem_assignedIds_iff.mpr ⟨_, hm⟩)
    omega

/-- no wrap-around: the counter never passes 65536 … -/
theorem no_wrap (c : Nat) : ((after cfg steps).conns c).nextQid ≤ 65536 := (inv_after cfg hb steps).nq_le c

/-- … and every id put on the wire fits in 16 bits without truncation. -/
theorem assigned_lt (e c id : Nat) (hm : Ev.assign e c id ∈ (after cfg steps).hist) : id < 65536 := by
  have h1 := (inv_after cfg hb steps).asg_lt e c id hm
  have h2 := no_wrap cfg hb steps c
  omega

omit hb in
/-- after exhaustion `addQueueC` returns end-of-life: nothing is registered, nothing is assigned … -/
theorem eol_after_exhaustion (c e : Nat) (hx : ((after cfg steps).conns c).nextQid = 65536) :
    (step cfg (after cfg steps) (.addQ e c)).hist = (after cfg steps).hist ∧
    (step cfg (after cfg steps) (.addQ e c)).pcs = (after cfg steps).pcs ∧
    ((step cfg (after cfg steps) (.addQ e c)).conns c).queue = ((after cfg steps).conns c).queue ∧
    ((step cfg (after cfg steps) (.addQ e c)).conns c).nextQid = 65536 := by
  generalize after cfg steps = s at hx ⊢
  have hgt : ¬ (s.conns c).nextQid ≤ 65535 := by omega
  simp only [step]
  split
  · split
    · rename_i c' hadd
      obtain ⟨a2, a3, _⟩ := addQueueC_none hadd
      exact ⟨rfl, rfl, by simp [a3], by simp [a2, hx]⟩
    · rename_i c' q hadd
      exact absurd (addQueueC_some hadd).1 hgt
  · exact ⟨rfl, rfl, rfl, hx⟩

/-- … for ever: whatever happens afterwards, the counter stays and no id is handed out on `c`. -/
theorem exhausted_forever (c : Nat) (hx : ((after cfg steps).conns c).nextQid = 65536) (more : List Step) :
    ((exec cfg (after cfg steps) more).conns c).nextQid = 65536 ∧
    assignedIds c (exec cfg (after cfg steps) more).hist = assignedIds c (after cfg steps).hist :=
  exhausted_exec c hx more

/-- ★ an exchange that returns a message returns a reply the server sent — after the exchange was
    given its wire id — on that connection with that wire id, and the caller's ID is restored:
    the history (newest first) has the shape
    `… ret e (ID, p) :: l1 ++ reply c id p :: l2 ++ assign e c id :: …` with `ID = cid e`
    and no other wire id given to `e` in between. -/
theorem delivered_matches (newer older : List Ev) (e mid p : Nat)
    (hh : (after cfg steps).hist = newer ++ Ev.ret e (some (mid, p)) :: older) :
    mid = cfg.cid e ∧
    ∃ c id l1 l2 l3, older = l1 ++ Ev.reply c id p :: (l2 ++ Ev.assign e c id :: l3) ∧
      (∀ c' id', Ev.assign e c' id' ∉ l1) ∧ (∀ c' id', Ev.assign e c' id' ∉ l2) := by
  have hs := model_meets_spec cfg hb steps
  rw [hh] at hs
  have hs' := spec_suffix newer _ hs
  simp only [spec, okEv, Bool.and_eq_true, beq_iff_eq] at hs'
  obtain ⟨⟨⟨_, hmid⟩, hrest⟩, _⟩ := hs'
  refine ⟨hmid, ?_⟩
  cases hc : curAssign e older with
  | none => simp [hc] at hrest
  | some ci =>
    obtain ⟨c, id⟩ := ci
    simp only [hc] at hrest
    obtain ⟨l1, l2, l3, h1, h2, h3⟩ := since_shape hc hrest
    exact ⟨c, id, l1, l2, l3, h1, h2, h3⟩

/-- ★ no reply satisfies two exchanges: a reply event (index `k`) is received by at most one
    exchange (`taken` records every receive on a channel) … -/
theorem no_double_delivery (e e' k : Nat) (h1 : (e, k) ∈ (after cfg steps).taken)
    (h2 : (e', k) ∈ (after cfg steps).taken) : e = e' := (ginv_after cfg hb steps).tk_inj e e' k h1 h2

/-- … an exchange receives at most one reply … -/
theorem one_reply_per_exchange (e k k' : Nat) (h1 : (e, k) ∈ (after cfg steps).taken)
    (h2 : (e, k') ∈ (after cfg steps).taken) : k = k' := (ginv_after cfg hb steps).tk_one e k k' h1 h2

/-- … what it received is a reply event whose payload is the one it returns (with its own ID) … -/
theorem taken_is_a_reply (e k : Nat) (h : (e, k) ∈ (after cfg steps).taken) :
    ∃ c id p, evAt (after cfg steps).hist k = some (.reply c id p) ∧
      ((after cfg steps).pcs e = .leaving c id (some p) ∨
       ((after cfg steps).pcs e = .done ∧ Ev.ret e (some (cfg.cid e, p)) ∈ (after cfg steps).hist)) :=
  ((ginv_after cfg hb steps).pc e).tk k h

/-- … and every returned message was received that way. Together: two exchanges that return
    messages consumed two different reply events. -/
theorem returned_message_was_taken (e mid p : Nat) (h : Ev.ret e (some (mid, p)) ∈ (after cfg steps).hist) :
    ∃ k c id, (e, k) ∈ (after cfg steps).taken ∧ evAt (after cfg steps).hist k = some (.reply c id p) :=
  (ginv_after cfg hb steps).ret_tk e mid p h

/-- the owner of a (connection, wire id) pair is unique -/
theorem assignment_unique (e e' c id : Nat) (h1 : Ev.assign e c id ∈ (after cfg steps).hist)
    (h2 : Ev.assign e' c id ∈ (after cfg steps).hist) : e = e' :=
  spec_assign_unique (model_meets_spec cfg hb steps) h1 h2

/-- ★ a late reply is harmless: if `(c, id)` was given to exchange `e` and `e` is no longer
    registered or waiting under it (it was cancelled, failed, returned, or its entry was removed),
    then a reply for `(c, id)` arriving now (reply event index = current history length) is received
    by no exchange, whatever happens afterwards — in particular not by a later exchange. -/
theorem late_reply_harmless (e c id p : Nat) (hasg : Ev.assign e c id ∈ (after cfg steps).hist)
    (hleft : ∀ ch, (after cfg steps).pcs e ≠ .registered c id ch ∧ (after cfg steps).pcs e ≠ .waiting c id ch)
    (more : List Step) (e' : Nat) :
    (e', (after cfg steps).hist.length) ∉ (exec cfg (after cfg steps) (.srvReply c id p :: more)).taken := by
  refine (dormant_exec (dormant_of_no_waiter (inv_after cfg hb steps) (ginv_after cfg hb steps) c id p ?_) more).1 e'
  intro e'' hm ch
  rw [← assignment_unique cfg hb steps e e'' c id hasg hm]
  exact hleft ch

/-- a reply whose (connection, id) was never handed out is received by nobody either -/
theorem unsolicited_harmless (c id p : Nat) (hnever : ∀ e, Ev.assign e c id ∉ (after cfg steps).hist)
    (more : List Step) (e' : Nat) :
    (e', (after cfg steps).hist.length) ∉ (exec cfg (after cfg steps) (.srvReply c id p :: more)).taken :=
  (dormant_exec (dormant_of_no_waiter (inv_after cfg hb steps) (ginv_after cfg hb steps) c id p
    fun e hm => absurd hm (hnever e)) more).1 e'

omit hb

/-- a reply with an unknown id, or for a channel whose buffer is occupied, is discarded: only the
    history records it. -/
theorem unknown_or_duplicate_discarded (s : State) (c id p : Nat)
    (h : qget id (s.conns c).queue = none ∨
         ∃ ch p' k, qget id (s.conns c).queue = some ch ∧ s.chans ch = .full p' k) :
    step cfg s (.srvReply c id p) = { s with hist := .reply c id p :: s.hist } := by
  rcases h with h | ⟨ch, p', k, h1, h2⟩
  · simp [step, h]
  · simp [step, h1, h2]

/-- `Reserve` touches nothing but `reserved` -/
theorem reserve_only_reserved (c : Conn) :
    c.reserve.nextQid = c.nextQid ∧ c.reserve.queue = c.queue ∧ c.reserve.closed = c.closed :=
  ⟨reserve_nextQid c, reserve_queue c, reserve_closed c⟩

/-- `Status().Available` implies that an immediate `addQueueC` gets an id -/
theorem available_gets_id (c : Conn) (ch : Nat) (h : c.status.2 = true) : (c.addQueueC ch).2 = some c.nextQid := by
  simp only [Conn.status, decide_eq_true_eq] at h
  have hm : c.nextQid % 65536 = c.nextQid := Nat.mod_eq_of_lt (by omega)
  have hle : ¬ c.nextQid > 65535 := by omega
  unfold Conn.addQueueC
  by_cases hr : c.reserved > 0 <;> simp [hr, hm, hle]

/-! ### the executable script-level model is one of the schedules

  `mvmodel` replays a harness script with `runOps` (Model/Pipeline.lean), following the pool's
  choices visible in the implementation's log `gs`. Whatever that log says, every state it goes
  through is reached by steps of the model from the state left by the prefix, hence satisfies the
  invariants and the specification. -/

theorem script_runs_steps (cfg : Cfg) (known : List Nat) (r : RunSt) (ops : List Op) (gs : List (List Tok)) :
    ∀ s ∈ runStates cfg known r ops gs, ∃ steps, s = exec cfg r.s steps :=
  runStates_reach cfg known r ops gs

/-- ★ … and their histories satisfy the specification; ids are handed out in increasing order; no reply
    event is received twice. (`pre`: length of the prefix, `cids`: caller IDs of the script's exchanges.) -/
theorem script_model_sound (cids : List (Nat × Nat)) (pre : Nat) (tcp : Bool) (known : List Nat) (ops : List Op)
    (gs : List (List Tok)) :
    let pconns := preRun pre []
    let cfg := scriptCfg cids pconns
    ∀ s ∈ runStates cfg known (scriptRun pconns tcp) ops gs,
      spec cfg s.hist = true ∧ (∀ c, (assignedIds c s.hist).Pairwise (· > ·)) ∧
      (∀ e e' k, (e, k) ∈ s.taken → (e', k) ∈ s.taken → e = e') := by
  intro pconns cfg s hs
  obtain ⟨steps, rfl⟩ := runStates_reach cfg known _ ops gs s hs
  obtain ⟨hi, hg⟩ := scriptInit_inv cids pre
  exact ⟨(inv_exec hi steps).sp,
         mono_exec hi (fun _ => .nil) steps,
         (ginv_exec hi hg steps).tk_inj⟩

/-! ### framing: a `srvReply` step is a whole frame the server sent

  The step model takes for granted that what the read loop dispatches (`srvReply c id p`) is a message
  the server sent. On a pipelined TCP/DoT connection that is a property of the read loop's framing
  (Model/PipeFrame.lean): for every list of frames, every way the network cuts their bytes into chunks
  and every placement of read errors (deadline = idle timeout, also in the middle of a frame): -/

/-- ★ the messages dispatched are a prefix of the frames the server sent — never something
    reconstructed from the inside of a frame — … -/
theorem frames_dispatched_prefix (frames : List PipeFrame.Bytes) (evs : List PipeFrame.REv)
    (h : PipeFrame.received evs <+: PipeFrame.stream frames) : (PipeFrame.run {} evs).out <+: frames := by
  have h0 : PipeFrame.Inv frames [] {} := by
    show PipeFrame.Good frames [] [] []
    exact ⟨0, rfl, rfl⟩
  have := PipeFrame.run_inv frames evs [] {} h0 (by simpa using h)
  exact PipeFrame.inv_out_prefix this

/-- … and after a read error the loop never dispatches anything again (it does not resume reading,
    in particular not at a non-frame boundary). -/
theorem no_dispatch_after_read_error (evs1 evs2 : List PipeFrame.REv) :
    (PipeFrame.run {} (evs1 ++ .readErr :: evs2)).out = (PipeFrame.run {} evs1).out := by
  have e : PipeFrame.run {} (evs1 ++ .readErr :: evs2) =
      PipeFrame.run (PipeFrame.rstep (PipeFrame.run {} evs1) .readErr) evs2 := by
    simp [PipeFrame.run, List.foldl_append]
  rw [e, PipeFrame.closed_run _ rfl evs2]
  rfl

/-- non-vacuity: a loop that goes on reading after a deadline error inside a frame (`rstepResume`)
    dispatches a message the server never sent: here the frame `[9,9,0,1,7]`, cut after its fourth
    byte, makes it dispatch `[7]`. -/
example : (([PipeFrame.REv.recv [0, 5, 9, 9], .readErr, .recv [0, 1, 7]] : List PipeFrame.REv).foldl
    PipeFrame.rstepResume {}).out = [[7]] := by decide
example : (PipeFrame.run {} [.recv [0, 5, 9, 9], .readErr, .recv [0, 1, 7]]).out = [] := by decide
example : (PipeFrame.run {} [.recv [0, 5, 9], .recv [9, 0, 1, 7, 0, 1], .recv [4]]).out = [[9, 9, 0, 1, 7], [4]] := by decide

/-! ### non-vacuity -/

section examples
def cfg0 : Cfg := ⟨fun e => 100 + e, fun _ => 0⟩

/-- a schedule in which two exchanges are answered out of order, with a duplicate and an unsolicited reply -/
def demo : List Step :=
  [.addQ 0 0, .write 0 true false, .addQ 1 0, .write 1 true false,
   .srvReply 0 7 50, .srvReply 0 1 51, .take 1, .srvReply 0 1 51, .delQ 1,
   .srvReply 0 0 52, .take 0, .delQ 0, .srvReply 0 0 52]

example : (after cfg0 demo).hist =
    [.reply 0 0 52, .ret 0 (some (100, 52)), .reply 0 0 52, .ret 1 (some (101, 51)), .reply 0 1 51, .reply 0 1 51,
     .reply 0 7 50, .query 1 0 1, .assign 1 0 1, .query 0 0 0, .assign 0 0 0] := by decide
example : (after cfg0 demo).taken = [(0, 8), (1, 5)] := by decide

/-- the last id of a connection, then end of life -/
def cfgLast : Cfg := ⟨fun e => e, fun _ => 65535⟩
example : (after cfgLast [.addQ 0 0, .addQ 1 0, .write 0 true false, .cancel 0, .delQ 0]).hist =
    [.query 0 0 65535, .assign 0 0 65535] := by decide
example : ((after cfgLast [.addQ 0 0, .addQ 1 0, .write 0 true false, .cancel 0, .delQ 0]).conns 0).closed = true := by
  decide

/-- the specification rejects: a reply routed to the wrong exchange, -/
example : spec cfg0 [.ret 0 (some (100, 51)), .reply 0 1 51, .query 1 0 1, .assign 1 0 1, .query 0 0 0, .assign 0 0 0]
    = false := by decide
/-- the wire ID left in the returned message, -/
example : spec cfg0 [.ret 0 (some (0, 51)), .reply 0 0 51, .query 0 0 0, .assign 0 0 0] = false := by decide
/-- a reused wire id, -/
example : spec cfg0 [.assign 1 0 0, .ret 0 none, .query 0 0 0, .assign 0 0 0] = false := by decide
/-- a reply that was sent before the id was handed out (late reply to an earlier owner), -/
example : spec cfg0 [.ret 1 (some (101, 51)), .assign 1 0 1, .reply 0 1 51] = false := by decide
/-- one reply returned by two exchanges, -/
example : spec cfg0 [.ret 1 (some (101, 51)), .ret 0 (some (100, 51)), .reply 0 0 51, .query 1 0 1, .assign 1 0 1,
    .query 0 0 0, .assign 0 0 0] = false := by decide
/-- a reply on another connection, -/
example : spec cfg0 [.ret 0 (some (100, 51)), .reply 1 0 51, .query 0 0 0, .assign 0 0 0] = false := by decide
/-- and accepts the correct history. -/
example : spec cfg0 [.ret 0 (some (100, 51)), .reply 0 0 51, .query 0 0 0, .assign 0 0 0] = true := by decide
end examples

/-- tie by translation (Lemmas/TranslatedC05.lean): the model's `Conn` operations are, for all arguments, the
    operations assembled from the mechanical translation of the current Go source — the `reserved` decrement, the
    end-of-life test, `qid := uint16(c.nextQid)` and `c.nextQid++` of `addQueueC`; `eol := c.nextQid > 65535 &&
    len(c.queue) == 0` of `deleteQueueC`; `Status().Available`; `Reserve()`. -/
theorem conn_ops_are_the_translated_source (c : Conn) (ch qid : Nat) (a : Bool) :
    c.addQueueC ch =
      (let c := { c with reserved := Translated.c05_addQ_reserved c.reserved }
       if Translated.c05_addQ_eol c.nextQid then (c, none)
       else
         let qid := Translated.c05_addQ_qid c.nextQid
         ({ c with nextQid := Translated.c05_addQ_next c.nextQid, queue := qput qid ch c.queue }, some qid)) ∧
    c.deleteQueueC qid =
      (let q := qdel qid c.queue
       { c with queue := q, closed := c.closed || Translated.c05_delQ_eol c.nextQid q.length }) ∧
    c.status = (c.closed, Translated.c05_status_avail a c.nextQid c.reserved) ∧
    c.reserve = { c with reserved := Translated.c05_reserve c.nextQid c.reserved } :=
  ⟨addQueueC_translated c ch, deleteQueueC_translated c qid, status_translated c a, reserve_translated c⟩

/-- tie (pinned source facts; the integer logic is tied by translation, see above): the map
    operations keyed by the wire id, channel capacity 1, the non-blocking send with `default`, the
    deferred delete, the ID restore from the caller's bytes, where `setQid` writes. -/
theorem pins :
    Facts.pipe_queuePut = "c.queue[uint32(qid)] = respChan" ∧
    Facts.pipe_chanCap = "respChan := make(chan *dnsmsg.Msg, 1)" ∧
    Facts.pipe_deferDelete = "defer c.deleteQueueC(qid)" ∧
    Facts.pipe_idRestore = "r.Header.ID = binary.BigEndian.Uint16(m)" ∧
    Facts.pipe_recv = "r := <-respChan" ∧
    Facts.pipe_lookup = "resChan := c.getQueueC(r.Header.ID)" ∧
    Facts.pipe_nbSelect = "select { case resChan <- r: default: dnsmsg.ReleaseMsg(r) }" ∧
    Facts.pipe_getQueueC = "return c.queue[uint32(qid)]" ∧
    Facts.pipe_delete = "delete(c.queue, uint32(qid))" ∧
    Facts.pipe_setQidTcp = "setQid(b, 2, qid)" ∧
    Facts.pipe_setQidUdp = "setQid(bb, 0, qid)" ∧
    Facts.pipe_setQidBody = "binary.BigEndian.PutUint16(payload[off:], qid)" :=
  ⟨rfl, rfl, rfl, rfl, rfl, rfl, rfl, rfl, rfl, rfl, rfl, rfl⟩

/-- tie: every read error ends the read loop with the connection closed (`closeWithErr … return`); the only
    `continue`s of the loop are the two of the datagram branch. -/
theorem pins_read_error_closes :
    Facts.pipe_readErrClose = "if err != nil { if errors.Is(err, os.ErrDeadlineExceeded) { err = ErrIdleTimeOut } c.closeWithErr(fmt.Errorf(\"read err, %w\", err)) return }" ∧
    Facts.pipe_readLoopContinues = 2 := ⟨rfl, rfl⟩

end MosVerif.C05
