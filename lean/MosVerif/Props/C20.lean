/-
  C20 — Recycled memory is exclusively owned (what an executable model can carry).

  * `safe` is the ownership monitor; `safe_iff_per_object` shows ownership is a per-object property, hence
    `disjoint_interleave_safe`: activities that touch disjoint objects cannot interfere in ANY interleaving;
    `no_use_after_release`, `no_double_release`, `no_foreign_use` say what a safe trace excludes.
  * protocol models of the cross-goroutine hand-offs in the code: every interleaving is safe
    (finite quantifier: the interleavings of two short programs — decided exhaustively), and the pre-fix
    reuse-transport hand-off has an unsafe interleaving (witness).
  * `poolSafe` is the monitor run on get/release traces recorded from the real code by the pool hook.
  * `Model/PoolView`: the DoH GET decode sees `buf[:n]` only; the whole-buffer view leaks (D60).
  Freedom from data races as such (Go memory model) is NOT expressible here and is not claimed.
-/
import MosVerif.Lemmas.OwnLemmas
import MosVerif.Lemmas.PoolView
import MosVerif.Generated.Facts
namespace MosVerif.C20
open MosVerif.Own

/-- ★ Ownership is a per-object property: a trace is safe iff its events on each single object are. -/
theorem safe_iff_per_object (tr : List Event) : safe tr = true ↔ ∀ b, safeFromB b none tr = true :=
  safeFrom_iff_per_object noOwners tr

/-- ★ Two activities that touch disjoint sets of objects (two requests with their own messages and
    buffers) stay safe under EVERY interleaving: neither can observe or corrupt the other's data. -/
theorem disjoint_interleave_safe (xs ys : List Event)
    (hdisj : ∀ ex ∈ xs, ∀ ey ∈ ys, ex.buf ≠ ey.buf) (hx : safe xs = true) (hy : safe ys = true) :
    ∀ tr ∈ interleavings xs ys, safe tr = true := by
  intro tr htr
  rw [safe_iff_per_object] at *
  intro b
  by_cases hbx : ∃ ex ∈ xs, ex.buf = b
  · obtain ⟨ex, hex, rfl⟩ := hbx
    rw [safeFromB_interleave _ xs ys tr htr fun e he h' => hdisj ex hex e he h'.symm]
    exact hx _
  · have hnx : ∀ e ∈ xs, e.buf ≠ b := fun e he h' => hbx ⟨e, he, h'⟩
    rw [safeFromB_interleave _ ys xs tr (interleavings_comm_mem _ _ _ htr) hnx]
    exact hy _

/-- ★ no use after release: in a safe trace an object that was released is obtained again (`get`)
    before anybody uses it. -/
theorem no_use_after_release (pre mid post : List Event) (t u : Thread) (b : Buf)
    (hmid : ∀ e ∈ mid, e.buf ≠ b) : safe (pre ++ [.release t b] ++ mid ++ [.use u b] ++ post) = false :=
  release_then_stuck pre mid post t b (.use u b) rfl (fun _ h => Event.noConfusion h) hmid

theorem no_double_release (pre mid post : List Event) (t u : Thread) (b : Buf)
    (hmid : ∀ e ∈ mid, e.buf ≠ b) : safe (pre ++ [.release t b] ++ mid ++ [.release u b] ++ post) = false :=
  release_then_stuck pre mid post t b (.release u b) rfl (fun _ h => Event.noConfusion h) hmid

/-- ★ only the owner may use, hand over or release an object: a foreign use makes the trace unsafe -/
theorem no_foreign_use (t u : Thread) (b : Buf) (h : t ≠ u) (post : List Event) :
    safe ([.get t b, .use u b] ++ post) = false := by
  -- the `get` makes `t` the owner of `b`; the `use` by `u` is then refused
  show safeFrom noOwners (.get t b :: .use u b :: post) = false
  rw [safeFrom, show transition (noOwners (Event.get t b).buf) (.get t b) = some (some t) from rfl]
  show safeFrom (setOwner noOwners b (some t)) (.use u b :: post) = false
  rw [safeFrom, show (Event.use u b).buf = b from rfl, setOwner_same, transition,
    if_neg fun h' => h (Option.some.inj h')]

/-! ### protocol models of the hand-offs in the code (threads: 0 = caller / loop, 1 = worker / handler) -/

/-- reuse transport after the repair (a0d8595): the caller copies the payload (object 1) for the worker,
    hands the copy over at spawn, and releases its own payload (object 0) whenever it returns;
    the worker writes the copy and releases it. -/
def reuseCallerPre : List Event := [.get 0 0, .use 0 0, .get 0 1, .use 0 1, .send 0 1 1]
def reuseCallerRest : List Event := [.use 0 0, .release 0 0]      -- may return early (ctx done) or late
def reuseWorker : List Event := [.use 1 1, .release 1 1]

/-- ★ every interleaving of caller and worker after the spawn is safe -/
theorem reuse_handoff_safe :
    ∀ tr ∈ interleavings reuseCallerRest reuseWorker, safe (reuseCallerPre ++ tr) = true := by
  simp only [interleavings, reuseCallerRest, reuseWorker, reuseCallerPre, List.map, List.cons_append, List.nil_append]
  decide

/-- before the repair the worker wrote the caller's own payload, which the caller's deferred release
    could return to the pool first: an unsafe interleaving exists (D15) -/
def reuseOldCallerPre : List Event := [.get 0 0, .use 0 0, .send 0 1 0]
def reuseOldCallerRest : List Event := [.release 0 0]
def reuseOldWorker : List Event := [.use 1 0]
theorem reuse_old_handoff_unsafe :
    ∃ tr ∈ interleavings reuseOldCallerRest reuseOldWorker, safe (reuseOldCallerPre ++ tr) = false := by
  refine ⟨[.release 0 0, .use 1 0], ?_, by decide⟩
  simp [interleavings, reuseOldCallerRest, reuseOldWorker]

/-- UDP listener: the read loop (0) decodes its receive buffer (object 0, never pooled: it stays the
    loop's) into a fresh message (object 1), hands the message to the handler goroutine (1) and goes on
    reusing the receive buffer; the handler uses and releases the message. -/
theorem udp_handoff_safe :
    ∀ tr ∈ interleavings [.use 0 0, .use 0 0] [.use 1 1, .use 1 1, .release 1 1],
      safe ([.get 0 0, .use 0 0, .get 0 1, .use 0 1, .send 0 1 1] ++ tr) = true := by
  simp only [interleavings, List.map, List.cons_append, List.nil_append]
  decide

/-- cache entry recycle vs reader: the reader (1) copies the value under the entry lock, so the entry's
    buffer (object 0) is only ever touched by its holder; the eviction path (0) releases it after the
    reader's critical section or before it (then the reader sees `v == nil` and touches nothing). -/
theorem cache_reader_safe :
    safe [.get 0 0, .use 0 0, .send 0 1 0, .use 1 0, .send 1 0 0, .release 0 0] = true ∧
    safe [.get 0 0, .use 0 0, .release 0 0] = true := by decide

/-- quic stream worker after the repair (8f5d69e): same shape as the reuse transport -/
theorem quic_handoff_safe :
    ∀ tr ∈ interleavings reuseCallerRest reuseWorker, safe (reuseCallerPre ++ tr) = true := reuse_handoff_safe

/-! ### the pool hook's monitor -/

/-- ★ the hook's monitor accepts a release only of a buffer that is currently handed out … -/
theorem poolStep_release (live : List Buf) (b : Buf) (l' : List Buf) (h : poolStep live (.release b) = some l') :
    b ∈ live ∧ l' = live.erase b := by
  simp only [poolStep] at h
  split at h
  · rename_i hc
    exact ⟨by simpa using hc, by simpa using h.symm⟩
  · simp at h

/-- … and a get only of a buffer that is not -/
theorem poolStep_get (live : List Buf) (b : Buf) (l' : List Buf) (h : poolStep live (.get b) = some l') :
    b ∉ live ∧ l' = b :: live := by
  simp only [poolStep] at h
  split at h
  · simp at h
  · rename_i hc
    exact ⟨by simpa using hc, by simpa using h.symm⟩

theorem poolSafe_double_release_rejected (b : Buf) (rest : List PoolEvent) :
    poolSafe [] ([.get b, .release b, .release b] ++ rest) = false := by
  simp [poolSafe, poolRun, poolStep]

example : safe [.get 0 5, .use 0 5, .send 0 1 5, .use 1 5, .release 1 5, .get 2 5, .release 2 5] = true := by decide
example : safe [.get 0 5, .release 0 5, .use 0 5] = false := by decide
example : poolSafe [] [.get 1, .release 1, .get 1, .release 1] = true := by decide
example : poolSafe [] [.get 1, .release 1, .release 1] = false := by decide

/-! ### what a function may see of a pooled buffer (Model/PoolView: the DoH GET decode, defect D60) -/

/-- ★ the DoH GET path parses exactly the octets the base64 decoder produced — `buf[:n]` — whatever the previous
    owner of the pooled buffer left in it: two requests that decode alike are parsed alike. -/
theorem doh_get_view_independent_of_previous_owner (d₁ d₂ decoded : PoolView.Bytes)
    (h₁ : decoded.length ≤ d₁.length) (h₂ : decoded.length ≤ d₂.length) :
    PoolView.viewFixed d₁ decoded = PoolView.viewFixed d₂ decoded ∧ PoolView.viewFixed d₁ decoded = some decoded :=
  ⟨PoolView.viewFixed_independent d₁ d₂ decoded h₁ h₂, PoolView.viewFixed_eq d₁ decoded h₁⟩

/-- the hypothesis is what distinguishes the repaired code: parsing the whole buffer shows the previous owner's
    octets verbatim as soon as the decoder skipped a character -/
theorem doh_get_whole_buffer_leaks (junk decoded tail : PoolView.Bytes) (h : junk.length = decoded.length) :
    PoolView.viewWhole (junk ++ tail) decoded = some (decoded ++ tail) :=
  PoolView.viewWhole_shows_tail junk decoded tail h

/-- tie (pinned source facts): both HTTP listeners keep the decoder's count and parse `buf[:n]` -/
theorem pins_poolview :
    Facts.pv_fastDecode = "n, err := base64.RawURLEncoding.Decode(buf, base64Dns)" ∧
    Facts.pv_fastView = "reqWireMsg = buf[:n]" ∧
    Facts.pv_goDecode = "n, err := base64.RawURLEncoding.Decode(buf, utils.Str2BytesUnsafe(s))" ∧
    Facts.pv_goView = "reqWireMsg = buf[:n]" :=
  ⟨rfl, rfl, rfl, rfl⟩

end MosVerif.C20
