/-
  C08 — Cached answers age correctly and expire on time.
  Models: Model/Ttl (memory backend), Model/RedisCache (both backends), Model/StoreRace (two concurrent stores).
  Lemmas: Lemmas/Ttl (the lifetime), TtlHist (histories), TtlSpec (the executable specification), RedisCache, StoreRace.
-/
import MosVerif.Lemmas.TranslatedC08
import MosVerif.Lemmas.Ttl
import MosVerif.Lemmas.TtlHist
import MosVerif.Lemmas.TtlSpec
import MosVerif.Lemmas.RedisCache
import MosVerif.Lemmas.StoreRace
import MosVerif.Generated.Facts
namespace MosVerif.C08
open MosVerif.Ttl

/-! ### the lifetime policy -/

/-- `time.Duration(u) * time.Second` never overflows int64, for every uint32 `u` (2³²·10⁹ < 2⁶³). -/
theorem minTTL_duration_no_overflow (u : UInt32) : durOfSeconds u = (u.toNat : Int) * second :=
  durOfSeconds_eq u

/-- ★ The lifetime `cacheCtl.Store` gives to a response, for every message and every configured maximum whose
    seconds·10⁹ fit int64: at least 1 s; at most the configured maximum (6 h when the setting is ≤ 0); at most
    30 s for NXDOMAIN; exactly 1 s for SERVFAIL; at most 5 s for the other error codes; at most 30 s for an answer
    without records; at most the smallest record TTL when there are records (1 s when that TTL is 0). -/
theorem lifetime_bounds (m : Msg) (cfgMax : Int) (h1 : -9223372037 < cfgMax) (h2 : cfgMax < 9223372037) :
    second ≤ storeTtl m (initMaxTtl cfgMax) ∧
    storeTtl m (initMaxTtl cfgMax) ≤ initMaxTtl cfgMax ∧
    (cfgMax ≤ 0 → storeTtl m (initMaxTtl cfgMax) ≤ 21600 * second) ∧
    (0 < cfgMax → storeTtl m (initMaxTtl cfgMax) ≤ cfgMax * second) ∧
    (m.rcode = 3 → storeTtl m (initMaxTtl cfgMax) ≤ 30 * second) ∧
    (m.rcode = 2 → storeTtl m (initMaxTtl cfgMax) = second) ∧
    (m.rcode ≠ 0 → m.rcode ≠ 2 → m.rcode ≠ 3 → storeTtl m (initMaxTtl cfgMax) ≤ 5 * second) ∧
    ((getMinimalTTL m).2 = false → storeTtl m (initMaxTtl cfgMax) ≤ 30 * second) ∧
    ((getMinimalTTL m).2 = true → 1 ≤ (getMinimalTTL m).1.toNat →
        storeTtl m (initMaxTtl cfgMax) ≤ (getMinimalTTL m).1.toNat * second) ∧
    ((getMinimalTTL m).2 = true → (getMinimalTTL m).1.toNat = 0 → storeTtl m (initMaxTtl cfgMax) = second) := by
  -- the lifetime is the specification's, at least 1 s (`storeTtl_sane`): each line is a bound of `specLifetime`
  obtain ⟨hcap, s3, s2, s5, sno, shas⟩ := specLifetime_le m cfgMax
  have hrec : ((getMinimalTTL m).2 = false → specLifetime m cfgMax ≤ 30) ∧
      ((getMinimalTTL m).2 = true → specLifetime m cfgMax ≤ (getMinimalTTL m).1.toNat) := by
    rcases getMinimalTTL_eq m with ⟨hs, hg⟩ | ⟨t, hs, hg2, hg1⟩
    · rw [hg]; exact ⟨fun _ => sno hs, nofun⟩
    · rw [hg2, hg1]; exact ⟨nofun, fun _ => shas t hs⟩
  have lo := second_le_storeTtl m cfgMax h1 h2
  have le := storeTtl_le m cfgMax h1 h2
  have hc := le _ hcap (specCap_pos cfgMax)
  unfold specCap at hc
  refine ⟨lo, (storeTtl_pos m _ (initMaxTtl_pos cfgMax h1 h2)).2, fun h => ?_, fun h => ?_,
    fun h => le 30 (s3 h) (by decide),
    fun h => Int.le_antisymm (le 1 (s2 h) (by decide)) lo, fun h0 h2' h3 => le 5 (s5 h0 h2' h3) (by decide),
    fun h => le 30 (hrec.1 h) (by decide), fun h hu => le _ (hrec.2 h) hu,
    fun h hu => Int.le_antisymm (le 1 (Nat.le_trans (hrec.2 h) (by omega)) (by decide)) lo⟩
  · rwa [if_pos h] at hc
  · rw [if_neg (by omega)] at hc
    unfold second at *
    omega

/-- whatever is configured, no lifetime exceeds ten years (`maxCacheTtlLimit`, so that otter's uint32 second clock
    cannot wrap): lifetime = min(policy ttl, min(configured maximum, 10 y)) -/
theorem lifetime_le_ten_years (m : Msg) (cfgMax : Int) (h1 : -9223372037 < cfgMax) (h2 : cfgMax < 9223372037) :
    storeTtl m (initMaxTtl cfgMax) ≤ 315360000 * second ∧ initMaxTtl cfgMax ≤ 315360000 * second ∧
    (0 < cfgMax → cfgMax ≤ 315360000 → initMaxTtl cfgMax = cfgMax * second) := by
  have hl := lifeSec_le_tenYears m cfgMax
  rw [storeTtl_sane m cfgMax h1 h2, initMaxTtl_sec cfgMax h1 h2]
  unfold specCap
  generalize lifeSec m cfgMax = l at *
  simp only [Nat.min, tenYears, second] at *
  refine ⟨by omega, by omega, fun hp hle => ?_⟩
  rw [if_neg (by omega)]
  omega

/-- the floor and the cap alone: for any positive cap the result is positive and at most the cap -/
theorem storeTtl_range (m : Msg) (cap : Int) (hc : 0 < cap) :
    0 < storeTtl m cap ∧ storeTtl m cap ≤ cap :=
  storeTtl_pos m cap hc

example : storeTtl ⟨0, false, [⟨1, 300⟩, ⟨1, 20⟩], [], [⟨41, 0⟩]⟩ (initMaxTtl 0) = 20 * second := by decide
example : storeTtl ⟨0, false, [⟨1, 4294967295⟩], [], []⟩ (initMaxTtl 0) = 21600 * second := by decide
example : storeTtl ⟨3, false, [], [⟨6, 3600⟩], []⟩ (initMaxTtl 10) = 10 * second := by decide

/-! ### what is never stored -/

/-- ★ Truncated responses, nil responses and failed exchanges never reach the backend:
    `Store` returns before the backend call, and the miss path of `handleReq` returns before `Store`. -/
theorem tc_and_failures_never_stored :
    (∀ b m cap, m.tc = true → store b (some m) cap = none) ∧
    (∀ b cap, store b none cap = none) ∧
    (∀ r cap, store false r cap = none) ∧
    (∀ clock cfg mem k m now delay id, m.tc = true → cacheStore clock cfg mem k (some m) now delay id = mem) ∧
    (∀ clock cfg mem k now delay id, cacheStore clock cfg mem k none now delay id = mem) ∧
    (∀ clock cfg mem k now delay id,
        cacheGet clock mem k now = none → handleQuery clock cfg mem k .err now delay id = (mem, .failed)) ∧
    (∀ clock cfg mem k m now delay id,
        cacheGet clock mem k now = none → (removeEDNS0 m).tc = true →
        (handleQuery clock cfg mem k (.reply m) now delay id).1 = mem) := by
  refine ⟨?_, ?_, ?_, ?_, ?_, ?_, ?_⟩
  · intro b m cap h; cases b <;> simp [store, h]
  · intro b cap; cases b <;> simp [store]
  · intro r cap; simp [store]
  · intro clock cfg mem k m now delay id h
    cases hb : cfg.hasBackend <;> simp [cacheStore, store, h, hb]
  · intro clock cfg mem k now delay id
    cases hb : cfg.hasBackend <;> simp [cacheStore, store, hb]
  · intro clock cfg mem k now delay id h; simp [handleQuery, h]
  · intro clock cfg mem k m now delay id h htc
    cases hb : cfg.hasBackend <;> simp [handleQuery, h, cacheStore, store, htc, hb]

/-! ### error responses never displace an entry -/

/-- ★ An error response (rcode ≠ 0) is stored set-if-absent: if the key has a live node (one that is not expired
    on the cache clock when the Store runs) — in particular a live positive entry — `Store` changes nothing at all,
    so every later lookup sees exactly what it saw before. (An expired leftover does not count: MemoryCache.Store
    removes it and stores the error response.) -/
theorem negative_never_displaces_live_positive (clock : Nat → Nat) (cfg : Cfg) (mem : Mem) (k : Nat) (m : Msg)
    (now delay id : Nat) (e : Entry) (hneg : m.rcode ≠ 0) (hpres : mem k = some e)
    (hlive : clock (now + delay) < e.expTick) :
    cacheStore clock cfg mem k (some m) now delay id = mem ∧
    ∀ t, cacheGet clock (cacheStore clock cfg mem k (some m) now delay id) k t = cacheGet clock mem k t := by
  have h := cacheStore_neg_present clock cfg mem k m now delay id e hneg hpres hlive
  exact ⟨h, fun t => by rw [h]⟩

/-- an expired leftover is replaced (otter keeps expired nodes in its map; they must not block error responses) -/
example :
    let clock : Nat → Nat := fun t => t / G
    let cfg : Cfg := ⟨true, initMaxTtl 0⟩
    let mem1 := cacheStore clock cfg Mem.empty 7 (some ⟨0, false, [⟨1, 1⟩], [], []⟩) 0 0 1
    let mem2 := cacheStore clock cfg mem1 7 (some ⟨3, false, [], [], []⟩) (2 * G) 0 2
    ((cacheGet clock mem2 7 (3 * G)).map (fun p => p.2.id)) = some 2 := by decide

/-- by contrast a positive response (rcode 0) is stored with Set and replaces whatever is there -/
theorem positive_replaces (clock : Nat → Nat) (cfg : Cfg) (mem : Mem) (k : Nat) (m : Msg) (now delay id : Nat)
    (hb : cfg.hasBackend = true) (htc : m.tc = false) (hpos : m.rcode = 0) :
    ∃ e, cacheStore clock cfg mem k (some m) now delay id k = some e ∧ e.msg = m ∧ e.id = id ∧ e.stored = now :=
  cacheStore_pos clock cfg mem k m now delay id hb htc hpos

/-- non-vacuity: a live positive entry, an NXDOMAIN for the same key, the entry is still served -/
example :
    let clock : Nat → Nat := fun t => t / G
    let cfg : Cfg := ⟨true, initMaxTtl 0⟩
    let pos : Msg := ⟨0, false, [⟨1, 60⟩], [], []⟩
    let neg : Msg := ⟨3, false, [], [], []⟩
    let mem1 := cacheStore clock cfg Mem.empty 7 (some pos) 0 0 1
    let mem2 := cacheStore clock cfg mem1 7 (some neg) (5 * G) 0 2
    ((cacheGet clock mem2 7 (10 * G)).map (fun p => (p.2.id, p.1.ans))) = some (1, [⟨1, 50⟩]) := by decide

/-! ### served TTLs -/

/-- the records of the served copy are the stored records, aged one by one -/
theorem served_rrs (m : Msg) (d : UInt32) : (subtractTTL m d).rrs = m.rrs.map (subRR d) := by
  simp [subtractTTL, Msg.rrs]

/-- ★ A cache hit `elapsed` nanoseconds after the fetch serves the stored records in the stored order; every
    record that is not an OPT pseudo record carries exactly `max 1 (orig − ⌊elapsed / 1 s⌋)` — for all uint32 TTLs,
    0 and 2³²−1 included, without wrap-around; OPT records are untouched. (elapsed < 2³² s ≈ 136 years.) -/
theorem served_ttl_le (clock : Nat → Nat) (mem : Mem) (k now : Nat) (served : Msg) (e : Entry)
    (hget : cacheGet clock mem k now = some (served, e)) (hel : (now - e.stored) / G < 4294967296) :
    served.rrs.length = e.msg.rrs.length ∧
    ∀ i (hi : i < e.msg.rrs.length) (hi' : i < served.rrs.length),
      (served.rrs[i]).typ = (e.msg.rrs[i]).typ ∧
      ((e.msg.rrs[i]).typ ≠ typeOPT →
        (served.rrs[i]).ttl.toNat = Nat.max 1 ((e.msg.rrs[i]).ttl.toNat - (now - e.stored) / G)) ∧
      ((e.msg.rrs[i]).typ = typeOPT → served.rrs[i] = e.msg.rrs[i]) := by
  obtain ⟨-, -, rfl⟩ := cacheGet_some _ _ _ _ _ _ hget
  have hd : (elapsedDelta (now - e.stored)).toNat = (now - e.stored) / G := by
    unfold elapsedDelta
    rw [UInt32.toNat_ofNat']
    exact Nat.mod_eq_of_lt hel
  rw [served_rrs]
  refine ⟨by simp, ?_⟩
  intro i hi hi'
  simp only [List.getElem_map]
  by_cases hopt : (e.msg.rrs[i]).typ = typeOPT
  · rw [subRR_opt _ _ hopt]
    exact ⟨rfl, fun h => absurd hopt h, fun _ => rfl⟩
  · have := subRR_real (elapsedDelta (now - e.stored)) (e.msg.rrs[i]) hopt
    rw [hd] at this
    exact ⟨this.1, fun _ => this.2, fun h => absurd h hopt⟩

example : (subRR 5 ⟨1, 0⟩).ttl = 1 ∧ (subRR 5 ⟨1, 5⟩).ttl = 1 ∧ (subRR 5 ⟨1, 6⟩).ttl = 1 ∧
    (subRR 5 ⟨1, 4294967295⟩).ttl = 4294967290 ∧ (subRR 4294967295 ⟨1, 4294967295⟩).ttl = 1 ∧
    (subRR 5 ⟨41, 3⟩).ttl = 3 := by decide

/-! ### expiry -/

/-- ★ For every history — any sequence of Store calls, lookups, client queries and evictions, from the empty
    cache — and every cache clock that is never ahead of real time and less than one tick behind it:
    whatever a lookup or a client query is served at time `t` comes from a node whose stored message is not
    truncated, whose `expire − stored` is exactly the policy's lifetime for that message (bounded by
    `lifetime_bounds`), with `t < stored + lifetime + 2 s`, and the served copy is the stored message aged by
    the whole seconds elapsed. -/
theorem not_served_after (clock : Nat → Nat) (off : Nat) (cfg : Cfg) (hclk : ClockOK clock off)
    (hcap : 0 < cfg.maximumTtl) (steps : List Step) (hp : ∀ s ∈ steps, s.prompt) (id : Nat) :
    AllObsOK cfg off steps (runFrom clock cfg Mem.empty id steps).2 :=
  (run_sound clock off cfg hclk hcap steps Mem.empty id hp (inv_empty cfg off)).2

/-- the invariant holds in every reachable state -/
theorem reachable_inv (clock : Nat → Nat) (off : Nat) (cfg : Cfg) (hclk : ClockOK clock off)
    (hcap : 0 < cfg.maximumTtl) (steps : List Step) (hp : ∀ s ∈ steps, s.prompt) (id : Nat) :
    Inv cfg off (runFrom clock cfg Mem.empty id steps).1 :=
  (run_sound clock off cfg hclk hcap steps Mem.empty id hp (inv_empty cfg off)).1

/-- `not_served_after` for one lookup on any such state, in the contrapositive form of the property:
    2 s after the end of the lifetime the lookup misses -/
theorem miss_after_lifetime (clock : Nat → Nat) (off : Nat) (cfg : Cfg) (hclk : ClockOK clock off) (mem : Mem)
    (hinv : Inv cfg off mem) (k now : Nat)
    (hlate : ∀ e, mem k = some e → (e.stored : Int) + storeTtl e.msg cfg.maximumTtl + 2 * G ≤ now) :
    cacheGet clock mem k now = none := by
  cases hg : cacheGet clock mem k now with
  | none => rfl
  | some p =>
    obtain ⟨served, e⟩ := p
    obtain ⟨hm, hl, -⟩ := cacheGet_some _ _ _ _ _ _ hg
    have he := hinv k e hm
    have h1 := hit_before_expiry clock off cfg e now hclk he hl
    have h2 := hlate e hm
    have h3 := he.life
    simp only [G] at h1 h2
    omega

/-- non-vacuity: the clock assumption is satisfiable (an exact clock, the harness' clock), and an entry with a
    3 s lifetime stored at 0.9 s is served at 2.95 s (age 2 s) and is gone at 3.0 s (otter expires up to one
    tick early, never late), well before 3.9 s + 2 s. -/
example : ClockOK (fun t => t / G) 0 := clockOK_exact 0
example : ClockOK histClock (500 * msNs) := clockOK_hist
example :
    let clock : Nat → Nat := fun t => t / G
    let cfg : Cfg := ⟨true, initMaxTtl 0⟩
    let mem := cacheStore clock cfg Mem.empty 7 (some ⟨0, false, [⟨1, 3⟩], [], []⟩) 900000000 0 1
    ((cacheGet clock mem 7 2950000000).map (fun p => p.1.ans)) = some [⟨1, 1⟩] ∧
    (cacheGet clock mem 7 3000000000).isNone = true := by decide

/-! ### expiry with the redis backend (and both backends) -/

/-- ★ Both backends. For every history — Store calls, lookups, client queries, evictions in either backend, and
    redis applying each queued SET at ANY later instant or never (`apply t`, `drop`: the proxy's own queue, a slow
    or blocked server) — every configuration (memory only, redis only, both), every maximum that is a whole number
    of seconds, and every cache clock within one tick of real time: whatever is served at time `t` comes from an
    entry/value whose message is not truncated, whose carried `expire − stored` is exactly the policy's lifetime
    of that message (bounded by `lifetime_bounds`), with `t < stored + lifetime + 2 s` (from redis even
    `t < expire`: the carried expire time decides, not redis' own ttl), and it is the stored message aged by the
    whole seconds since `stored` — for a redis value the fetch instant cut to a whole Unix second, so it never
    looks younger than it is. -/
theorem not_served_after_both (clock : Nat → Nat) (off : Nat) (cfg : RedisCache.RCfg) (hcfg : RedisCache.RCfgOK cfg)
    (hclk : ClockOK clock off) (steps : List RedisCache.RStep) (hp : ∀ s ∈ steps, s.prompt) (id : Nat) :
    RedisCache.RAllObsOK cfg.maximumTtl steps (RedisCache.rRunFrom clock cfg RedisCache.RState.empty id steps).2 :=
  (RedisCache.rRun_sound clock off cfg hcfg hclk steps RedisCache.RState.empty id hp (RedisCache.rinv_empty cfg off)).2

/-- the configurations the router can have satisfy the hypothesis on the maximum -/
theorem redis_cfg_ok (mem red : Bool) (cfgMax : Int) (h1 : -9223372037 < cfgMax) (h2 : cfgMax < 9223372037) :
    RedisCache.RCfgOK ⟨mem, red, initMaxTtl cfgMax⟩ := RedisCache.rcfgOK_init mem red cfgMax h1 h2

/-- a hit of the redis path in one step: never at or after the expire time the value carries, however long redis
    itself keeps the key -/
theorem redis_hit_before_expire (clock : Nat → Nat) (cfg : RedisCache.RCfg) (st : RedisCache.RState) (k now : Nat)
    (v : RedisCache.RVal) (hmiss : cfg.hasMem = false) (hv : st.redis k = some v) (hlate : v.expire ≤ now) :
    (RedisCache.rGet clock cfg st k now).2 = none := by
  have : ¬ (now < v.gone ∧ now < v.expire) := by omega
  cases hr : cfg.hasRedis <;> simp [RedisCache.rGet, hmiss, hr, hv, this]

/-- non-vacuity: ttl 1 stored at 0.3 s; the SET (PX 999) is applied 2.6 s late, so redis
    has the key from 2.9 s to 3.9 s; a lookup at 3.6 s misses, one at 0.9 s (value applied at once) hits. -/
example :
    let cfg : RedisCache.RCfg := ⟨false, true, initMaxTtl 0⟩
    let clock : Nat → Nat := fun t => t / G
    let st1 := RedisCache.rStore clock cfg RedisCache.RState.empty 7 (some ⟨0, false, [⟨1, 1⟩], [], []⟩) 300000000 0 1
    let late := RedisCache.rApply st1 2900000000
    let prompt := RedisCache.rApply st1 300000000
    (RedisCache.rGet clock cfg late 7 3600000000).2.isNone = true ∧
    ((RedisCache.rGet clock cfg prompt 7 900000000).2.map (fun p => p.1.ans)) = some [⟨1, 1⟩] ∧
    (late.redis 7).map (fun v => (v.expire, v.gone)) = some (1000000000, 3900000000) := by decide

/-! ### the executable specification accepts the model -/

/-- ★ (ttlpolicy/store) the model's "Store, then Get at once" outcome satisfies the executable specification,
    for every response, backend presence and configured maximum (seconds·10⁹ within int64). -/
theorem store_model_meets_spec (hasBackend : Bool) (cfgMax : Int) (h1 : -9223372037 < cfgMax)
    (h2 : cfgMax < 9223372037) (m : Msg) : specStore hasBackend cfgMax m (modelStore hasBackend cfgMax m) = true := by
  unfold modelStore
  simp only
  cases hg : cacheGet (fun t => t / 1000000000)
      (cacheStore (fun t => t / 1000000000) ⟨hasBackend, initMaxTtl cfgMax⟩ Mem.empty 0 (some m) 0 0 1) 0 0 with
  | none => rfl
  | some p =>
    obtain ⟨served, e⟩ := p
    obtain ⟨hm, -, hs⟩ := cacheGet_some _ _ _ _ _ _ hg
    unfold cacheStore at hm
    cases hst : store hasBackend (some m) (initMaxTtl cfgMax) with
    | none => simp [hst, Mem.empty] at hm
    | some c =>
      obtain ⟨hb, htc, hmsg, httl, -⟩ := store_some _ _ _ _ hst
      simp only [hst, otterSet, Mem.empty] at hm
      have he : e.msg = m ∧ e.stored = 0 ∧ e.expire = (c.ttl).toNat := by
        cases hnx : c.setNX <;> simp [hnx, Mem.set] at hm <;> subst hm <;> simp [hmsg]
      obtain ⟨e1, e2, e3⟩ := he
      simp only [specStore, hb, htc, Bool.not_false, Bool.true_and, Bool.and_eq_true]
      refine ⟨?_, ?_⟩
      · have hl := storeTtl_le m cfgMax h1 h2 (Nat.max 1 (specLifetime m cfgMax)) (Nat.le_max_right _ _)
          (Nat.le_max_left _ _)
        unfold specLifeOK
        rw [e2, e3, httl, decide_eq_true_eq]
        generalize storeTtl m (initMaxTtl cfgMax) = L at hl ⊢
        generalize Nat.max 1 (specLifetime m cfgMax) = M at hl ⊢
        unfold second at hl
        omega
      · rw [hs, e1]
        exact specServed_sub m _ 0 (Nat.zero_le _)

example : modelStore true 0 ⟨0, false, [⟨1, 7⟩], [], []⟩ = some (7000000000, ⟨0, false, [⟨1, 7⟩], [], []⟩) := by decide
/-- the specification is not vacuous: it rejects too long a life, a cached TC answer and an un-aged TTL of 0 -/
example : specStore true 0 ⟨2, false, [], [], []⟩ (some (2000000000, ⟨2, false, [], [], []⟩)) = false := by decide
example : specStore true 0 ⟨0, true, [⟨1, 7⟩], [], []⟩ (some (7000000000, ⟨0, true, [⟨1, 7⟩], [], []⟩)) = false := by decide
example : specStore true 5 ⟨0, false, [⟨1, 7⟩], [], []⟩ (some (7000000000, ⟨0, false, [⟨1, 7⟩], [], []⟩)) = false := by decide
example : specStore true 0 ⟨0, false, [⟨1, 7⟩], [], []⟩ (some (7000000000, ⟨0, false, [⟨1, 8⟩], [], []⟩)) = false := by decide

/-- ★ (ttlpolicy/subttl) SubtractTTL's result satisfies the specification for every message and delta -/
theorem subttl_model_meets_spec (m : Msg) (d : UInt32) : specServed d.toNat m (subtractTTL m d) = true :=
  specServed_sub m d d.toNat (Nat.le_refl _)

example : specServed 5 ⟨0, false, [⟨1, 7⟩], [], []⟩ ⟨0, false, [⟨1, 3⟩], [], []⟩ = false := by decide
/-- a wrapped subtraction would be rejected -/
example : specServed 9 ⟨0, false, [⟨1, 7⟩], [], []⟩ ⟨0, false, [⟨1, 4294967294⟩], [], []⟩ = false := by decide

/-- ★ (ttlpolicy/minttl) GetMinimalTTL returns the smallest TTL among the non-OPT records, and (0,false) when
    there is none -/
theorem minttl_model_meets_spec (m : Msg) : specMin m (getMinimalTTL m) = true := getMinimalTTL_spec m

example : specMin ⟨0, false, [⟨1, 7⟩, ⟨41, 2⟩], [], [⟨1, 9⟩]⟩ (2, true) = false := by decide

/-- ★ (ttlpolicy/hist) For every history of harness events (Store, Store(nil), lookup, client query with any
    upstream outcome; any keys, messages, planned times in order, below 31 years) and every configured maximum: the
    observations of the model satisfy the executable specification written from the property text — provenance
    (only fetched, non-truncated responses are ever served), lifetime bound, "not served after lifetime + 2 s",
    aged TTLs, and "an error response never displaces a live positive entry". -/
theorem hist_model_meets_spec (cfgMax : Int) (h1 : -9223372037 < cfgMax) (h2 : cfgMax < 9223372037)
    (evs : List Ev) (hsorted : sortedEvs evs = true) (hshort : shortEvs evs = true)
    (hkinds : ∀ e ∈ evs, e.kind ≤ 3) :
    specHist cfgMax evs (modelHist cfgMax evs) = true := by
  unfold specHist modelHist
  exact run_spec cfgMax h1 h2 evs hsorted hshort hkinds evs 0 Mem.empty (hinv_start cfgMax evs) (by intro i; simp)

/-- the specification of histories is not vacuous: it rejects an entry served 3 s after a 1 s lifetime, an
    NXDOMAIN that displaced a live positive entry, a cached answer to a failed exchange, an un-aged TTL -/
example : specHist 0 [⟨0, 0, 1, .reply ⟨0, false, [⟨1, 1⟩], [], []⟩⟩, ⟨3500, 2, 1, .err⟩]
    [.none, .hit ⟨0, 1000000000, 0, ⟨0, false, [⟨1, 1⟩], [], []⟩, 1⟩ ⟨0, false, [⟨1, 1⟩], [], []⟩] = false := by decide
example : specHist 0 [⟨0, 0, 1, .reply ⟨0, false, [⟨1, 60⟩], [], []⟩⟩, ⟨0, 0, 1, .reply ⟨3, false, [], [], []⟩⟩, ⟨0, 2, 1, .err⟩]
    [.none, .none, .hit ⟨0, 30000000000, 0, ⟨3, false, [], [], []⟩, 2⟩ ⟨3, false, [], [], []⟩] = false := by decide
example : specHist 0 [⟨0, 3, 1, .err⟩, ⟨0, 2, 1, .err⟩]
    [.q .failed, .hit ⟨0, 1000000000, 0, ⟨2, false, [], [], []⟩, 0⟩ ⟨2, false, [], [], []⟩] = false := by decide
example : specHist 0 [⟨0, 0, 1, .reply ⟨0, false, [⟨1, 60⟩], [], []⟩⟩, ⟨2300, 2, 1, .err⟩]
    [.none, .hit ⟨0, 60000000000, 0, ⟨0, false, [⟨1, 60⟩], [], []⟩, 1⟩ ⟨0, false, [⟨1, 60⟩], [], []⟩] = false := by decide
example : specHist 0 [⟨0, 0, 1, .reply ⟨0, false, [⟨1, 60⟩], [], []⟩⟩, ⟨2300, 2, 1, .err⟩]
    [.none, .hit ⟨0, 60000000000, 0, ⟨0, false, [⟨1, 60⟩], [], []⟩, 1⟩ ⟨0, false, [⟨1, 58⟩], [], []⟩] = true := by decide

/-! ### tie: pinned source facts -/

/-- Source pins: what the translated fragments do not carry (call targets, statement order, nil-ness tests, field
    assignments). The integer / boolean logic of `initCache`'s maximum, of `Store`'s lifetime switch, floor and cap,
    of `msgRrMinTtl`, `negativeResp` and AsyncStore's `ttlMs <= 10` is tied by translation instead
    (Lemmas/TranslatedC08.lean: `c08_initMaxTtl_translated`, `Store_ttl_translated`, `c08_minDur_translated`,
    `c08_negativeResp_translated`, `c08_redisTtlTooShort_translated`), and so are the loop bodies of GetMinimalTTL /
    SubtractTTL (`c08_minStep_translated`, `c08_subRR_translated`) and `expireTime := now.Add(ttl)`,
    `time.Until(expireTime)`, `ttlMs` (`c08_expireAt_translated`, `c08_memUntil_translated`, `c08_redisTtlMs_translated`). -/
theorem pins :
    Facts.ttl_defaultMaxCacheTtl = 21600000000000 ∧
    Facts.ttl_noBackendCond = "c.memory == nil && c.redis == nil" ∧
    Facts.ttl_skipCond = "resp == nil || resp.Header.Truncated" ∧
    Facts.ttl_minCall = "u, hasRr := dnsutils.GetMinimalTTL(resp)" := by
  refine ⟨?_, ?_, ?_, ?_⟩ <;> rfl

theorem pins_3 :
    Facts.ttl_storedAssign = "storedTime := now" ∧
    Facts.ttl_memStoreCall = "c.memory.Store(k, storedTime, expireTime, v, negativeResp)" ∧
    Facts.ttl_getSubtract = "dnsutils.SubtractTTL(m, uint32(time.Since(storedTime).Seconds()))" ∧
    Facts.ttl_memSetNXCond = "setNX" := by
  refine ⟨?_, ?_, ?_, ?_⟩ <;> rfl

theorem pins_4 :
    Facts.ttl_memSetIfAbsent = "ok := c.backend.SetIfAbsent(ks, e, ttl)" ∧
    Facts.ttl_memSet = "if !c.backend.Set(ks, e, ttl) { releaseEntry(e) }" ∧
    Facts.ttl_memStoredField = "e.storedTime = storedTime" ∧
    Facts.ttl_memExpireField = "e.expireTime = expireTime" ∧
    Facts.ttl_minInit = "minTTL := ^uint32(0)" ∧
    Facts.ttl_minNoRecord = "if !hasRecord { return 0, false }" := by
  refine ⟨?_, ?_, ?_, ?_, ?_, ?_⟩ <;> rfl

theorem pins_5 :
    Facts.ttl_minSections = 1 ∧
    Facts.ttl_subSections = 1 ∧
    Facts.ttl_typeOPT = typeOPT ∧
    Facts.ttl_rcodeSuccess = 0 ∧
    Facts.ttl_rcodeServFail = 2 ∧
    Facts.ttl_rcodeNX = 3 := by
  refine ⟨?_, ?_, ?_, ?_, ?_, ?_⟩ <;> rfl

theorem pins_6 :
    Facts.ttl_missStore = "r.cache.Store(q, rc.RemoteAddr.Addr(), resp)" ∧
    Facts.ttl_storeCallsInHandle = 1 ∧
    Facts.ttl_missErrReturn = "if err != nil { r.logger.Warn(). Str(\"upstream\", upstream.tag). Err(err). Msg(\"failed to forward query\") makeEmptyResp(q, rc, uint16(dnsmsg.RCodeServerFailure)) return }" ∧
    Facts.ttl_prefetchErrReturn = "if err != nil { r.logger.Warn().Object(\"query\", (*qLogObj)(q)).Str(\"upstream\", u.tag).Err(err). Msg(\"failed to prefetch\") return }" := by
  refine ⟨?_, ?_, ?_, ?_⟩ <;> rfl

/-- a refused set-if-absent is retried over an expired leftover, entries are
    not recycled, the maximum is limited to ten years -/
theorem pins_7 :
    Facts.ttl_memRetryGuard = "!ok" ∧
    Facts.ttl_memRetry = "if _, alive := c.backend.Get(ks); !alive { c.backend.Delete(ks) ok = c.backend.SetIfAbsent(ks, e, ttl) }" ∧
    Facts.ttl_memNewEntry = "{ return new(cacheEntry) }" ∧
    Facts.ttl_memReleasePool = 0 ∧
    Facts.ttl_maxLimit = 315360000000000000 := by
  refine ⟨?_, ?_, ?_, ?_, ?_⟩ <;> rfl

/-- the redis path and forward's RemoveEDNS0 -/
theorem pins_8 :
    Facts.ttl_redisHitCond = "v != nil && time.Now().Before(expireTime)" ∧
    Facts.ttl_redisGetCall = "storedTime, expireTime, v = c.redis.Get(ctx, key)" ∧
    Facts.ttl_redisFill = "c.memory.Store(key, storedTime, expireTime, v, true)" ∧
    Facts.ttl_redisSubtract = "dnsutils.SubtractTTL(m, uint32(time.Since(storedTime).Seconds()))" ∧
    Facts.ttl_redisStoreCall = "c.redis.AsyncStore(k, storedTime, expireTime, v, negativeResp)" := by
  refine ⟨?_, ?_, ?_, ?_, ?_⟩ <;> rfl

theorem pins_9 :
    Facts.ttl_redisValStored = "binary.BigEndian.PutUint64(b, uint64(storedTime.Unix()))" ∧
    Facts.ttl_redisValExpire = "binary.BigEndian.PutUint64(b[8:], uint64(expireTime.Unix()))" ∧
    Facts.ttl_redisGetStored = "storedTime = time.Unix(int64(binary.BigEndian.Uint64(b[:8])), 0)" ∧
    Facts.ttl_redisGetExpire = "expireTime = time.Unix(int64(binary.BigEndian.Uint64(b[8:16])), 0)" ∧
    Facts.ttl_removeOptBody = "{ n := 0 for _, r := range rs { if r.Hdr().Type == TypeOPT { ReleaseResource(r) continue } rs[n] = r n++ } for i := n; i < len(rs); i++ { rs[i] = nil } return rs[:n] }" ∧
    Facts.ttl_removeEDNS0Body = "{ m.Answers = removeOpt(m.Answers) m.Authorities = removeOpt(m.Authorities) m.Additionals = removeOpt(m.Additionals) }" ∧
    Facts.ttl_forwardRemove = "dnsmsg.RemoveEDNS0(resp)" := by
  refine ⟨?_, ?_, ?_, ?_, ?_, ?_, ?_⟩ <;> rfl

/-- the model's constants are the pinned ones -/
theorem pins_model : (Facts.ttl_defaultMaxCacheTtl : Int) = defaultMaxCacheTtl ∧
    (Facts.ttl_maxLimit : Int) = maxCacheTtlLimit := by decide

/-! ### concurrency of two stores of one key (Model/StoreRace: every backend call is a step of its own) -/

/-- ★ an error response never displaces a live positive entry, for every interleaving: a plain (positive) store
    and a set-if-absent (error) store of one key run concurrently over whatever the backend held before
    (nothing, an expired leftover, a live entry); when both have returned the key holds the positive value.
    This is what licenses the other cache models to treat the backend calls of one `Store` as one atomic step. -/
theorem concurrent_negative_never_displaces (s0 : StoreRace.Slot) (sched : List Bool)
    (hf : StoreRace.finished (StoreRace.run true sched (StoreRace.init s0)) = true) :
    (StoreRace.run true sched (StoreRace.init s0)).slot = .live .p :=
  StoreRace.locked_final_is_plain s0 sched hf

/-- ★ and the end state is that of both serial orders (serializability of the two stores) -/
theorem concurrent_stores_serializable (s0 : StoreRace.Slot) (sched : List Bool)
    (hf : StoreRace.finished (StoreRace.run true sched (StoreRace.init s0)) = true) :
    (StoreRace.run true sched (StoreRace.init s0)).slot = (StoreRace.serialPN true s0).slot ∧
    (StoreRace.run true sched (StoreRace.init s0)).slot = (StoreRace.serialNP true s0).slot :=
  StoreRace.locked_is_serial s0 sched hf

/-- the hypothesis is satisfiable (the serial schedule finishes), and the lock of the plain branch is
    necessary: without it an expired leftover and one particular schedule leave the refused value in the cache -/
theorem concurrent_stores_nonvacuous :
    (∀ s0, StoreRace.finished (StoreRace.serialPN true s0) = true) ∧
    (∃ sched, StoreRace.finished (StoreRace.run false sched (StoreRace.init (.dead .init))) = true ∧
      (StoreRace.run false sched (StoreRace.init (.dead .init))).slot = .live .n) :=
  ⟨fun s0 => (StoreRace.serial_finishes s0).1, StoreRace.unlocked_can_displace⟩

end MosVerif.C08
