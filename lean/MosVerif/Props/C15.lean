/-
  C15 — Rate limiting is a per-client-subnet token bucket isolating clients.

  Property theorems over the model `MosVerif/Model/Limiter.lean` (helper lemmas in
  `MosVerif/Lemmas/Limiter*.lean`).  ★ marks the theorems that state the property.

  Vocabulary: a *history* is a list of `Op`s — arrivals `(address, time, cost)` and gc
  passes — run on `ClientLimiter.new c` for an arbitrary configuration `c` (any integers,
  omitted = 0).  `runOps` yields one verdict per arrival.  Keys are `mask c.setDefault addr`.
-/
import MosVerif.Lemmas.TranslatedC15
import MosVerif.Lemmas.LimiterSpec
import MosVerif.Lemmas.LimiterGc
import MosVerif.Lemmas.LimiterClock
import MosVerif.Lemmas.LimiterConc
import MosVerif.Lemmas.LimiterListener
import MosVerif.Generated.Facts
namespace MosVerif.C15
open MosVerif.Limiter

/-! ## the token bucket bound -/

theorem new_limit_pos (c : Opts) : 0 < (ClientLimiter.new c).limit := by
  rw [limit_of_opts c _ rfl]; exact specLimit_pos c

/-- ★ **bucket_bound.**  For every configuration, every time-ordered history (arrivals from
    any addresses, gc passes anywhere), every subnet key `k` and every time window `[a, b]`:
    the cost admitted for `k` inside the window is at most
    `burst + rate·(b − a)` plus the dependency's truncation slack of `rate − 1` nano-tokens
    (< 10⁻⁹·rate token).  Units: nano-tokens; `b − a` in ns. -/
theorem bucket_bound (c : Opts) (os : List Op) (hs : sortedOps os = true) (k : Addr) (a b : Nat) (hab : a ≤ b) :
    admittedCost (inWindow c.setDefault k a b) os ((ClientLimiter.new c).runOps os) * nano
      ≤ specBurst c * nano + specLimit c * (b - a) + (specLimit c - 1) := by
  have hsort := sortedFrom_of_sortedOps os hs
  have h := window_outside k a b hab os (ClientLimiter.new c) 0 (new_limit_pos c)
    (Bucket.inv_fresh _ (new_limit_pos c) 0) hsort (Nat.zero_le _)
  have hr : (ClientLimiter.new c).runOps os = (ClientLimiter.new c).runOpsAtWith true os :=
    runOpsWith_eq_at true os _ 0 (ClientLimiter.seenLe_new c 0) hsort
  have ho : (ClientLimiter.new c).opts = c.setDefault := rfl
  rw [limit_of_opts c _ rfl, burst_of_opts c _ rfl, ho, ← hr] at h
  have hp := specLimit_pos c
  omega

/-- the same bound, phrased with the specification's subnet relation: the arrivals counted
    are those from the same client subnet as `x` (/24, /48 or as configured). -/
theorem bucket_bound_subnet (c : Opts) (os : List Op) (hs : sortedOps os = true) (x : Addr) (a b : Nat) (hab : a ≤ b) :
    admittedCost (fun e => specSame c x e.addr && decide (a ≤ e.t) && decide (e.t ≤ b)) os
        ((ClientLimiter.new c).runOps os) * nano
      ≤ specBurst c * nano + specLimit c * (b - a) + (specLimit c - 1) := by
  have h := bucket_bound c os hs (mask c.setDefault x) a b hab
  have hf : (fun e : Ev => specSame c x e.addr && decide (a ≤ e.t) && decide (e.t ≤ b))
      = inWindow c.setDefault (mask c.setDefault x) a b := by
    funext e
    simp only [inWindow, specSame_eq]
    congr 2
    apply decide_eq_decide.mpr
    exact eq_comm
  rw [hf]; exact h

/-- non-vacuity: a burst of exactly the bucket size is admitted, one more is not. -/
example : (ClientLimiter.new ⟨1, 5, 0, 0⟩).runOps
    [.allow ⟨.v4 0xC0000207, 0, 5⟩, .allow ⟨.v4 0xC0000208, 0, 1⟩, .allow ⟨.v4 0xC0000307, 0, 1⟩]
    = [true, false, true] := by decide

/-! ## time stamps in any order (repair f8b61d0) -/

/-- ★ **bucket_bound_any_order.**  `AllowN` takes the caller's time stamp, and a caller that is
    delayed between `time.Now()` and the bucket's lock arrives with an older one.  For every
    configuration, after any history `pre` (arrivals, gc passes), for every run `mid` of
    consecutive arrivals with time stamps in ANY order and every subnet key `k`: the cost admitted
    for `k` in `mid` is at most `burst + rate × (newest − oldest time stamp of k's arrivals in
    mid)` plus the truncation slack.  (The bucket's effective clock is the newest time stamp it
    has seen.) -/
theorem bucket_bound_any_order (c : Opts) (pre : List Op) (mid : List Ev) (k : Addr) :
    admittedK c.setDefault k mid (((ClientLimiter.new c).afterOps pre).run mid) * nano
      ≤ specBurst c * nano + specLimit c * spanK c.setDefault k mid + (specLimit c - 1) := by
  have ho : ((ClientLimiter.new c).afterOps pre).opts = c.setDefault := ClientLimiter.afterOps_opts pre _
  have hL : ((ClientLimiter.new c).afterOps pre).limit = specLimit c := limit_of_opts c _ ho
  have hB : ((ClientLimiter.new c).afterOps pre).burst = specBurst c := burst_of_opts c _ ho
  have h := any_order_bound k mid ((ClientLimiter.new c).afterOps pre) (hL ▸ specLimit_pos c)
    (ClientLimiter.ok_afterOps pre _ (new_limit_pos c) (ClientLimiter.ok_new c))
  rw [ho, hL, hB] at h
  have hp := specLimit_pos c
  omega

/-- **witness for the repaired defect** (f8b61d0): without the clamp (`runAt`: the time stamp is
    handed to `rate.Limiter` as it comes) the bound is false — rate 2/s, burst 2, a fresh
    caller (t = 2 s) alternating with a caller that is 1 s late (t = 1 s): every stale
    admission moves the bucket's `last` back and the next fresh one is credited the second
    again; 6 admitted where `burst + rate × (2 s − 1 s)` = 4.  With the clamp: 2. -/
theorem unclamped_breaks_bound :
    let c : Opts := ⟨2, 2, 0, 0⟩
    let a : Addr := .v4 0xC0000207
    let es : List Ev := [⟨a, 2 * nano, 1⟩, ⟨a, 1 * nano, 1⟩, ⟨a, 2 * nano, 1⟩, ⟨a, 1 * nano, 1⟩, ⟨a, 2 * nano, 1⟩, ⟨a, 1 * nano, 1⟩]
    (ClientLimiter.new c).runAt es = [true, true, true, true, true, true] ∧
    ¬ (admittedK c.setDefault (.v4 0xC0000200) es ((ClientLimiter.new c).runAt es) * nano
        ≤ specBurst c * nano + specLimit c * spanK c.setDefault (.v4 0xC0000200) es + (specLimit c - 1)) ∧
    (ClientLimiter.new c).run es = [true, true, false, false, false, false] := by
  decide

/-! ## isolation -/

/-- ★ **isolation.**  For every configuration and every history (no ordering assumption, gc
    passes included): the verdicts of the arrivals of key `k` are exactly the verdicts obtained
    on the history from which every other key's arrivals have been erased. -/
theorem isolation (c : Opts) (os : List Op) (k : Addr) :
    decisionsFor c.setDefault k os ((ClientLimiter.new c).runOps os)
      = (ClientLimiter.new c).runOps (onlyKey c.setDefault k os) :=
  isolation_clamped gcRequiresFull k os (ClientLimiter.new c) (ClientLimiter.new c) rfl rfl

/-- two histories with the same arrivals of `k` (and the same gc passes) give `k` the same verdicts -/
theorem isolation_two_histories (c : Opts) (os os' : List Op) (k : Addr)
    (h : onlyKey c.setDefault k os = onlyKey c.setDefault k os') :
    decisionsFor c.setDefault k os ((ClientLimiter.new c).runOps os)
      = decisionsFor c.setDefault k os' ((ClientLimiter.new c).runOps os') := by
  rw [isolation, isolation, h]

/-- non-vacuity: erasing really removes arrivals -/
example : onlyKey (Opts.setDefault ⟨0, 0, 0, 0⟩) (.v4 0xC0000200)
    [.allow ⟨.v4 0xC0000207, 0, 5⟩, .allow ⟨.v4 0xC0000307, 0, 1⟩, .gc 7] = [.allow ⟨.v4 0xC0000207, 0, 5⟩, .gc 7] := by
  decide

/-! ## garbage collection -/

/-- **gc_transparent.**  With the fullness requirement of `gc` (repair 0275661) the verdicts of a
    time-ordered history are those of its arrivals alone: gc passes are unobservable
    (for configurations within the dependency's range, `saneBurst`). -/
theorem gc_transparent (c : Opts) (os : List Op) (hs : sortedOps os = true) (hb : saneBurst c = true) :
    (ClientLimiter.new c).runOps os = (ClientLimiter.new c).run (Op.evs os) := by
  have hsane := sane_of_opts c (ClientLimiter.new c) rfl hb
  have h1 : (ClientLimiter.new c).runOps os = (ClientLimiter.new c).runOpsAtWith true os :=
    runOpsWith_eq_at true os _ 0 (ClientLimiter.seenLe_new c 0) (sortedFrom_of_sortedOps os hs)
  have h2 := gc_transparent_gen os (ClientLimiter.new c) (ClientLimiter.new c) 0
    (GcSim.refl _ 0)
    (sortedFrom_of_sortedOps os hs) hsane
  have h3 := run_eq_at (Op.evs os) (ClientLimiter.new c) 0 (ClientLimiter.seenLe_new c 0)
    (evs_sorted_of_ops os 0 (sortedFrom_of_sortedOps os hs))
  rw [h1, h2, h3]

/-- **witness for the repaired defect** (commit 0275661): with the *old* gc condition
    (`lastSeen.Before(ddl)` alone) the bound is false — rate 1/s, burst 200: 200 admitted at
    t = 0, a gc pass at t = 70 s drops the empty bucket, 200 more admitted at t = 71 s:
    400 > 200 + 71. -/
theorem gc_old_breaks_bound :
    let c : Opts := ⟨1, 200, 0, 0⟩
    let os : List Op := [.allow ⟨.v4 0xC0000207, 0, 200⟩, .gc (70 * nano), .allow ⟨.v4 0xC0000207, 71 * nano, 200⟩]
    sortedOps os = true ∧
    ¬ (admittedCost (inWindow c.setDefault (.v4 0xC0000200) 0 (71 * nano)) os
          ((ClientLimiter.new c).runOpsWith false os) * nano
        ≤ specBurst c * nano + specLimit c * (71 * nano - 0) + (specLimit c - 1)) := by
  decide

/-- … and the same history is within the bound with the fullness requirement -/
example :
    (ClientLimiter.new ⟨1, 200, 0, 0⟩).runOps
      [.allow ⟨.v4 0xC0000207, 0, 200⟩, .gc (70 * nano), .allow ⟨.v4 0xC0000207, 71 * nano, 200⟩]
      = [true, false] := by decide

/-- the three sequential orders of (gc pass, arrival of the whole burst, second such arrival at
    the same instant) on a full bucket that has been idle for 10 minutes: never both admitted.
    (Component `limiter_gcrace` looks for the outcome "both admitted" under real concurrency.) -/
example :
    let c : Opts := ⟨1, 1000, 0, 0⟩
    let a : Addr := .v4 0xC0000207
    let now := 600 * nano
    (ClientLimiter.new c).runOps [.allow ⟨a, 0, 0⟩, .gc now, .allow ⟨a, now, 1000⟩, .allow ⟨a, now, 1000⟩] = [true, true, false] ∧
    (ClientLimiter.new c).runOps [.allow ⟨a, 0, 0⟩, .allow ⟨a, now, 1000⟩, .gc now, .allow ⟨a, now, 1000⟩] = [true, true, false] ∧
    (ClientLimiter.new c).runOps [.allow ⟨a, 0, 0⟩, .allow ⟨a, now, 1000⟩, .allow ⟨a, now, 1000⟩, .gc now] = [true, true, false] := by
  decide

/-! ## concurrency: gc passes racing with arrivals (repair 8757f14)

  `Model/LimiterConc.lean` is a small interleaving model: goroutines' `LoadOrCompute`s, the
  locked regions of `AllowN` (possibly on a stale pointer) and the locked regions of gc, in
  any order.
-/

def after (s : CState) : List Step → CState
  | [] => s
  | st :: sts => after (s.step st).2 sts

theorem after_inv (c : Opts) (sts : List Step) : (after (CState.init c) sts).Inv := by
  have h : ∀ (sts : List Step) (s : CState), s.Inv → (after s sts).Inv := by
    intro sts
    induction sts with
    | nil => intro s hs; exact hs
    | cons st sts ih => intro s hs; exact ih _ (s.inv_step hs st)
  exact h sts _ (CState.inv_init c)

/-- ★ **no consumption is ever lost.**  In every state reachable by any schedule, a locked
    region of `AllowN` that returns a verdict runs on the entry that the map currently holds
    for the key (never on an entry that gc has removed: such an entry is dead and the
    goroutine loads again). -/
theorem verdict_on_live_entry (c : Opts) (sts : List Step) (id : Nat) (addr : Addr) (now n : Nat) (v : Bool)
    (hv : ((after (CState.init c) sts).step (.locked id addr now n)).1 = some v) :
    (after (CState.init c) sts).map (mask (after (CState.init c) sts).opts addr) = some id :=
  CState.locked_on_mapped_entry _ (after_inv c sts) id addr now n v hv

theorem abs_init (c : Opts) : (CState.init c).abs = ClientLimiter.new c :=
  ClientLimiter.ext_pointwise _ _ rfl fun _ => rfl

/-- ★ **linearizability.**  The verdicts returned along any schedule of loads, locked regions
    (on fresh or stale pointers) and gc regions are exactly the verdicts of the sequential
    limiter on the schedule's visible steps in schedule order (arrivals whose locked region
    found a live entry, per-key gc passes). -/
theorem concurrent_linearizable (c : Opts) (sts : List Step) :
    (CState.init c).exec sts = (ClientLimiter.new c).runOps ((CState.init c).absOps sts) := by
  rw [← abs_init]; exact CState.linearizable sts _ (CState.inv_init c)

/-- hence the token bucket bound holds for every schedule whose visible steps carry
    non-decreasing time stamps -/
theorem concurrent_bucket_bound (c : Opts) (sts : List Step)
    (hs : sortedOps ((CState.init c).absOps sts) = true) (k : Addr) (a b : Nat) (hab : a ≤ b) :
    admittedCost (inWindow c.setDefault k a b) ((CState.init c).absOps sts) ((CState.init c).exec sts) * nano
      ≤ specBurst c * nano + specLimit c * (b - a) + (specLimit c - 1) := by
  rw [concurrent_linearizable]; exact bucket_bound c _ hs k a b hab

/-- non-vacuity: a goroutine holding a stale pointer (entry 0, dropped by gc) gets no verdict
    from it; it loads again (entry 1) and the whole burst is granted once, not twice. -/
example :
    let c : Opts := ⟨1, 1000, 0, 0⟩
    let a : Addr := .v4 0xC0000207
    let k : Addr := .v4 0xC0000200
    let now := 600 * nano
    (CState.init c).exec [.load k, .locked 0 a 0 0, .gcEntry k now, .locked 0 a now 1000,
        .load k, .locked 1 a now 1000, .locked 0 a now 1000, .locked 1 a now 1000] = [true, true, false] := by
  decide

/-! ## which subnet is the key -/

theorem specBits4_default (c : Opts) (h4 : c.v4Mask ≤ 0 ∨ c.v4Mask > 32) : specBits4 c = 24 := by
  unfold specBits4; split <;> omega

theorem specClient_mapped (a : Nat) (z : String) (ha : a < 2 ^ 32) :
    specClient (.v6 (0xffff * 2 ^ 32 + a) z) = some (true, a) := by
  have h1 : (0xffff * 2 ^ 32 + a) / 2 ^ 32 = 0xffff := by omega
  have h2 : (0xffff * 2 ^ 32 + a) % 2 ^ 32 = a := by omega
  simp only [specClient, h1, if_true, h2]

/-- ★ **subnet_default.**  With the masks omitted (0) — or impossible (≤ 0, > 32 / > 128) —
    the key of an IPv4 address is its /24, the key of an IPv4-mapped IPv6 address is the /24 of
    the embedded IPv4 address, the key of any other IPv6 address is its /48 (zone dropped). -/
theorem subnet_default (c : Opts) (h4 : c.v4Mask ≤ 0 ∨ c.v4Mask > 32) (h6 : c.v6Mask ≤ 0 ∨ c.v6Mask > 128) :
    (∀ a, mask c.setDefault (.v4 a) = .v4 (a / 2 ^ 8 * 2 ^ 8)) ∧
    (∀ a z, a < 2 ^ 32 → mask c.setDefault (.v6 (0xffff * 2 ^ 32 + a) z) = .v4 (a / 2 ^ 8 * 2 ^ 8)) ∧
    (∀ a z, a / 2 ^ 32 ≠ 0xffff → mask c.setDefault (.v6 a z) = .v6 (a / 2 ^ 80 * 2 ^ 80) "") := by
  have b4 := specBits4_default c h4
  have b6 : specBits6 c = 48 := by unfold specBits6; split <;> omega
  refine ⟨fun a => ?_, fun a z ha => ?_, fun a z ha => ?_⟩
  · rw [mask_v4, b4]; rfl
  · rw [mask_eq_specKey, specKey, specClient_mapped a z ha, b4]; rfl
  · rw [mask_eq_specKey]
    simp only [specKey, specClient, ha, if_false, b6]; rfl

/-- the defaults, field by field (D8 regression: the IPv6 default goes to `v6Mask`) -/
theorem setDefault_fields (c : Opts) :
    (c.setDefault).limit = (if c.limit ≤ 0 then 20 else c.limit) ∧
    (c.setDefault).burst = (if c.burst ≤ 0 then (c.setDefault).limit else c.burst) ∧
    (c.setDefault).v4Mask = (if c.v4Mask ≤ 0 ∨ c.v4Mask > 32 then 24 else c.v4Mask) ∧
    (c.setDefault).v6Mask = (if c.v6Mask ≤ 0 ∨ c.v6Mask > 128 then 48 else c.v6Mask) := by
  refine ⟨setDefault_limit c, ?_, setDefault_v4 c, setDefault_v6 c⟩
  rw [setDefault_burst, setDefault_limit]

/-- explicitly configured masks are used as they are -/
theorem subnet_configured (c : Opts) (h4 : 1 ≤ c.v4Mask ∧ c.v4Mask ≤ 32) (h6 : 1 ≤ c.v6Mask ∧ c.v6Mask ≤ 128) :
    (∀ a, mask c.setDefault (.v4 a) = .v4 (maskBits 32 c.v4Mask.toNat a)) ∧
    (∀ a z, a / 2 ^ 32 ≠ 0xffff → mask c.setDefault (.v6 a z) = .v6 (maskBits 128 c.v6Mask.toNat a) "") := by
  have b4 : specBits4 c = c.v4Mask.toNat := by unfold specBits4; rw [if_pos h4]
  have b6 : specBits6 c = c.v6Mask.toNat := by unfold specBits6; rw [if_pos h6]
  refine ⟨fun a => by rw [mask_v4, b4], fun a z ha => ?_⟩
  rw [mask_eq_specKey]
  simp only [specKey, specClient, ha, if_false, b6]

/-- ★ same client subnet ⇔ same key, for every configuration and all addresses (IPv4,
    IPv4-mapped, IPv6, zoned): in particular the same /24 share a bucket and different /24 do
    not, under the default configuration. -/
theorem same_subnet_iff_same_key (c : Opts) (x y : Addr) :
    specSame c x y = true ↔ mask c.setDefault x = mask c.setDefault y := by
  rw [specSame_eq]; simp

theorem same_24_same_key (c : Opts) (h4 : c.v4Mask ≤ 0 ∨ c.v4Mask > 32) (a b : Nat) :
    mask c.setDefault (.v4 a) = mask c.setDefault (.v4 b) ↔ a / 256 = b / 256 := by
  have b4 := specBits4_default c h4
  rw [mask_v4, mask_v4, b4]
  simp [maskBits_eq_iff]

theorem v4_and_mapped_same_key (c : Opts) (a : Nat) (z : String) (ha : a < 2 ^ 32) :
    mask c.setDefault (.v6 (0xffff * 2 ^ 32 + a) z) = mask c.setDefault (.v4 a) := by
  rw [mask_eq_specKey, mask_eq_specKey, specKey, specKey, specClient_mapped a z ha]
  rfl

/-- the zone of a link-local address does not matter -/
theorem zone_irrelevant (c : Opts) (a : Nat) (z z' : String) :
    mask c.setDefault (.v6 a z) = mask c.setDefault (.v6 a z') := by
  rw [mask_eq_specKey, mask_eq_specKey]; rfl

/-- non-vacuity of the default subnet sizes -/
example : mask (Opts.setDefault ⟨0, 0, 0, 0⟩) (.v4 0xC0000207) = .v4 0xC0000200 := by decide
example : mask (Opts.setDefault ⟨0, 0, 0, 0⟩) (.v6 0x00000000000000000000FFFFC0000207 "") = .v4 0xC0000200 := by decide
example : mask (Opts.setDefault ⟨0, 0, 0, 0⟩) (.v6 0x20010DB8AAAABBBB0000000000000001 "eth0")
    = .v6 0x20010DB8AAAA00000000000000000000 "" := by decide
example : mask (Opts.setDefault ⟨0, 0, 0, 0⟩) (.v4 0xC0000207) ≠ mask (Opts.setDefault ⟨0, 0, 0, 0⟩) (.v4 0xC0000107) := by decide

/-- **mask_idempotent.**  A key is its own key. -/
theorem mask_idempotent (c : Opts) (x : Addr) : mask c.setDefault (mask c.setDefault x) = mask c.setDefault x := by
  rw [mask_eq_specKey c x]
  unfold specKey
  cases hx : specClient x with
  | none => rfl
  | some p =>
    obtain ⟨f, a⟩ := p
    cases f with
    | true => simp only; rw [mask_v4, maskBits_idem]
    | false =>
      simp only
      have hna : a / 2 ^ 32 ≠ 0xffff := by
        cases x with
        | zero => simp [specClient] at hx
        | v4 b => simp [specClient] at hx
        | v6 b z =>
          simp only [specClient] at hx
          split at hx
          · simp at hx
          · simp at hx; rw [← hx]; assumption
      have := maskBits_not_mapped (specBits6 c) a (specBits6_range c) hna
      rw [mask_eq_specKey]
      simp only [specKey, specClient, this, if_false, maskBits_idem]

/-! ## the resource limiter: global first, then the client -/

/-- a refusal by the global limiter leaves every client bucket untouched -/
theorem global_refusal_keeps_clients (l : ResLimiter) (addr : Addr) (now n : Nat)
    (h : (l.allowN addr now n).1 = .errGlobal) : (l.allowN addr now n).2.cl = l.cl := by
  obtain ⟨g, c⟩ := l
  cases g with
  | none =>
    -- no global limiter: the verdict is the client's, `ok` or `errClient`
    cases c with
    | none => cases h
    | some cl =>
      simp only [ResLimiter.allowN] at h
      cases hc : (cl.allowN addr now n).1
      all_goals
        rw [hc] at h
        cases h
  | some g =>
    obtain ⟨g, gb⟩ := g
    simp only [ResLimiter.allowN] at h ⊢
    cases hr : (gb.allowN g g now n).1 with
    | false =>
      -- the global limiter refuses: the client limiter is not asked
      rfl
    | true =>
      -- the global limiter admits: the verdict is the client's, as above
      rw [hr, if_neg (by decide)] at h
      cases c with
      | none => cases h
      | some cl =>
        simp only at h
        cases hc : (cl.allowN addr now n).1
        all_goals
          rw [hc] at h
          cases h

/-- the global limiter is asked first: if it refuses, the answer is `errGlobal` whatever the
    client's bucket holds -/
theorem global_first (l : ResLimiter) (g : Nat) (gb : Bucket) (addr : Addr) (now n : Nat)
    (hg : l.global = some (g, gb)) (hr : (gb.allowN g g now n).1 = false) :
    (l.allowN addr now n).1 = .errGlobal := by
  unfold ResLimiter.allowN
  rw [hg]
  simp only
  rw [if_pos (by rw [hr]; rfl)]

/-- without a global limit the verdict is the client limiter's -/
theorem no_global_is_client (l : ResLimiter) (cl : ClientLimiter) (addr : Addr) (now n : Nat)
    (hg : l.global = none) (hc : l.cl = some cl) :
    ((l.allowN addr now n).1 = .ok ↔ (cl.allowN addr now n).1 = true) := by
  unfold ResLimiter.allowN
  simp only [hg, hc]
  -- `errClient` if the client limiter refuses, `ok` if it admits
  cases (cl.allowN addr now n).1
  · exact ⟨fun h => (nomatch h), fun h => (nomatch h)⟩
  · exact ⟨fun _ => rfl, fun _ => rfl⟩

/-- `initResourceLimiter`: a client limiter exists iff `client.limit > 0`, a global one iff
    `global_limit > 0` -/
theorem init_shape (cfg : LimiterConfig) :
    ((ResLimiter.init cfg).cl.isSome ↔ cfg.client.limit > 0) ∧
    ((ResLimiter.init cfg).global.isSome ↔ cfg.globalLimit > 0) := by
  -- either limiter is `some _` exactly when its limit is set
  have key : ∀ {α : Type} (x : Int) (v : α), (if limitSet x then some v else none).isSome ↔ x > 0 := by
    intro α x v
    by_cases h : x > 0 <;> simp [h]
  exact ⟨key _ _, key _ _⟩

/-! ## what a refusal does -/

theorem onRefused_forwards (p : Point) : p.onRefused.forwards = false := by
  cases p <;> rfl

/-- over the concurrency cap, or refused by the limiter: the point's refusal action -/
theorem admission_refused (l : ResLimiter) (p : Point) (oc : Bool) (addr : Addr) (now : Nat)
    (h : ((p = .tcpQuery ∨ p = .gnetQuery) ∧ oc = true) ∨ (limiterAllowN l addr now p.cost).1 ≠ .ok) :
    (admission l p oc addr now).1 = p.onRefused := by
  unfold admission
  split
  · rfl
  · rcases h with h | h
    · contradiction
    · rw [if_neg h]

/-- ★ **refusal_action.**  At every admission point, if the limiter refuses the charged
    address then nothing is handed to `handleServerReq` (so nothing is forwarded); a UDP or TCP
    query (tcp and gnet listeners) is answered with RCODE REFUSED, an HTTP request (http and
    fasthttp listeners) with status 503.  (DoQ closes the stream; connection-level refusals
    close the connection.) -/
theorem refusal_action (l : ResLimiter) (p : Point) (oc : Bool) (addr : Addr) (now : Nat)
    (h : (limiterAllowN l addr now p.cost).1 ≠ .ok) :
    (admission l p oc addr now).1.forwards = false ∧
    (p = .udpQuery ∨ p = .tcpQuery ∨ p = .gnetQuery → (admission l p oc addr now).1 = .respRefused) ∧
    (p = .httpQuery ∨ p = .fasthttpQuery → (admission l p oc addr now).1 = .http503) := by
  rw [admission_refused l p oc addr now (Or.inr h)]
  refine ⟨onRefused_forwards p, ?_, ?_⟩
  · rintro (rfl | rfl | rfl) <;> rfl
  · rintro (rfl | rfl) <;> rfl

/-- conversely a query is handled only after the limiter said yes (and, on the tcp and gnet
    listeners, the connection is below its concurrency cap) -/
theorem handled_only_if_admitted (l : ResLimiter) (p : Point) (oc : Bool) (addr : Addr) (now : Nat)
    (h : (admission l p oc addr now).1.forwards = true) :
    (limiterAllowN l addr now p.cost).1 = .ok ∧ ¬ ((p = .tcpQuery ∨ p = .gnetQuery) ∧ oc = true) := by
  have hno : ¬ (((p = .tcpQuery ∨ p = .gnetQuery) ∧ oc = true) ∨ (limiterAllowN l addr now p.cost).1 ≠ .ok) := by
    intro hc
    rw [admission_refused l p oc addr now hc, onRefused_forwards] at h
    cases h
  exact ⟨Decidable.not_not.mp fun hr => hno (Or.inr hr), fun hoc => hno (Or.inl hoc)⟩

/-- a TCP query over the per-connection concurrency cap is refused without charging anybody -/
theorem tcp_over_concurrency (l : ResLimiter) (addr : Addr) (now : Nat) :
    admission l .tcpQuery true addr now = (.respRefused, l) := by
  simp [admission, Point.onRefused]

/-- an invalid client address (e.g. a unix socket peer) is admitted and nobody is charged -/
theorem invalid_addr_not_charged (l : ResLimiter) (now n : Nat) : limiterAllowN l .zero now n = (.ok, l) := rfl

/-- non-vacuity: a refusal is possible -/
example : (limiterAllowN (ResLimiter.init ⟨0, ⟨1, 1, 0, 0⟩⟩) (.v4 1) 0 (Point.cost .tcpQuery)).1 = .errClient := by
  decide

/-! ## the model meets the executable specification -/

/-- ★ **model_meets_spec.**  For every configuration and every history the verdicts of the
    model satisfy the executable specification that is used as the oracle on the
    implementation's verdicts (with no extra slack). -/
theorem model_meets_spec (c : Opts) (os : List Op) :
    spec c 0 os ((ClientLimiter.new c).runOps os) = true := by
  unfold spec
  split
  · rename_i h
    simp only [Bool.and_eq_true] at h
    obtain ⟨⟨hs, hr⟩, hb⟩ := h
    rw [gc_transparent c os hs hb]
    have hsort := evs_sorted_of_ops os 0 (sortedFrom_of_sortedOps os hs)
    -- clause 1: on time-ordered arrivals it is the any-order clause
    have h1 := segBound_ok c ((specLimit c : Int) - 1 + (0 : Nat)) (by omega) (Op.evs os) (ClientLimiter.new c) rfl
      (ClientLimiter.ok_new c)
    rw [segBound_sorted c _ _ _ 0 hsort] at h1
    have h2 : specNoSpuriousRefusal c ((0 : Nat) : Int) (Op.evs os) ((ClientLimiter.new c).runAt (Op.evs os)) = true :=
      specNoSpur_ok c ((0 : Nat) : Int) (by omega) (Op.evs os) (ClientLimiter.new c) [] 0 rfl
        (fun k => tight_new c _ (by omega) hb k 0) hsort (evs_inRange os hr)
    rw [← run_eq_at (Op.evs os) (ClientLimiter.new c) 0 (ClientLimiter.seenLe_new c 0) hsort] at h2
    simp only [specEvs, run_length, beq_self_eq_true, h1, h2, Bool.and_self]
  · split
    · -- time stamps in any order, no gc passes
      rename_i hg
      have hrun : (ClientLimiter.new c).runOps os = (ClientLimiter.new c).run (Op.evs os) := runOps_noGc os hg _
      rw [hrun]
      have h1 := segBound_ok c ((specLimit c : Int) - 1 + (0 : Nat)) (by omega) (Op.evs os) (ClientLimiter.new c) rfl
        (ClientLimiter.ok_new c)
      simp only [run_length, beq_self_eq_true, h1, Bool.and_self]
    · rfl

/-- ★ **listener_model_meets_spec.**  For every burst and IPv4 mask (client rate 1 token/s, IPv6 mask
    left at its default, no global limit) and every sequence of client operations (UDP queries; TCP,
    HTTP, DoQ, gnet and fasthttp connections with any number of queries; direct calls) from any
    addresses, the admission attempts of the listener model at one instant (`listenerAtoms`) satisfy
    `atomsSpec`, the clause of the oracle `listenerSpec` that speaks of admissions.  That the outcome
    strings the model renders (`renderOp`) parse back to these attempts (`obsAtoms`) is not proved. -/
theorem listener_model_meets_spec (b m4 g : Int) (hg : g ≤ 0) (ops : List LOp)
    (hs : saneBurst ⟨1, b, m4, 0⟩ = true) :
    atomsSpec ⟨1, b, m4, 0⟩ (specBurst ⟨1, b, m4, 0⟩)
      (listenerAtoms ops (ResLimiter.init ⟨g, ⟨1, b, m4, 0⟩⟩)) [] = true :=
  listenerAtoms_spec ⟨1, b, m4, 0⟩ rfl ops _ [] (lrel_init ⟨1, b, m4, 0⟩ rfl hs g hg)

/-- the model forwards exactly the query attempts it admitted -/
theorem listener_model_forwards (ops : List LOp) (l : ResLimiter) :
    (listenerRunAtoms ops l).2 = handledCount (listenerAtoms ops l) := listenerRunAtoms_fwd ops l

/-- non-vacuity of the attempts specification: over-admission and a refusal within budget -/
example : atomsSpec ⟨1, 2, 0, 0⟩ 2 [⟨.v4 1, 2, 0, true⟩, ⟨.v4 2, 1, 0, true⟩] [] = false := by decide
example : atomsSpec ⟨1, 2, 0, 0⟩ 2 [⟨.v4 0x0A000001, 2, 0, true⟩, ⟨.v4 0x0A000101, 1, 0, false⟩] [] = false := by decide
example : atomsSpec ⟨1, 2, 0, 0⟩ 2 [⟨.v4 0x0A000001, 2, 0, true⟩, ⟨.v4 0x0A000002, 1, 0, false⟩, ⟨.v4 0x0A000101, 1, 0, true⟩] [] = true := by
  decide

/-- the specification is not vacuous: it rejects over-admission … -/
example : spec ⟨1, 2, 0, 0⟩ 0 [.allow ⟨.v4 1, 0, 2⟩, .allow ⟨.v4 2, 0, 1⟩] [true, true] = false := by decide
/-- … it rejects refusing a client because of another subnet's traffic … -/
example : spec ⟨1, 2, 0, 0⟩ 0 [.allow ⟨.v4 0x0A000001, 0, 2⟩, .allow ⟨.v4 0x0A000101, 0, 1⟩] [true, false] = false := by
  decide
/-- … and accepts the correct verdicts -/
example : spec ⟨1, 2, 0, 0⟩ 0 [.allow ⟨.v4 0x0A000001, 0, 2⟩, .allow ⟨.v4 0x0A000002, 0, 1⟩, .allow ⟨.v4 0x0A000101, 0, 1⟩]
    [true, false, true] = true := by decide

/-! ## tie: pinned source facts (regenerated from /repo by the extractor on every run) -/

/-- the defaults are assigned field by field as modelled (`Opts.setDefault`) — in particular the IPv6 default goes to `V6Mask` (D8) —: tied by translation of the whole body of `setDefault` (`Limiter.setDefault_translated`); `NewClientLimiter` applies them -/
theorem pins_defaults :
    Facts.lim_new_setDefault = "opts.setDefault()" := rfl

/-- `mask` unmaps, then masks IPv4 with `V4Mask` and IPv6 with `V6Mask`; `AllowN` keys the table
    by the masked address, creates `rate.NewLimiter(Limit, Burst)` for a missing key, and — with
    the entry's lock held — skips an entry that gc has marked dead (reloading), clamps the
    caller's time stamp to the entry's `lastSeen` (repair f8b61d0: the bucket's clock never goes
    back), records `lastSeen = now` and asks the bucket at that time -/
theorem pins_mask :
    Facts.lim_mask_body = "{ addr = addr.Unmap() if addr.Is4() { return netip.PrefixFrom(addr, cl.opts.V4Mask).Masked().Addr() } if addr.Is6() { return netip.PrefixFrom(addr, cl.opts.V6Mask).Masked().Addr() } return netip.Addr{} }" ∧
    Facts.lim_allowN_body = "{ key := cl.mask(addr) for { e, _ := cl.m.LoadOrCompute(key, func() *e { return &e{l: rate.NewLimiter(rate.Limit(cl.opts.Limit), cl.opts.Burst)} }) e.m.Lock() if e.dead { e.m.Unlock() continue } if now.Before(e.lastSeen) { now = e.lastSeen } e.lastSeen = now ok := e.l.AllowN(now, n) e.m.Unlock() return ok } }" ∧
    Facts.lim_clamp_cond = "now.Before(e.lastSeen)" ∧
    Facts.lim_clamp_stmt = "now = e.lastSeen" := ⟨rfl, rfl, rfl, rfl⟩

/-- `gc` (one locked region per entry): an entry is dropped only if it was last seen more than
    `entryTtl` ago *and* its bucket is full (`gcRequiresFull`, repair 0275661); it is marked
    dead and deleted from the map before the entry's lock is released (repair 8757f14) -/
theorem pins_gc :
    Facts.lim_entryTtl = entryTtl ∧
    Facts.lim_gc_body = "{ now := time.Now() ddl := now.Add(-entryTtl) cl.m.Range(func(key netip.Addr, value *e) bool { value.m.Lock() full := value.l.TokensAt(now) >= float64(value.l.Burst()) if value.lastSeen.Before(ddl) && full { value.dead = true cl.m.Delete(key) } value.m.Unlock() return true }) }" := ⟨rfl, rfl⟩

theorem pins_costs :
    Facts.lim_costUDPQuery = costUDPQuery ∧
    Facts.lim_costTCPQuery = costTCPQuery ∧
    Facts.lim_costHTTPQuery = costHTTPQuery ∧
    Facts.lim_costQUICQuery = costQUICQuery ∧
    Facts.lim_costTCPConn = costTCPConn ∧
    Facts.lim_costTLSConn = costTLSConn ∧
    Facts.lim_costQuicConn = costQuicConn ∧
    Facts.lim_costFromCache = costFromCache ∧
    Facts.lim_costFromUpstream = costFromUpstream := ⟨rfl, rfl, rfl, rfl, rfl, rfl, rfl, rfl, rfl⟩

/-- `resourceLimiter.AllowN` asks the global limiter first, then the client limiter; `initResourceLimiter` builds them from the configuration (its tests `cfg.GlobalLimit > 0`, `cfg.Client.Limit > 0` are tied by translation: `Limiter.initGlobalCond_translated`, `Limiter.initClientCond_translated`); `limiterAllowN` skips invalid addresses -/
theorem pins_resource :
    Facts.lim_res_allow_body = "{ now := time.Now() if l.global != nil { if !l.global.AllowN(now, n) { return errGlobalResLimit } } if l.cl != nil { if !l.cl.AllowN(addr, now, n) { return errClientResLimit } } return nil }" ∧
    Facts.lim_init_global_new = "l.global = rate.NewLimiter(rate.Limit(cfg.GlobalLimit), cfg.GlobalLimit)" ∧
    Facts.lim_init_client_new = "l.cl = limiter.NewClientLimiter(limiter.ClientLimiterOpts{ Limit: float64(cfg.Client.Limit), Burst: cfg.Client.Burst, V4Mask: cfg.Client.V4Mask, V6Mask: cfg.Client.V6Mask, })" ∧
    Facts.lim_router_allow_body = "{ if !addr.IsValid() { return nil } return r.limiter.AllowN(addr, n) }" := ⟨rfl, rfl, rfl, rfl⟩

/-- every admission point charges the *remote* address (D9: also the QUIC listener) with the cost of the table, and on refusal answers REFUSED / 503 / closes, before anything is handled -/
theorem pins_admission :
    Facts.lim_gnet_query_cond = "ccr > e.maxConcurrent || e.r.limiterAllowN(cc.remoteAddr.Addr(), costTCPQuery) != nil" ∧
    Facts.lim_gnet_query_resp = "resp := mustHaveRespB(m, nil, dnsmsg.RCodeRefused, true, 0)" ∧
    Facts.lim_gnet_query_write = "c.Write(resp)" ∧
    Facts.lim_gnet_query_calls = 1 ∧
    Facts.lim_fasthttp_branch = "if err := h.r.limiterAllowN(remoteAddr.Addr(), costHTTPQuery); err != nil { ctx.SetStatusCode(fasthttp.StatusServiceUnavailable) return }" ∧
    Facts.lim_fasthttp_listener = "l = newListener(l, r.subLoggerForServer(\"server_fasthttp\", cfg.Tag), r.limiter, costTCPConn)" ∧
    Facts.lim_fasthttp_calls = 1 ∧
    Facts.lim_refused_opt_cond = "queryOpt(query) != nil" ∧
    Facts.lim_refused_opt = "resp.Additionals = append(resp.Additionals, newEDNS0(udpSize))" ∧
    Facts.lim_udp_branch = "if err := s.r.limiterAllowN(remoteAddr.Addr(), costUDPQuery); err != nil { resp := mustHaveRespB(m, nil, dnsmsg.RCodeRefused, false, 0) s.writeResp(resp, remoteAddr, oobLocalAddr) pool.ReleaseBuf(resp) return }" ∧
    Facts.lim_udp_calls = 1 ∧
    Facts.lim_tcp_conn_addr = "netAddr2NetipAddr(c.RemoteAddr()).Addr()" ∧
    Facts.lim_tcp_conn_cost = "cost" ∧
    Facts.lim_tcp_conn_tls_cond = "s.tlsConfig != nil" ∧
    Facts.lim_tcp_conn_cost_tls = "cost = costTLSConn" ∧
    Facts.lim_tcp_conn_cost_plain = "cost = costTCPConn" ∧
    Facts.lim_tcp_conn_refused = "c.Close()" ∧
    Facts.lim_tcp_query_cond = "cc > s.maxConcurrent || s.r.limiterAllowN(netAddr2NetipAddr(c.RemoteAddr()).Addr(), costTCPQuery) != nil" ∧
    Facts.lim_tcp_query_resp = "resp := mustHaveRespB(m, nil, dnsmsg.RCodeRefused, true, 0)" ∧
    Facts.lim_tcp_query_write = "c.Write(resp)" ∧
    Facts.lim_tcp_query_calls = 1 ∧
    Facts.lim_http_branch = "if err := h.r.limiterAllowN(remoteAddr.Addr(), costHTTPQuery); err != nil { w.WriteHeader(http.StatusServiceUnavailable) return }" ∧
    Facts.lim_http_remote = "remoteAddr, _ = netip.ParseAddrPort(req.RemoteAddr)" ∧
    Facts.lim_http_listener = "l = newListener(l, h.logger, r.limiter, cost)" ∧
    Facts.lim_http_conn_cost_tls = "cost = costTLSConn" ∧
    Facts.lim_http_conn_cost_plain = "cost = costTCPConn" ∧
    Facts.lim_accept_addr = "remoteAddr := netAddr2NetipAddr(c.RemoteAddr()).Addr()" ∧
    Facts.lim_accept_allow = "err = l.limiter.AllowN(remoteAddr, l.connCost)" ∧
    Facts.lim_accept_refused = "c.Close()" ∧
    Facts.lim_quic_conn_addr = "netAddr2NetipAddr(c.RemoteAddr()).Addr()" ∧
    Facts.lim_quic_conn_cost = "costQuicConn" ∧
    Facts.lim_quic_conn_refused = "c.CloseWithError(0, \"service unavailable, overloaded\")" ∧
    Facts.lim_quic_query_addr = "remoteAddr.Addr()" ∧
    Facts.lim_quic_query_cost = "costQUICQuery" ∧
    Facts.lim_quic_query_remote = "remoteAddr := netAddr2NetipAddr(c.RemoteAddr())" ∧
    Facts.lim_quic_query_branch = "if err := s.r.limiterAllowN(remoteAddr.Addr(), costQUICQuery); err != nil { stream.Close() stream.CancelRead(0) continue }" ∧
    Facts.lim_gnet_conn_addr = "cc.remoteAddr.Addr()" ∧
    Facts.lim_gnet_conn_cost = "costTCPConn" ∧
    Facts.lim_gnet_conn_ctx = "cc := &connCtx{ remoteAddr: netAddr2NetipAddr(c.RemoteAddr()), localAddr: netAddr2NetipAddr(c.LocalAddr()), }" ∧
    Facts.lim_gnet_conn_refused = "return nil, gnet.Close" ∧
    Facts.lim_post_cache_addr = "rc.RemoteAddr.Addr()" ∧
    Facts.lim_post_cache_cost = "costFromCache" ∧
    Facts.lim_post_up_addr = "rc.RemoteAddr.Addr()" ∧
    Facts.lim_post_up_cost = "costFromUpstream" ∧
    Facts.lim_post_count = 2 := by
  and_intros <;> rfl

/-- the model's constants are the pinned ones -/
theorem pins_model_constants :
    defaultLimit = 20 ∧ defaultV4Mask = 24 ∧ defaultV6Mask = 48 ∧ gcRequiresFull = true ∧
    Point.cost .udpQuery = Facts.lim_costUDPQuery ∧ Point.cost .tcpQuery = Facts.lim_costTCPQuery ∧
    Point.cost .httpQuery = Facts.lim_costHTTPQuery ∧ Point.cost .quicQuery = Facts.lim_costQUICQuery ∧
    Point.cost .tcpConn = Facts.lim_costTCPConn ∧ Point.cost .tlsConn = Facts.lim_costTLSConn ∧
    Point.cost .httpConn = Facts.lim_costTCPConn ∧ Point.cost .httpsConn = Facts.lim_costTLSConn ∧
    Point.cost .quicConn = Facts.lim_costQuicConn ∧ Point.cost .gnetConn = Facts.lim_costTCPConn ∧
    Point.cost .gnetQuery = Facts.lim_costTCPQuery ∧ Point.cost .fasthttpConn = Facts.lim_costTCPConn ∧
    Point.cost .fasthttpQuery = Facts.lim_costHTTPQuery := by decide

end MosVerif.C15
