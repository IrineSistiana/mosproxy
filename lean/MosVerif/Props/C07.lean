/-
  C07 — Cached answers go only to the same question and client group, unchanged.

  Models: `Model/CacheKey` (cacheKey + ToLowerName), `Model/Netlist` (netlist + range file loader +
  ipMarker.Mark), `Model/MemCache` (the concurrent memory cache with explicit entry locks and an
  adversarial backend, the value codec), `Model/QCache` (MemoryCache on a backend with otter's
  observable quirks, against the ideal TTL map).
  Helper lemmas: `Lemmas/CacheKeyLemmas`, `Lemmas/NetlistLemmas`, `Lemmas/MarkerLemmas`,
  `Lemmas/MemCacheLemmas`, `Lemmas/QCacheLemmas`.
-/
import MosVerif.Lemmas.CacheKeyLemmas
import MosVerif.Lemmas.MarkerLemmas
import MosVerif.Lemmas.MemCacheLemmas
import MosVerif.Lemmas.QCacheLemmas
import MosVerif.Lemmas.TranslatedC07
import MosVerif.Lemmas.TranslatedCacheKey
import MosVerif.Generated.Facts
namespace MosVerif.C07

/-! ## 1. the cache key -/
section CacheKeyPart
open MosVerif.CacheKey

/-- `cacheKey` never panics and writes every octet of its buffer: the result is exactly
    `name ‖ 0 ‖ class₂ ‖ type₂ ‖ mark` whatever the recycled buffer held. -/
theorem key_layout (dirty : Bytes) (q : Question) (mark : Bytes) :
    cacheKey dirty q mark = some (keyLayout q mark) := cacheKey_eq dirty q mark

/-- ★ the key does not depend on the previous content of the pooled buffer
    (false before the D7 fix: the class octets were never written). -/
theorem key_deterministic (d₁ d₂ : Bytes) (q : Question) (m : Bytes) :
    cacheKey d₁ q m = cacheKey d₂ q m := by
  rw [cacheKey_eq, cacheKey_eq]

theorem reqKey_deterministic (d₁ d₂ : Bytes) (q : Question) (m : Bytes) :
    reqKey d₁ q m = reqKey d₂ q m := key_deterministic ..

/-- ★ equal keys ⇒ equal name octets, class, type and group label — for well-formed wire names
    (sequences of non-empty labels); no condition on class, type or label (false before the D21
    fix: without the terminator `name‖class` can re-parse). -/
theorem key_injective_raw {d₁ d₂ : Bytes} {q₁ q₂ : Question} {m₁ m₂ : Bytes}
    (h₁ : WfName q₁.name) (h₂ : WfName q₂.name)
    (h : cacheKey d₁ q₁ m₁ = cacheKey d₂ q₂ m₂) : q₁ = q₂ ∧ m₁ = m₂ := by
  rw [cacheKey_eq, cacheKey_eq] at h
  exact keyLayout_inj h₁ h₂ (Option.some.inj h)

/-- ★ on the request path: equal keys ⇒ the lower-cased names, the classes, the types and the
    client groups are equal (any two valid wire names, any class/type/label, any buffers). -/
theorem key_injective {d₁ d₂ : Bytes} {q₁ q₂ : Question} {m₁ m₂ : Bytes}
    (h₁ : WfName63 q₁.name) (h₂ : WfName63 q₂.name)
    (h : reqKey d₁ q₁ m₁ = reqKey d₂ q₂ m₂) :
    toLowerName q₁.name = toLowerName q₂.name ∧ q₁.cls = q₂.cls ∧ q₁.typ = q₂.typ ∧ m₁ = m₂ := by
  obtain ⟨hq, hm⟩ := key_injective_raw (q₁ := { q₁ with name := toLowerName q₁.name })
    (q₂ := { q₂ with name := toLowerName q₂.name }) (wf_toLowerName h₁) (wf_toLowerName h₂) h
  simp only [Question.mk.injEq] at hq
  exact ⟨hq.1, hq.2.1, hq.2.2, hm⟩

/-- `ToLowerName` on a valid name of at most 254 octets is plain ASCII lower-casing of every octet
    (length octets are below 'A'), so "same lower-cased name" is "same name, ASCII-case-insensitively". -/
theorem lower_is_casefold {n : Bytes} (h : WfName63 n) (hl : n.length ≤ 254) :
    toLowerName n = n.map lowerByte := toLowerName_eq_map h hl

/-- ★ both directions: two requests get the same key **iff** they agree on the name
    (case-insensitively), the class, the type and the client group. -/
theorem key_eq_iff {d₁ d₂ : Bytes} {q₁ q₂ : Question} {m₁ m₂ : Bytes}
    (h₁ : WfName63 q₁.name) (h₂ : WfName63 q₂.name) (l₁ : q₁.name.length ≤ 254) (l₂ : q₂.name.length ≤ 254) :
    reqKey d₁ q₁ m₁ = reqKey d₂ q₂ m₂ ↔
      (q₁.name.map lowerByte = q₂.name.map lowerByte ∧ q₁.cls = q₂.cls ∧ q₁.typ = q₂.typ ∧ m₁ = m₂) := by
  unfold reqKey
  rw [cacheKey_eq, cacheKey_eq, Option.some.injEq, keyLayout_eq_iff (wf_toLowerName h₁) (wf_toLowerName h₂),
    lower_is_casefold h₁ l₁, lower_is_casefold h₂ l₂]

theorem beq_of_iff {a b : Bool} (h : a = true ↔ b = true) : (a == b) = true := by
  cases a <;> cases b <;> simp_all

/-- ★ (component `cachekey`) for every pair of queries with valid names, both modes and every dirt
    byte, the model's three keys satisfy the executable specification. -/
theorem cachekey_meets_spec (c : Case)
    (h₁ : WfName63 c.q1.name) (h₂ : WfName63 c.q2.name)
    (l₁ : c.q1.name.length ≤ 254) (l₂ : c.q2.name.length ≤ 254) :
    ∃ o, model c = some o ∧ spec c o = true := by
  cases hl : c.lower with
  | false =>
    refine ⟨⟨keyLayout c.q1 c.m1, keyLayout c.q1 c.m1, keyLayout c.q2 c.m2⟩, ?_, ?_⟩
    · simp [model, keyFor, hl, cacheKey_eq]
    · simp only [spec, sameTuple, hl, beq_self_eq_true, Bool.true_and, Bool.false_eq_true, if_false]
      apply beq_of_iff
      simp only [beq_iff_eq, Bool.and_eq_true, and_assoc]
      exact keyLayout_eq_iff h₁.wf h₂.wf
  | true =>
    refine ⟨⟨keyLayout { c.q1 with name := toLowerName c.q1.name } c.m1,
             keyLayout { c.q1 with name := toLowerName c.q1.name } c.m1,
             keyLayout { c.q2 with name := toLowerName c.q2.name } c.m2⟩, ?_, ?_⟩
    · simp [model, keyFor, hl, reqKey, cacheKey_eq]
    · simp only [spec, sameTuple, hl, beq_self_eq_true, Bool.true_and, if_true]
      apply beq_of_iff
      simp only [beq_iff_eq, Bool.and_eq_true, and_assoc]
      rw [keyLayout_eq_iff (wf_toLowerName h₁) (wf_toLowerName h₂), lower_is_casefold h₁ l₁,
        lower_is_casefold h₂ l₂]

/-- the driver's validity check implies the hypotheses above -/
theorem driver_check_sound (n : Bytes) (h : wfNameB 255 n = true) : WfName63 n := wfNameB_sound 255 n h

/-! non-vacuity. The D21 witness: before the terminator was added,
    (`\x01a`, class 0x0161, type 1, mark `\x00\x01m`) and (`\x01a\x01a`, class 1, type 1, mark `m`)
    had the same key. -/
example : WfName63 [1, 97] := .cons 1 [97] [] (by decide) (by decide) rfl .nil
example : WfName63 [1, 97, 1, 97] :=
  .cons 1 [97] [1, 97] (by decide) (by decide) rfl (.cons 1 [97] [] (by decide) (by decide) rfl .nil)
example : cacheKey [0xee, 0xee, 0xee, 0xee, 0xee, 0xee, 0xee, 0xee, 0xee, 0xee] ⟨[1, 97], 0x0161, 1⟩ [0, 1, 109]
    = some [1, 97, 0, 1, 97, 0, 1, 0, 1, 109] := by decide
example : cacheKey [] ⟨[1, 97, 1, 97], 1, 1⟩ [109] = some [1, 97, 1, 97, 0, 0, 1, 0, 1, 109] := by decide
/-- the specification rejects the D7 behaviour (class octets left as found in the buffer) … -/
example : spec ⟨⟨[1, 97], 1, 1⟩, [], ⟨[1, 97], 3, 1⟩, [], false, 0xee⟩
    ⟨[1, 97, 0, 0xee, 0xee, 0, 1], [1, 97, 0, 0x11, 0x11, 0, 1], [1, 97, 0, 0xee, 0xee, 0, 1]⟩ = false := by decide
/-- … and the D21 behaviour (no terminator: two different tuples, one key). -/
example : spec ⟨⟨[1, 97], 0x0161, 1⟩, [0, 1, 109], ⟨[1, 97, 1, 97], 1, 1⟩, [109], false, 0⟩
    ⟨[1, 97, 1, 97, 0, 1, 0, 1, 109], [1, 97, 1, 97, 0, 1, 0, 1, 109], [1, 97, 1, 97, 0, 1, 0, 1, 109]⟩ = false := by decide
example : toLowerName [3, 87, 119, 87, 1, 65] = [3, 119, 119, 119, 1, 97] := by decide

end CacheKeyPart

/-! ## 2. the client group: netlist + range file -/
section NetlistPart
open MosVerif.Netlist

/-- `Add` only ever appends ranges with `start ≤ end` -/
theorem add_valid {V : Type} {b b' : List (Range V)} {s e : Addr} {v : V}
    (hb : ∀ r ∈ b, r.Valid) (h : builderAdd b s e v = some b') : ∀ r ∈ b', r.Valid := by
  rw [builderAdd_eq] at h
  split at h
  · split at h
    · cases h
    · next hlt =>
      cases h
      intro r hr
      rcases List.mem_append.mp hr with hr | hr
      · exact hb r hr
      · rw [List.mem_singleton.mp hr]
        exact Nat.le_of_not_lt hlt
  · cases h

/-- ★ `lookup_correct`, for *any* list that is a permutation of the added ranges, sorted by start and
    passing the adjacent overlap test — i.e. whatever the (unstable) `sort.Slice` produced: `Lookup`
    never panics and returns `v` exactly when some added range with value `v` contains the address
    (addresses compared as 128-bit numbers). -/
theorem lookup_correct_any_sort {V : Type} {b l : List (Range V)} (hv : ∀ r ∈ b, r.Valid)
    (h : IsBuildOf l b) (a : Ipv6) :
    ∃ res, lookup l a = some res ∧
      ∀ v, res = some v ↔ ∃ r ∈ b, r.start.val ≤ a.val ∧ a.val ≤ r.stop.val ∧ r.v = v := by
  have hvl := valid_of_perm h.perm hv
  obtain ⟨res, hres, hiff⟩ := lookup_of_sep hvl (sep_of_overlapAdj_false l hvl h.noOverlap) a
  refine ⟨res, hres, fun v => (hiff v).trans ?_⟩
  constructor
  · rintro ⟨r, hr, hc⟩; exact ⟨r, h.perm.mem_iff.mp hr, hc⟩
  · rintro ⟨r, hr, hc⟩; exact ⟨r, h.perm.mem_iff.mpr hr, hc⟩

/-- ★ in particular for the list `Build` returns, when it succeeds on ranges added through `Add` -/
theorem lookup_correct {V : Type} {b l : List (Range V)} (hv : ∀ r ∈ b, r.Valid)
    (h : build b = some l) (a : Ipv6) :
    ∃ res, lookup l a = some res ∧
      ∀ v, res = some v ↔ ∃ r ∈ b, r.start.val ≤ a.val ∧ a.val ≤ r.stop.val ∧ r.v = v :=
  lookup_correct_any_sort hv (build_spec h) a

/-- ★ `build_rejects_overlap`: `Build` fails **iff** two of the added ranges have an address in common. -/
theorem build_rejects_overlap {V : Type} {b : List (Range V)} (hv : ∀ r ∈ b, r.Valid) :
    build b = none ↔ ¬ List.Pairwise Disj b := build_eq_none_iff hv

/-- the outcome of the overlap test does not depend on how `sort.Slice` orders equal starts -/
theorem build_any_sort {V : Type} {b l : List (Range V)} (hv : ∀ r ∈ b, r.Valid)
    (hp : l.Perm b) (hs : List.Pairwise StartLe l) :
    overlapAdj l = false ↔ List.Pairwise Disj b := overlapAdj_iff hp hs hv

/-- ★ `mark_of_v4mapped`: an IPv4 client address and its v4-mapped IPv6 form are the same 128-bit
    address, hence get the same group label from every marker. -/
theorem mark_of_v4mapped (m : Marker) (a : UInt32) :
    addr2Ipv6 (.v4 a) = addr2Ipv6 (.v6 0 (0xffff00000000 ||| a.toUInt64)) ∧
    m.mark (.v4 a) = m.mark (.v6 0 (0xffff00000000 ||| a.toUInt64)) := by
  exact ⟨rfl, rfl⟩

/-- without a configured range file every client is in the empty group -/
theorem ipMark_no_marker (a : Addr) : ipMark none a = some [] := rfl

/-- non-vacuity of the hypotheses of `lookup_correct_any_sort` / `build_rejects_overlap`:
    10.0.1.0-10.0.1.0 and 10.0.0.0-10.0.0.255, added in the "wrong" order. -/
example : IsBuildOf
    [⟨1, ⟨0, 0xffff0a000000⟩, ⟨0, 0xffff0a0000ff⟩⟩, ⟨2, ⟨0, 0xffff0a000100⟩, ⟨0, 0xffff0a000100⟩⟩]
    [(⟨2, ⟨0, 0xffff0a000100⟩, ⟨0, 0xffff0a000100⟩⟩ : Range Nat), ⟨1, ⟨0, 0xffff0a000000⟩, ⟨0, 0xffff0a0000ff⟩⟩] :=
  ⟨List.Perm.swap _ _ _, by simp [StartLe, Ipv6.val], by decide⟩
example : ¬ List.Pairwise Disj
    [(⟨2, ⟨0, 5⟩, ⟨0, 9⟩⟩ : Range Nat), ⟨1, ⟨0, 9⟩, ⟨0, 12⟩⟩] := by
  simp [Disj, Ipv6.val]

/-- ★ (component `ipmark`) whole-file statement, for every range file, address parser and client list:
    the loader rejects a file only if a line does not parse, a range has start > end or two ranges
    intersect; otherwise `Mark` never panics and gives every client the label of the unique range
    that contains its address, or none. -/
theorem ipmark_meets_spec (pa : Bytes → Option Addr) (file : Bytes) (addrs : List Addr) :
    Netlist.spec pa file addrs (Netlist.model pa file addrs) = true := marker_meets_spec pa file addrs

/-! non-vacuity: 10.0.0.0-10.0.0.255 "a", 10.0.1.0-10.0.1.0 "b" (a single address), a comment line,
    surrounding blanks. -/
def bs (s : String) : Bytes := s.toList.map (fun c => UInt8.ofNat c.toNat)
def sampleFile : Bytes := bs "10.0.0.0,10.0.0.255,a\n# c\n 10.0.1.0,10.0.1.0,b \n"
/-- what the specification reads off `sampleFile` (evaluated once for the examples below) -/
theorem sampleFile_ranges : specRanges parseAddrGo (splitLines sampleFile) =
    some [⟨0xffff0a000000, 0xffff0a0000ff, [97]⟩, ⟨0xffff0a000100, 0xffff0a000100, [98]⟩] := by
  rw [sampleFile, bs, String.toList_ofList]
  rfl
/-- the specification accepts the right labels (incl. the v4-mapped form of 10.0.0.255) … -/
example : spec parseAddrGo sampleFile [.v4 0x0a000005, .v4 0x0a000100, .v4 0x0a000101, .v6 0 0xffff0a0000ff]
    (.marks [[97], [98], [], [97]]) = true := by
  rw [spec_marks sampleFile_ranges]
  decide
/-- … rejects a wrong label, a missing label, and accepting a file with overlapping ranges … -/
example : spec parseAddrGo sampleFile [.v4 0x0a0000ff] (.marks [[]]) = false := by
  rw [spec_marks sampleFile_ranges]
  decide
example : spec parseAddrGo sampleFile [.v4 0x0a000100] (.marks [[97]]) = false := by
  rw [spec_marks sampleFile_ranges]
  decide
example : spec parseAddrGo (bs "10.0.0.0,10.0.0.255,a\n10.0.0.255,10.0.1.0,b\n") [.v4 0x0a0000ff]
    (.marks [[97]]) = false := by
  rw [bs, String.toList_ofList]
  decide
/-- … and rejecting a good file. -/
example : spec parseAddrGo sampleFile [] (.err .overlap) = false := by
  rw [spec_err sampleFile_ranges]
  decide
example : parseAddrGo (bs "::ffff:10.0.0.1") = some (.v6 0 0xffff0a000001) := by 
  rw [bs, String.toList_ofList]
  decide
example : parseAddrGo (bs "2001:db8::1") = some (.v6 0x20010db800000000 1) := by 
  rw [bs, String.toList_ofList]
  decide
example : parseAddrGo (bs "1.2.3.04") = none := by 
  rw [bs, String.toList_ofList]
  decide

end NetlistPart

/-! ## 3. the memory cache under concurrency -/
open MosVerif.MemCache

section
variable {K V : Type} [Inhabited K] [DecidableEq K]

/-- ★ the pairing invariant, in every reachable state of every interleaving: an entry that is not
    write-locked and holds a value holds the key that value was stored under. -/
theorem data_paired {s : State K V} (h : Reachable s) (e : Nat) (hw : (s.ent e).wr = none)
    (v : V) (hv : (s.ent e).v = some v) : ((s.ent e).k, v) ∈ s.hist :=
  (reachable_inv h).data e hw v hv

/-- ★ `hit_same_key`: for EVERY interleaving of the statements of any number of concurrent
    `Store`, `Get` and `releaseEntry` calls — with a backend that may hand any entry object to
    `Get`, a pool that may hand any entry object to `Store`, and deletion listeners started at
    arbitrary moments — whenever `Get(k)` has returned `v`, `Store` was called with `(k, v)` before. -/
theorem hit_same_key {s : State K V} (h : Reachable s) (t : Nat) (k : K) (v : V)
    (hp : s.pc t = .gDone k (some v)) : (k, v) ∈ s.hist :=
  -- what a thread at `gDone k (some v)` knows (`PcOk`) is this very statement
  pcok_at (reachable_inv h) hp

/-- `Get` never copies a nil value after the re-check (no torn read between check and copy) -/
theorem no_nil_copy {s : State K V} (h : Reachable s) (t : Nat) : s.pc t ≠ .gBad :=
  -- `PcOk` at `gBad` is `False`
  fun hp => pcok_at (reachable_inv h) hp

/-- data-race freedom on the entry fields `k`, `v`: a statement that writes them never coexists
    with another thread's statement that reads or writes them (this is what justifies treating each
    Go statement as one atomic step). -/
theorem data_race_free {s : State K V} (h : Reachable s) {t t' e : Nat}
    (hw : (s.pc t).writes = some e)
    (ha : (s.pc t').writes = some e ∨ (s.pc t').reads = some e) : t = t' :=
  Decidable.byContradiction fun hne =>
    have ⟨h1, h2⟩ := other_no_lock (reachable_inv h) (wsec_of_writes hw) (Ne.symm hne)
    ha.elim (fun a => h1 (wsec_of_writes a)) (fun a => h2 (rsec_of_reads a))

/-- every step of the faithful layer (otter as a map with a deletion queue whose listener may fire
    repeatedly) is a step of the adversarial layer or leaves the entries and threads untouched -/
theorem faithful_refines {s s' : FState K V} (h : FStep s s') :
    Step s.core s'.core ∨ s'.core = s.core := by
  cases h with
  | «local» c c' b st _ _ _ _ => exact .inl st
  | newFresh c b t k v nx hpc => exact .inl (.storeNew c t k v nx b.next hpc)
  | set c b t e k v hpc => exact .inl (.storeSet c t e k v false hpc)
  | setIfAbsent c b t e k v hpc _ => exact .inl (.storeSet c t e k v true hpc)
  | refused c b t e k v nx hpc => exact .inl (.storeRefused c t e k v nx hpc)
  | lookupHit c b t k n m e hpc _ => exact .inl (.getLookupHit c t k n m e hpc)
  | evict c b k e _ => exact .inr rfl
  | expiredLookup c b k e _ => exact .inr rfl
  | listener c b t e pre post hpc _ => exact .inl (.callRelease c t e hpc)
  | listenerAgain c b t e hpc _ => exact .inl (.callRelease c t e hpc)

theorem faithful_reachable {s : FState K V} (h : FReachable s) : Reachable s.core := by
  induction h with
  | init => exact .init
  | step _ st ih =>
    rcases faithful_refines st with h' | h'
    · exact ih.step h'
    · rw [h']; exact ih

/-- ★ `hit_same_key` on the faithful layer -/
theorem hit_same_key_faithful {s : FState K V} (h : FReachable s) (t : Nat) (k : K) (v : V)
    (hp : s.core.pc t = .gDone k (some v)) : (k, v) ∈ s.core.hist :=
  hit_same_key (faithful_reachable h) t k v hp

/-- non-vacuity: a run in which thread 0 stores (7, 42) into entry 3 and thread 1 then gets it. -/
example : ∃ s : State Nat Nat, Reachable s ∧ s.pc 1 = .gDone 7 (some 42) := by
  let s0 : State Nat Nat := init
  have r0 : Reachable s0 := .init
  have r1 := r0.step (.callStore s0 0 7 42 false rfl)
  have r2 := r1.step (.storeNew _ 0 7 42 false 3 rfl)
  have r3 := r2.step (.storeLock _ 0 3 7 42 false rfl rfl rfl)
  have r4 := r3.step (.storeFillK _ 0 3 7 42 false rfl)
  have r5 := r4.step (.storeFillV _ 0 3 7 42 false rfl)
  have r6 := r5.step (.storeUnlock _ 0 3 7 42 false rfl)
  have r7 := r6.step (.storeSet _ 0 3 7 42 false rfl)
  have r8 := r7.step (.callGet _ 1 7 rfl)
  have r9 := r8.step (.getLookupHit _ 1 7 0 0 3 rfl)
  have r10 := r9.step (.getTryOk _ 1 3 7 0 0 rfl rfl)
  have r11 := r10.step (.getCheck _ 1 3 7 0 0 rfl)
  have r12 := r11.step (.getCopy _ 1 3 7 0 0 rfl)
  have r13 := r12.step (.getUnlockHit _ 1 3 7 42 rfl)
  exact ⟨_, r13, rfl⟩

end

/-! ## 3b. the converse direction: `MemoryCache` on a backend with otter's quirks refines the ideal TTL map -/
section Converse
open MosVerif.QCache
variable {K V : Type} [Inhabited K] [DecidableEq K]

/-- ★ refinement, over ALL sequences of stores (positive and negative, any lifetimes incl. 0), lookups
    (with any glitches), listener calls (also repeated ones for one entry, also for entries whose expired
    node is still in the backend's map), clock steps and clean-ups: the invariant holds and the cache
    agrees with the ideal TTL map now and at every later time. -/
theorem refines_ideal (ops : List (Op K V)) :
    QInv (run QState.empty ops) ∧ Rel (run QState.empty ops) ((Ideal.empty : Ideal K V).run ops) :=
  run_rel qinv_empty rel_empty ops

/-- ★ a live key is never reported as a miss: after any history, a lookup whose glitches (dead node,
    released entry, entry locked by its release — what a lookup racing with replacing stores can meet)
    stay within the retry budget (≤ 7 in all, ≤ 2 dead misses) returns exactly the ideal map's answer;
    and *whatever* the glitches, a hit is the ideal map's answer. -/
theorem live_key_never_misses (ops : List (Op K V)) (k : K) (gl : List Glitch) :
    (Glitch.ok gl = true →
      (get (run QState.empty ops) k gl).1 = ((Ideal.empty : Ideal K V).run ops).get k) ∧
    (∀ v, (get (run QState.empty ops) k gl).1 = some v →
      ((Ideal.empty : Ideal K V).run ops).get k = some v) := by
  obtain ⟨h, r⟩ := refines_ideal (K := K) (V := V) ops
  obtain ⟨_, _, c, d⟩ := get_rel h r k gl
  exact ⟨d, c⟩

/-- ★ a negative store (`SetIfAbsent`) is dropped only if a live entry exists: with no live entry —
    in particular with an expired leftover in the backend — it is stored (3a97998) -/
theorem negative_dropped_only_if_live {s : QState K V} (h : QInv s) (k : K) (v : V) (ttl : Nat)
    (hpos : 0 < ttl) :
    view (store s k v ttl true) k = if (view s k).isSome then view s k else some v := by
  rw [view_store h k v ttl true hpos k]
  simp

/-- ★ `repeat_hits`: once `Store(k, …)` has completed, a lookup hits (positive stores: with the value just
    stored) — expired leftovers, earlier listener calls and in-budget glitches notwithstanding -/
theorem repeat_hits {s : QState K V} (h : QInv s) (k : K) (v : V) (ttl : Nat) (nx : Bool) (hpos : 0 < ttl)
    (gl : List Glitch) (hgl : Glitch.ok gl = true) :
    ((get (store s k v ttl nx) k gl).1).isSome = true ∧
    (nx = false → (get (store s k v ttl nx) k gl).1 = some v) := by
  rw [get_complete (store_spec h k v ttl nx).1 k hgl, view_store h k v ttl nx hpos k, if_pos rfl]
  constructor
  · split
    · next hc => exact (Bool.and_eq_true _ _ ▸ hc).2
    · rfl
  · rintro rfl
    rfl

/-- ★ an entry is released only when no live node references it: in every reachable state a live
    node's entry holds its key and value and no listener call is queued for it … -/
theorem released_only_unreferenced (ops : List (Op K V)) (k : K) (n : Node)
    (hn : (run (QState.empty : QState K V) ops).nodes k = some n)
    (hl : (run (QState.empty : QState K V) ops).now < n.exp) :
    (∃ v, (run (QState.empty : QState K V) ops).ents n.e = (k, some v)) ∧
      n.e ∉ (run (QState.empty : QState K V) ops).pend :=
  let h := (refines_ideal (K := K) (V := V) ops).1
  ⟨h.own k n hn hl, h.notPend k n hn hl⟩

/-- ★ … and nothing leaks: every entry object ever allocated is referenced by the backend's map,
    queued for the listener, or already released. -/
theorem no_entry_leaks (ops : List (Op K V)) (e : Nat)
    (he : e < (run (QState.empty : QState K V) ops).next) :
    Referenced (run (QState.empty : QState K V) ops) e ∨ e ∈ (run (QState.empty : QState K V) ops).pend ∨
      ((run (QState.empty : QState K V) ops).ents e).2 = none :=
  (refines_ideal (K := K) (V := V) ops).1.noLeak e he

end Converse

open MosVerif.QCache in
/-- the retries are needed (f8fe887): the lookup as it was — one backend call, every stale answer a miss —
    misses a live key on a single glitch; the repaired lookup returns the value. -/
example :
    (getNoRetry (store (QState.empty : QState Nat Nat) 7 42 100 false) 7 [.deadMiss]).1 = none ∧
    (get (store (QState.empty : QState Nat Nat) 7 42 100 false) 7 [.deadMiss, .released, .locked]).1 = some 42 := by
  decide

open MosVerif.QCache in
/-- the leftover removal is needed (3a97998): an expired node makes the backend refuse `SetIfAbsent` -/
example : (bSetIfAbsent (store (QState.empty : QState Nat Nat) 7 42 0 false) 7 5 100).1 = false ∧
    (get (store (store (QState.empty : QState Nat Nat) 7 42 0 false) 7 43 100 true) 7 []).1 = some 43 := by
  decide

open MosVerif.QCache in
/-- ★ (component `cachehist`) for every history of stores, lookups and client queries the reference
    model's outputs satisfy the property's executable specification. -/
theorem cachehist_meets_spec (ops : List HOp) : histSpec [] ops (histModel QState.empty ops) = true :=
  hist_meets_spec ops QState.empty [] ⟨qinv_empty, fun _ _ h => (nomatch (viewAt_none rfl _).symm.trans h), fun _ h => nomatch h⟩

open MosVerif.QCache in
/-- ★ (component `cacheconv`) for every history of the converse-clause component — expired entries,
    negative answers after them, more than 64 writes with the listener calls they trigger, clock steps —
    the reference run (MemoryCache on the quirky backend) produces exactly the outputs of the ideal TTL
    map, which is the specification the implementation's outputs are judged by. -/
theorem cacheconv_meets_spec (cfgMax : Nat) (ops : List COp) :
    convSpec cfgMax ops (convModel cfgMax ⟨QState.empty, [], 0⟩ ops) = true := by
  unfold convSpec
  rw [conv_eq cfgMax ops ⟨QState.empty, [], 0⟩ ⟨Ideal.empty, [], 0⟩ ⟨qinv_empty, rel_empty, rfl, rfl⟩]
  exact beq_self_eq_true _

section
open MosVerif.QCache
example : histSpec [] [.store "k" "a" false, .get "k"] [.stored, .hit "b"] = false := by decide
example : histSpec [] [.store "k" "a" false, .get "K"] [.stored, .hit "a"] = false := by decide
example : histSpec [] [.store "k" "a" false, .get "k"] [.stored, .miss] = false := by decide
example : histSpec [] [.handle "k" "a", .handle "k" "b"] [.upstream "a", .upstream "b"] = false := by decide
example : histSpec [] [.handle "k" "a", .handle "k" "b"] [.upstream "a", .cached "a"] = true := by decide
/-- the converse specification rejects: a negative answer not cached after an expired entry (D38),
    a long-lived key lost after the writes (D37), an upstream exchange during replacing stores (D39) -/
example : convSpec 21600 [.x "0", .h "0" "1" .n, .h "0" "2" .n] [.x, .u "1", .u "2"] = false := by decide
example : convSpec 21600 [.x "0", .h "0" "1" .n, .h "0" "2" .n] [.x, .u "1", .c "1"] = true := by decide
example : convSpec 21600 [.h "1" "1" .p, .w 2, .v] [.u "1", .w, .v 1] = false := by decide
example : convSpec 21600 [.h "0" "1" .p, .r "0" 10 2, .h "0" "2" .p] [.u "1", .up 3, .c "0"] = false := by decide
/-- a negative answer is dropped while a positive one is live, and stored once that one has expired -/
example : convSpec 21600 [.h "0" "1" .t, .s "0" "2" .n, .g "0", .z 2600, .s "0" "3" .n, .g "0"]
    [.u "1", .s, .hit "1", .z, .s, .hit "3"] = true := by decide

/-! the backend's 32-bit arithmetic and the two clamps (3baf9cd, 949de0e) -/

/-- a positive configured size never becomes capacity 0 -/
theorem size_clamp_ok (size : Nat) (h : 0 < size) : 0 < backendCapacity (clampSize size) := by
  unfold backendCapacity clampSize
  split <;> omega

example : backendCapacity 4294967296 = 0 := by decide
example : backendCapacity (clampSize 4294967296) = 4294967295 := by decide

/-- with the lifetime capped at ten years an entry is not born expired: its backend expiry is in the
    future for every configured maximum and every record ttl, while the process is younger than
    2^32 s − ten years (≈ 126 years) -/
theorem ttl_clamp_no_wrap (now maximumTtl ttl : Nat) (hnow : now + tenYears < 2 ^ 32)
    (hpos : 0 < clampTtl maximumTtl ttl) :
    backendExpiry now (clampTtl maximumTtl ttl) = now + clampTtl maximumTtl ttl ∧
    now < backendExpiry now (clampTtl maximumTtl ttl) := by
  have hle : clampTtl maximumTtl ttl ≤ tenYears := by unfold clampTtl; omega
  unfold backendExpiry
  unfold tenYears at *
  omega

/-- without the cap: ttl 2^32−1 one second after start is an expiry in the past -/
example : backendExpiry 1 (2 ^ 32 - 1) = 0 := by decide
end

/-! ## 4. end to end: a hit was stored for the same question and client group -/
open MosVerif.CacheKey

/-- the key `cacheCtl` uses for a question of a client in group `m` -/
def keyOf (q : Question) (m : CacheKey.Bytes) : CacheKey.Bytes :=
  keyLayout { q with name := toLowerName q.name } m

theorem keyOf_is_reqKey (d : CacheKey.Bytes) (q : Question) (m : CacheKey.Bytes) :
    reqKey d q m = some (keyOf q m) := cacheKey_eq ..

/-- ★ Composition of `hit_same_key` and `key_injective`: if every `Store` call was made by
    `cacheCtl.Store` (i.e. with a key built by `cacheKey` from a valid question and a group label),
    then in every interleaving a value returned by `Get` for question `q₂` of group `m₂` was stored
    for a question with the same lower-cased name, class and type, from a client of the same group. -/
theorem hit_same_question {V : Type} {s : State CacheKey.Bytes V} (hr : Reachable s)
    (hcallers : ∀ k v, (k, v) ∈ s.hist → ∃ q m, WfName63 q.name ∧ k = keyOf q m)
    (t : Nat) (q₂ : Question) (m₂ : CacheKey.Bytes) (v : V) (hq₂ : WfName63 q₂.name)
    (hp : s.pc t = .gDone (keyOf q₂ m₂) (some v)) :
    ∃ q₁ m₁, (keyOf q₁ m₁, v) ∈ s.hist ∧ toLowerName q₁.name = toLowerName q₂.name ∧
      q₁.cls = q₂.cls ∧ q₁.typ = q₂.typ ∧ m₁ = m₂ := by
  have hmem := hit_same_key hr t _ v hp
  obtain ⟨q₁, m₁, hq₁, hk⟩ := hcallers _ _ hmem
  refine ⟨q₁, m₁, hk ▸ hmem, ?_⟩
  have : reqKey [] q₁ m₁ = reqKey [] q₂ m₂ := by rw [keyOf_is_reqKey, keyOf_is_reqKey, hk]
  exact key_injective hq₁ hq₂ this

/-- non-vacuity of `hit_same_question`'s caller hypothesis: it holds in the initial state and is
    kept by a `Store` call whose key comes from `keyOf`. -/
example {V : Type} : ∀ k (v : V), (k, v) ∈ (init : State CacheKey.Bytes V).hist →
    ∃ q m, WfName63 q.name ∧ k = keyOf q m := by
  intro k v h; cases h
example : keyOf ⟨[3, 87, 87, 87], 1, 28⟩ [108] = [3, 119, 119, 119, 0, 0, 1, 0, 28, 108] := by decide

/-! ## 5. the value: what is served equals what was stored, up to TTL ageing and ID -/

/-- ★ `value_roundtrip`. Imported assumptions, stated explicitly: `hcodec` — the wire codec round
    trip `unpack (pack m) = m` for uncompressed packing (C02); `hs2` — `s2.Decode ∘ s2.Encode = id`. -/
theorem value_roundtrip {M W C : Type} (pack : M → Option W) (unpack : W → Option M)
    (s2enc : W → C) (s2dec : C → Option W)
    (hcodec : ∀ m w, pack m = some w → unpack w = some m) (hs2 : ∀ w, s2dec (s2enc w) = some w)
    (m : M) (c : C) (h : packCache pack s2enc m = some c) : unpackCache unpack s2dec c = some m := by
  unfold packCache at h
  cases hp : pack m with
  | none => simp [hp] at h
  | some w =>
    simp only [hp, Option.map_some, Option.some.injEq] at h
    subst h
    simp [unpackCache, hs2, hcodec m w hp]

theorem subTTL_eqModTtl (d : Nat) (r : RR) : (subTTL d r).eqModTtl r = true := by
  unfold subTTL
  split
  · simp [RR.eqModTtl]
  · next h => split <;> simp [RR.eqModTtl, h]

theorem eqSection_map_subTTL (d : Nat) : ∀ rs : List RR, eqSection (rs.map (subTTL d)) rs = true
  | [] => rfl
  | r :: rest => by simp [eqSection, subTTL_eqModTtl, eqSection_map_subTTL d rest]

/-- ★ `served_equals_relayed_mod_ttl_id`: under the same two assumptions, what `cacheCtl.Get` returns
    for the stored bytes of `m`, any number of seconds later, has the same flags/rcode, the same
    questions and the same records in every section in the same order as `m`; only TTLs differ. -/
theorem served_equals_relayed_mod_ttl_id {W C : Type} (pack : Msg → Option W) (unpack : W → Option Msg)
    (s2enc : W → C) (s2dec : C → Option W)
    (hcodec : ∀ m w, pack m = some w → unpack w = some m) (hs2 : ∀ w, s2dec (s2enc w) = some w)
    (m : Msg) (c : C) (h : packCache pack s2enc m = some c) (elapsed : Nat) :
    ∃ m', serve unpack s2dec c elapsed = some m' ∧ m'.eqModTtlId m = true ∧ m'.id = m.id := by
  refine ⟨subtractTTL elapsed m, ?_, ?_, rfl⟩
  · simp [serve, value_roundtrip pack unpack s2enc s2dec hcodec hs2 m c h]
  · simp [Msg.eqModTtlId, subtractTTL, eqSection_map_subTTL]

/-- ageing never raises a TTL above `max ttl 1` (the floor is C08's business) -/
theorem subTTL_le (d : Nat) (r : RR) : (subTTL d r).ttl ≤ max r.ttl 1 := by
  unfold subTTL
  split
  · omega
  · split <;> simp <;> omega

example : (subTTL 10 ⟨[], 1, 1, 300, [1, 2, 3, 4]⟩).ttl = 290 := by decide
example : Msg.eqModTtlId ⟨1, 0x8180, [], [⟨[], 1, 1, 5, [1]⟩], [], []⟩ ⟨2, 0x8180, [], [⟨[], 1, 1, 9, [2]⟩], [], []⟩ = false := by decide

/-! ## 6. tie: pinned source facts -/

/-- the statements the models are transcriptions of -/
theorem pins :
    Facts.ck_lowerCall = "dnsmsg.ToLowerName(q.Name)" ∧
    Facts.ck_storeKey = "k := cacheKey(q, mark)" ∧
    Facts.ck_getKey = "key := cacheKey(q, ipMark)" ∧
    Facts.ck_storeMark = "mark := c.ipMark(clientAddr)" ∧
    Facts.ck_getMark = "ipMark := c.ipMark(rc.RemoteAddr.Addr())" := by
  (repeat' apply And.intro) <;> rfl

theorem pins_memcache :
    Facts.mc_tryRLock = "!e.l.TryRLock()" ∧
    Facts.mc_recheck = "e.v == nil || e.k != string(k)" ∧
    Facts.mc_getBody = "{ c.getTotal.Inc() misses := 0 for retry := 0; retry < 8; retry++ { e, ok := c.backend.Get(utils.Bytes2StrUnsafe(k)) if !ok { if misses++; misses < 3 { continue } break } if !e.l.TryRLock() { continue } if e.v == nil || e.k != string(k) { e.l.RUnlock() continue } v = pool.CopyBuf(e.v) storedTime = e.storedTime expireTime = e.expireTime e.l.RUnlock() c.hitTotal.Inc() return v, storedTime, expireTime } return nil, time.Time{}, time.Time{} }" ∧
    Facts.mc_storeBody = "{ ks := string(k) vCopy := pool.CopyBuf(v) e := newCacheEntry() e.l.Lock() e.storedTime = storedTime e.expireTime = expireTime e.k = ks e.v = vCopy e.l.Unlock() ttl := time.Until(expireTime) if setNX { l := &c.storeLocks[maphash.String(storeLockSeed, ks)%uint64(len(c.storeLocks))] l.Lock() defer l.Unlock() ok := c.backend.SetIfAbsent(ks, e, ttl) if !ok { if _, alive := c.backend.Get(ks); !alive { c.backend.Delete(ks) ok = c.backend.SetIfAbsent(ks, e, ttl) } } if !ok { releaseEntry(e) } } else { l := &c.storeLocks[maphash.String(storeLockSeed, ks)%uint64(len(c.storeLocks))] l.Lock() defer l.Unlock() if !c.backend.Set(ks, e, ttl) { releaseEntry(e) } } }" ∧
    Facts.mc_setIfAbsent = "ok := c.backend.SetIfAbsent(ks, e, ttl)" ∧
    Facts.mc_leftover = "!alive" ∧
    Facts.mc_releaseBody = "{ e.l.Lock() e.storedTime = time.Time{} e.expireTime = time.Time{} e.k = \"\" if e.v != nil { pool.ReleaseBuf(e.v) e.v = nil } e.l.Unlock() }" ∧
    Facts.mc_newEntry = "{ return new(cacheEntry) }" ∧
    Facts.mc_listener = "releaseEntry(value)" ∧
    Facts.cv_pack = "n, err := m.Pack(b, false, 0)" ∧
    Facts.cv_encode = "compressedMsgBytes := s2.Encode(compressBuf, b)" ∧
    Facts.cv_decode = "decoded, err := s2.Decode(decodeBuf, m)" ∧
    Facts.cv_unpack = "return dnsmsg.UnpackMsg(decoded)" := by
  (repeat' apply And.intro) <;> rfl

/-- the five repairs the converse direction rests on: no entry recycling + idempotent release (fb0d3a6,
    `mc_newEntry`, `mc_releaseBody`), leftover removal under the stripe lock and release of a refused
    entry (3a97998, `mc_storeBody`, `mc_leftover`), lookup retries (f8fe887, `mc_getBody`; the budgets `retry < 8`,
    `misses < 3` are tied by translation: `Netlist.c07_getBudget_translated`, `c07_getMisses_translated`), the size
    clamp (3baf9cd: `Netlist.c07_clampSize_translated`) and the lifetime cap (949de0e; the constant is in
    nanoseconds; limit and cap by translation: `Netlist.c07_clampTtl_translated`). The comparisons of
    `internal/netlist` are tied by `Netlist.c07_ipv6cmp_translated`, `c07_contains_translated`,
    `c07_builderAdd_translated`, `c07_overlapAdj_translated`, `c07_lookupNone_translated`. -/
theorem pins_repairs :
    Facts.mc_newEntry = "{ return new(cacheEntry) }" ∧
    Facts.mc_leftover = "!alive" ∧
    Facts.mc_builder = "builder, err := otter.NewBuilder[string, *cacheEntry](size)" ∧
    Facts.cc_ttlLimit = 1000000000 * MosVerif.QCache.tenYears := by
  refine ⟨rfl, rfl, rfl, by decide⟩

theorem pins_netlist :
    Facts.nl_overlapLoop = "i < len(rs)-1" ∧
    Facts.nl_less = "return rs[i].start.cmp(rs[j].start) < 0" ∧
    Facts.nl_search = "return ip.cmp(l.e[i].start) < 0" ∧
    Facts.nl_pred = "return l.e[i-1].contains(ip)" ∧
    Facts.nl_addr2Ipv6 = "{ b := addr.As16() return Ipv6{ h: binary.BigEndian.Uint64(b[:8]), l: binary.BigEndian.Uint64(b[8:]), } }" ∧
    Facts.im_comment = "t, _, _ = strings.Cut(t, \"#\")" ∧
    Facts.im_trim = "t = strings.TrimSpace(t)" ∧
    Facts.im_add = "ok := listBuilder.Add(start, end, idx)" ∧
    Facts.im_assign = "idx := assignIdx(markStr)" ∧
    Facts.im_markIdx = "return m.s[idx]" ∧
    Facts.im_newIdx = "idx = len(labels) - 1" ∧
    Facts.im_nilMarker = "c.ipMarker == nil || !addr.IsValid()" ∧
    Facts.im_markInvalid = "!addr.IsValid()" ∧
    Facts.nl_lookupAddrInvalid = "!addr.IsValid()" ∧
    Facts.nl_addInvalid = "!start.IsValid() || !end.IsValid()" := by
  (repeat' apply And.intro) <;> rfl

end MosVerif.C07
