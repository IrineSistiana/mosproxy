/-
  C10 — Rules are first-match and a query reaches only the selected upstream.
  Theorems over `Router.handleReq` / `Router.handle` for every rule list, query and upstream behaviour.
  Start-up: `load_ok_iff` for the tag tables, `routing_meets_spec_started` for the reject codes; that unknown keys
  are refused (the strict decoder) is checked by the `loadcfg` correspondence runs.
-/
import MosVerif.Lemmas.RouterSpecMain
import MosVerif.Lemmas.LoadCfgLemmas
-- the tie theorems of the property: imported so that they are checked with it
import MosVerif.Props.C10Pins
import MosVerif.Lemmas.TranslatedC10
namespace MosVerif.C10
open MosVerif.Wire MosVerif.Router

/-- The first rule, in configured order, whose condition holds for the (lower-cased) name. -/
def firstRule (env : Env) (q : Question) : Option Rule := env.rules.find? (fun r => r.applies q.name)

/-- ★ No rule applies ⇒ REFUSED and nobody is contacted. -/
theorem no_rule_refused (env : Env) (q : Question) (h : firstRule env q = none) :
    (handleReq env q).1 = makeEmptyResp q rcodeRefused ∧ (handleReq env q).2.2 = [] :=
  first_match env q h

/-- ★ A reject rule answers with its rcode and contacts no upstream — whatever rules follow it. -/
theorem reject_contacts_nobody (env : Env) (q : Question) (r : Rule)
    (h : firstRule env q = some r) (hr : r.reject > 0) :
    (handleReq env q).1 = makeEmptyResp q r.reject ∧ (handleReq env q).2.2 = [] := by
  have := first_match env q h
  rwa [outcome_reject env q hr] at this

/-- ★ A rule without action (no reject, no upstream) answers REFUSED and contacts nobody. -/
theorem no_action_refused (env : Env) (q : Question) (r : Rule)
    (h : firstRule env q = some r) (hr : r.reject = 0) (hu : r.upstream = none) :
    (handleReq env q).1 = makeEmptyResp q rcodeRefused ∧ (handleReq env q).2.2 = [] := by
  have := first_match env q h
  rwa [outcome_noAction env q hr hu] at this

/-- ★ Whoever is contacted is the deciding rule's upstream, that rule is a forward rule, and what is sent is
    `packReq` of exactly the given question (the caller passes the lower-cased name; class and
    type untouched; RD = 1 by `reqMsg`). No other upstream is ever contacted.  (That it is one query:
    `forward_rule_sends_once`.) -/
theorem forward_only_selected (env : Env) (q : Question) (k : Nat) (wire : Bytes)
    (h : (k, wire) ∈ (handleReq env q).2.2) :
    ∃ r, firstRule env q = some r ∧ r.reject = 0 ∧ r.upstream = some k ∧ packReq env q = .ok wire := by
  rw [(first_match env q rfl).2] at h
  exact outcome_contacts env q h

/-- ★ The forwarded message: RD set, exactly the one question, nothing in answer/authority. -/
theorem forwarded_msg_shape (env : Env) (q : Question) :
    (reqMsg env q).hdr.rd = true ∧ (reqMsg env q).hdr.response = false ∧
    (reqMsg env q).questions = [q] ∧ (reqMsg env q).answers = [] ∧ (reqMsg env q).authorities = [] :=
  ⟨rfl, rfl, rfl, rfl, rfl⟩

/-- What `handle` forwards is `packReq` of the query's first question with a lower-cased name and unchanged
    type and class. -/
theorem handle_forwards_lowercased (env : Env) (m : Msg) (q0 : Question) (k : Nat) (wire : Bytes)
    (hq : m.questions = [q0]) (hs : m.hdr.response = false ∧ m.hdr.rd = true ∧ m.hdr.opcode = 0)
    (h : (k, wire) ∈ (handle env m).forwards) :
    packReq env ⟨lowerName q0.name, q0.qtype, q0.qclass⟩ = .ok wire := by
  rw [(handle_impl env m q0 (notImpl_single hq hs) hq).2] at h
  obtain ⟨_, _, _, _, hp⟩ := forward_only_selected env _ k wire h
  exact hp

/-- ★ A forward rule that decides a well-formed question sends exactly ONE query, to its own upstream
    (`packReq` cannot fail: no silent "nothing forwarded" path) … -/
theorem forward_rule_sends_once (env : Env) (q : Question) (r : Rule) (u : Nat) (hq : questionWF q = true)
    (h : firstRule env q = some r) (hr : r.reject = 0) (hu : r.upstream = some u) :
    ∃ wire, packReq env q = .ok wire ∧ (handleReq env q).2.2 = [(u, wire)] := by
  obtain ⟨wire, hp, _⟩ := packReq_decodes env q hq
  exact ⟨wire, hp, by rw [(first_match env q h).2, outcome_forward env q hr hu hp]⟩

/-- ★ … and the bytes every contacted upstream receives decode (by the real decoder model, C02) to RD = 1,
    QR = 0, exactly the query's question with a lower-cased name and untouched type and class, no answer or
    authority records and one OPT record: the executable specification's C10 clauses hold for the model. -/
theorem forwarded_wire_decodes (env : Env) (m : Msg) (q0 : Question) (k : Nat) (wire : Bytes)
    (hq : m.questions = [q0]) (hs : m.hdr.response = false ∧ m.hdr.rd = true ∧ m.hdr.opcode = 0)
    (hwf : questionWF q0 = true) (h : (k, wire) ∈ (handle env m).forwards) :
    ∃ fm, unpackMsg wire = .ok fm ∧ fm.hdr.rd = true ∧ fm.hdr.response = false ∧
      fm.questions = [⟨lowerName q0.name, q0.qtype, q0.qclass⟩] ∧ fm.answers = [] ∧ fm.authorities = [] ∧
      fm.additionals.length = 1 :=
  ⟨_, packReq_ok_decodes env _ (questionWF_lower q0 hwf) wire (handle_forwards_lowercased env m q0 k wire hq hs h),
    rfl, rfl, rfl, rfl, rfl, rfl⟩

/-- ★ The routing judgement of the executable specification (first applicable rule decides; reject code;
    REFUSED; one query to exactly the selected upstream, decodable, with the right question; SERVFAIL or relay)
    accepts the model on every path — the C10 face of `C03.model_meets_spec`. -/
theorem routing_meets_spec (env : Env) (m : Msg)
    (hq : ∀ q ∈ m.questions, questionWF q = true) (hrej : ∀ ru ∈ env.rules, ru.reject < 16) :
    RouterIO.spec env m ⟨(handle env m).resp, (handle env m).forwards⟩ = "ok" :=
  spec_model env m hq hrej

/-- … and for a router that started: `loadRule` refuses a `reject` outside 0..15 (`LoadCfg.acceptsFull`), so for
    the rules of an accepted configuration the reject-code hypothesis holds by itself. -/
theorem routing_meets_spec_started (c : LoadCfg.Cfg) (env : Env) (m : Msg) (hc : LoadCfg.acceptsFull c = true)
    (hrules : env.rules.map (·.reject) = c.rejects) (hq : ∀ q ∈ m.questions, questionWF q = true) :
    RouterIO.spec env m ⟨(handle env m).resp, (handle env m).forwards⟩ = "ok" :=
  spec_model env m hq fun ru hru =>
    LoadCfg.accepted_rejects_are_rcodes c hc ru.reject (hrules ▸ List.mem_map_of_mem hru)

/-- non-vacuity: a two-rule list where the first (reject) rule wins over a later forward rule -/
example :
    let env : Env := ⟨false, .none, [⟨some [[3, 99, 111, 109]], false, 3, none⟩, ⟨none, false, 0, some 0⟩], [.fail]⟩
    let q : Question := ⟨[1, 97, 3, 99, 111, 109], 1, 1⟩
    (handleReq env q).1.hdr.rcode = 3 ∧ (handleReq env q).2.2 = [] := by decide

/-- ★ `load_ok_iff`: the router starts iff the configuration has no unknown key, every upstream has a
    non-empty unique tag and an address, every domain set a non-empty unique tag, and every rule's
    `domain` / `forward` reference names an existing domain set / upstream — for every configuration. -/
theorem load_ok_iff (c : LoadCfg.Cfg) : LoadCfg.accepts c = LoadCfg.specAccepts c :=
  LoadCfg.accepts_eq_specAccepts c

/-- non-vacuity: a configuration that is accepted and three that are not -/
example : LoadCfg.accepts { upstreams := [("u0", true)], domainSets := ["ds"], rules := [("ds", "u0"), ("", "")], unknownKey := false } = true := by decide
example : LoadCfg.accepts { upstreams := [("u0", true)], domainSets := ["ds"], rules := [("ds", "u1")], unknownKey := false } = false := by decide
example : LoadCfg.accepts { upstreams := [("u0", true), ("u0", true)], domainSets := [], rules := [], unknownKey := false } = false := by decide
example : LoadCfg.accepts { upstreams := [("u0", true)], domainSets := [], rules := [], unknownKey := true } = false := by decide
/-- … and the reject range check: 15 passes, 16 does not -/
example : LoadCfg.acceptsFull { upstreams := [("u0", true)], domainSets := [], rules := [("", "u0"), ("", "")], unknownKey := false, rejects := [0, 15] } = true := by decide
example : LoadCfg.acceptsFull { upstreams := [("u0", true)], domainSets := [], rules := [("", "")], unknownKey := false, rejects := [16] } = false := by decide

/-- tie: the rule scan (first match wins: one `break`), `reverse`, reject-before-forward, REFUSED for
    no rule / no action, strict configuration decoding and the tag checks at start-up. -/
theorem pins :
    Facts.rule_first_break = 1 ∧ Facts.rule_reverse = "matched = !matched" ∧
    Facts.rule_nomatch_cond = "matchedRule == nil" ∧
    Facts.rule_noupstream_cond = "matchedRule.upstream == nil" ∧ Facts.cfg_error_unused = 1 ∧
    Facts.rule_unknown_domain = "m == nil" ∧ Facts.rule_unknown_upstream = "u == nil" ∧
    Facts.ds_dup_tag = "_, dup := r.domainSets[cfg.Tag]" ∧ Facts.up_dup_tag = "_, dup := r.upstreams[cfg.Tag]" :=
  ⟨rfl, rfl, rfl, rfl, rfl, rfl, rfl, rfl, rfl⟩

end MosVerif.C10
