/-
  C19 — a wave of client threads run one after the other (the canonical interleaving used by the scenario model).
-/
import MosVerif.Lemmas.Prefetch
namespace MosVerif.Prefetch
open MosVerif.Ttl

theorem run_append (P : Params) (a b : List Label) : ∀ s, run P s (a ++ b) = run P (run P s a) b := by
  induction a with
  | nil => intro s; rfl
  | cons l ls ih => intro s; simp only [List.cons_append, run]; exact ih _

/-- does a client that finds hit `(e, now)` on key `k` in state `s` start a refresh? -/
def spawns (P : Params) (s : State) (k : Nat) (e : Entry) (now : Nat) : Bool :=
  needPrefetch e.stored e.expire now && !s.queue (P.pkey k)

theorem spawns_true (P : Params) (s : State) (k : Nat) (e : Entry) (now : Nat)
    (hn : needPrefetch e.stored e.expire now = true) (hq : s.queue (P.pkey k) = false) : spawns P s k e now = true := by
  rw [spawns, hn, hq]; rfl

theorem spawns_false (P : Params) (s : State) (k : Nat) (e : Entry) (now : Nat)
    (h : needPrefetch e.stored e.expire now = false ∨ s.queue (P.pkey k) = true) : spawns P s k e now = false := by
  unfold spawns
  rcases h with h | h
  · rw [h]; rfl
  · rw [h, Bool.not_true, Bool.and_false]

/-- one client thread, run to its end on its own -/
theorem client_run (P : Params) (s : State) (i now k : Nat) (served : Msg) (e : Entry)
    (hc : s.clients[i]? = some ⟨k, .start⟩)
    (hget : cacheGet P.clock s.mem k now = some (served, e)) :
    run P s (clientLabels i now) =
      { s with clients := s.clients.set i ⟨k, .responded ⟨served, e.stored, e.expire, e.id⟩⟩,
               queue := if spawns P s k e now then (reserve s.queue (P.pkey k)).1 else s.queue,
               refreshers := if spawns P s k e now then s.refreshers ++ [⟨k, P.pkey k, .spawned⟩] else s.refreshers } := by
  obtain ⟨hi, he⟩ := List.getElem?_eq_some_iff.1 hc
  unfold clientLabels
  simp only [run, step]
  -- the lookup: `start → looked`
  have h1 : clientStep P s i now = { s with clients := s.clients.set i ⟨k, .looked ⟨served, e.stored, e.expire, e.id⟩⟩ } := by
    simp [clientStep, hc, hget]
  rw [h1]
  by_cases hn : needPrefetch e.stored e.expire now = true
  · by_cases hq : s.queue (P.pkey k) = true
    · -- in the window, but `reserve` refuses (somebody holds the key): `looked → ready → responded`
      rw [spawns_false P s k e now (.inr hq)]
      simp [clientStep, hi, hn, reserve_held _ _ hq]
    · -- in the window and `reserve` succeeds (`looked → spawning`), `go func()` (`spawning → ready`), the response
      have hqf : s.queue (P.pkey k) = false := by simpa using hq
      rw [spawns_true P s k e now hn hqf]
      simp [clientStep, hi, hn, reserve_free _ _ hqf]
  · -- outside the window, `reserve` is not called: `looked → ready → responded`
    have hnf : needPrefetch e.stored e.expire now = false := by simpa using hn
    rw [spawns_false P s k e now (.inl hnf)]
    simp [clientStep, hi, hnf]

/-- a client thread whose lookup misses goes to the miss path at once -/
theorem client_run_miss (P : Params) (s : State) (i now k : Nat) (hc : s.clients[i]? = some ⟨k, .start⟩)
    (hget : cacheGet P.clock s.mem k now = none) :
    run P s (clientLabels i now) = { s with clients := s.clients.set i ⟨k, .missed⟩ } := by
  obtain ⟨hi, he⟩ := List.getElem?_eq_some_iff.1 hc
  unfold clientLabels
  simp only [run, step]
  -- the lookup: `start → missed`; the three further steps of a thread that has left the hit path are stutters
  have h1 : clientStep P s i now = { s with clients := s.clients.set i ⟨k, .missed⟩ } := by
    simp [clientStep, hc, hget]
  rw [h1]
  simp [clientStep, List.getElem?_set, hi]

/-- clients `first … first+n-1` replaced by `c` -/
def markRange (l : List Client) (first : Nat) : Nat → Client → List Client
  | 0, _ => l
  | n + 1, c => (markRange l first n c).set (first + n) c

theorem markRange_length (l : List Client) (first n : Nat) (c : Client) :
    (markRange l first n c).length = l.length := by
  induction n with
  | zero => rfl
  | succ n ih => simp [markRange, ih]

theorem markRange_get_out (l : List Client) (first n : Nat) (c : Client) (j : Nat)
    (hj : j < first ∨ first + n ≤ j) : (markRange l first n c)[j]? = l[j]? := by
  induction n with
  | zero => rfl
  | succ n ih =>
    simp only [markRange]
    rw [List.getElem?_set_ne (by omega)]
    exact ih (by omega)

theorem markRange_get_in (l : List Client) (first n : Nat) (c : Client) (j : Nat)
    (hj : first ≤ j ∧ j < first + n) (hl : first + n ≤ l.length) : (markRange l first n c)[j]? = some c := by
  induction n with
  | zero => omega
  | succ n ih =>
    simp only [markRange]
    by_cases hjn : j = first + n
    · subst hjn
      rw [List.getElem?_set_self (by rw [markRange_length]; omega)]
    · rw [List.getElem?_set_ne (by omega)]
      exact ih (by omega) (by omega)

theorem waveLabels_succ (first n now : Nat) :
    waveLabels first (n + 1) now = waveLabels first n now ++ clientLabels (first + n) now := by
  simp [waveLabels, List.range_succ, List.flatMap_append]

/-- the state after a wave of `n` client threads on question `k`, each run to its end in turn -/
def waveState (P : Params) (s : State) (k now : Nat) (served : Msg) (e : Entry) (first n : Nat) : State :=
  { s with clients := markRange s.clients first n ⟨k, .responded ⟨served, e.stored, e.expire, e.id⟩⟩,
           queue := if 0 < n ∧ spawns P s k e now = true then (reserve s.queue (P.pkey k)).1 else s.queue,
           refreshers := if 0 < n ∧ spawns P s k e now = true then s.refreshers ++ [⟨k, P.pkey k, .spawned⟩]
                         else s.refreshers }

theorem spawns_waveState (P : Params) (s : State) (k now : Nat) (served : Msg) (e : Entry) (first n : Nat) :
    spawns P (waveState P s k now served e first n) k e now = (decide (n = 0) && spawns P s k e now) := by
  by_cases hn : n = 0
  · subst hn; simp [spawns, waveState]
  · have hn' : 0 < n := by omega
    cases hsp : spawns P s k e now with
    | false =>
      have : (waveState P s k now served e first n).queue = s.queue := by simp [waveState, hsp]
      simp only [spawns] at hsp ⊢
      rw [this, hsp]; simp [hn]
    | true =>
      have hq : s.queue (P.pkey k) = false := by
        simp only [spawns, Bool.and_eq_true, Bool.not_eq_true'] at hsp; exact hsp.2
      have : (waveState P s k now served e first n).queue = (reserve s.queue (P.pkey k)).1 := by
        simp [waveState, hsp, hn']
      simp only [spawns]
      rw [this, reserve_fst_self _ _ hq]; simp [hn]

/-- a wave of `n` client threads on the same question, each run to its end in turn: all respond with the looked-up
    entry; the first one starts the refresh if the window test says so and nobody holds the key -/
theorem wave_run (P : Params) (k now : Nat) (served : Msg) (e : Entry) (first : Nat) :
    ∀ (n : Nat) (s : State), (∀ i, i < n → s.clients[first + i]? = some ⟨k, .start⟩) →
    cacheGet P.clock s.mem k now = some (served, e) →
    run P s (waveLabels first n now) = waveState P s k now served e first n := by
  intro n
  induction n with
  | zero => intro s _ _; simp [waveLabels, run, markRange, waveState]
  | succ n ih =>
    intro s hstart hget
    rw [waveLabels_succ, run_append, ih s (fun i hi => hstart i (by omega)) hget]
    have hcl : (waveState P s k now served e first n).clients[first + n]? = some ⟨k, .start⟩ := by
      simp only [waveState]
      rw [markRange_get_out _ _ _ _ _ (by omega)]; exact hstart n (by omega)
    have hget' : cacheGet P.clock (waveState P s k now served e first n).mem k now = some (served, e) := hget
    rw [client_run P (waveState P s k now served e first n) (first + n) now k served e hcl hget',
      spawns_waveState]
    by_cases hn : n = 0
    · subst hn
      cases hsp : spawns P s k e now <;> simp [waveState, markRange, hsp]
    · have hn' : 0 < n := by omega
      cases hsp : spawns P s k e now <;> simp [waveState, markRange, hsp, hn, hn']

theorem waveState_spawned (P : Params) (s : State) (k now : Nat) (sv : Msg) (e : Entry) (first n : Nat)
    (h : spawns P s k e now = true) (hn : 0 < n) :
    (waveState P s k now sv e first n).queue = (reserve s.queue (P.pkey k)).1 ∧
    (waveState P s k now sv e first n).refreshers = s.refreshers ++ [⟨k, P.pkey k, .spawned⟩] := by
  simp [waveState, h, hn]

theorem waveState_quiet (P : Params) (s : State) (k now : Nat) (sv : Msg) (e : Entry) (first n : Nat)
    (h : spawns P s k e now = false) :
    (waveState P s k now sv e first n).queue = s.queue ∧
    (waveState P s k now sv e first n).refreshers = s.refreshers := by
  simp [waveState, h]

theorem init_clients (mem : Mem) (m id i : Nat) (hi : i < m) :
    (init mem (List.replicate m 0) id).clients[i]? = some ⟨0, .start⟩ := by
  simp [init, hi]

end MosVerif.Prefetch
