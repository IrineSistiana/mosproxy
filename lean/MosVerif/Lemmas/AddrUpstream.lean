/-
  C17 — `NewUpstream` on every rendered case: the plan it builds.

  The address of a case parses as (scheme, authority, path) (`parse_addr`); on a parsed address the
  scheme text alone selects the branch of `NewUpstream` (`newUpstream_scheme`, for any authority and
  `dial_addr`); the fields of the plan are then what `Lemmas/AddrPlan` says of the helpers.
-/
import MosVerif.Lemmas.AddrPlan
namespace MosVerif.Addr

theorem containsSep_noSlash {s : Str} (h : '/' ∉ s) : containsSep s = false := by
  induction s with
  | nil => rfl
  | cons c t ih =>
    rw [List.mem_cons, not_or] at h
    unfold containsSep
    rw [ih h.2, Bool.or_false]
    split
    · exact absurd List.mem_cons_self h.2
    · rfl

theorem containsSep_append (a b : Str) : containsSep (a ++ ':' :: '/' :: '/' :: b) = true := by
  induction a with
  | nil => rfl
  | cons c t ih => simp only [List.cons_append, containsSep, ih, Bool.or_true]

theorem splitScheme_append {a : Str} (r : Str) (h : ':' ∉ a) :
    splitScheme (a ++ ':' :: r) = some (a, r) := by
  induction a with
  | nil => exact if_pos rfl
  | cons c t ih =>
    rw [List.mem_cons, not_or] at h
    rw [List.cons_append, splitScheme, if_neg (Ne.symm h.1), ih h.2]

/-- `url.Parse` on `scheme://authority[/path]`: the authority ends where the path begins -/
theorem urlParse_form {t auth path : Str} (ht : ':' ∉ t) (hne : t ≠ []) (hs : '/' ∉ auth)
    (hpath : path = [] ∨ path.head? = some '/') :
    urlParse (t ++ ':' :: '/' :: '/' :: (auth ++ path)) = some ⟨t, auth, path⟩ := by
  have hall : ∀ a ∈ auth, decide (a ≠ '/') = true := fun a m => decide_eq_true fun e => hs (e ▸ m)
  have hpt : path.takeWhile (· ≠ '/') = [] ∧ path.dropWhile (· ≠ '/') = path := by
    rcases hpath with rfl | e
    · exact ⟨rfl, rfl⟩
    · obtain ⟨r, rfl⟩ := List.head?_eq_some_iff.mp e
      exact ⟨rfl, rfl⟩
  simp only [urlParse, splitScheme_append _ ht, hne, if_false, List.takeWhile_append_of_pos hall,
    List.dropWhile_append_of_pos hall, hpt.1, hpt.2, List.append_nil]

theorem authority_noSlash {h : Host} {p : Option Str} (wh : h.wf = true) (wp : portWf p = true) :
    '/' ∉ h.url ++ portSuffix p := by
  have hs : '/' ∉ h.url := by
    cases h with
    | plain h => exact (plainHost_facts wh).slash
    | v6 x => simp [Host.url, (v6_facts wh).slash]
  cases p with
  | none => simpa [portSuffix] using hs
  | some p => simp [portSuffix, hs, (port_facts wp).slash]

/-- the scheme `url.Parse` reports: "udp" when none was written -/
def Scheme.parsed (s : Scheme) : Str := if s = .none then sUdp else s.text

theorem Scheme.parsed_noColon (s : Scheme) : ':' ∉ s.parsed := by
  cases s <;> decide

theorem Scheme.parsed_ne_nil (s : Scheme) : s.parsed ≠ [] := by
  cases s <;> decide

structure CaseFacts (c : Case) : Prop where
  host : c.host.wf = true
  port : portWf c.port = true
  dial : c.dial.wf = true
  path : c.path = [] ∨ (c.path.head? = some '/' ∧ c.scheme ≠ .none)

theorem Case.facts {c : Case} (w : c.wf = true) : CaseFacts c := by
  simp only [Case.wf, Bool.and_eq_true, Bool.or_eq_true, List.isEmpty_iff, beq_iff_eq, bne_iff_ne] at w
  exact ⟨w.1.1.1, w.1.1.2, w.1.2, w.2⟩

theorem wf_noDial {sch : Scheme} {host : Host} {port : Option Str} {path : Str} {d : Dial}
    {ns : List (Str × Str)} (w : (Case.mk sch host port path d ns).wf = true) :
    (Case.mk sch host port path .none ns).wf = true := by
  simp only [Case.wf, Dial.wf, Bool.and_eq_true] at w ⊢
  exact ⟨⟨⟨w.1.1.1, w.1.1.2⟩, trivial⟩, w.2⟩

/-- ★ scheme defaulting and URL parsing: the address of every well-formed case is read as
    (scheme or "udp", `host[:port]` exactly as written, path). -/
theorem parse_addr {c : Case} (w : c.wf = true) :
    urlParse (if !containsSep c.addr then sUdp ++ sSep ++ c.addr else c.addr)
      = some ⟨c.scheme.parsed, c.host.url ++ portSuffix c.port, c.path⟩ := by
  have f := Case.facts w
  have ns := authority_noSlash f.host f.port
  have key := urlParse_form c.scheme.parsed_noColon c.scheme.parsed_ne_nil ns (f.path.imp id (·.1))
  by_cases hs : c.scheme = .none
  · -- no scheme, hence no path and no "://": "udp://" is put in front
    have hp : c.path = [] := f.path.resolve_right fun e => e.2 hs
    have ea : c.addr = c.host.url ++ portSuffix c.port := by simp [Case.addr, hs, hp]
    rw [ea, containsSep_noSlash ns]
    simpa [Scheme.parsed, hs, hp, sSep] using key
  · have ea : c.addr = c.scheme.text ++ ':' :: '/' :: '/' :: ((c.host.url ++ portSuffix c.port) ++ c.path) := by
      simp [Case.addr, hs, sSep]
    rw [ea, containsSep_append]
    simpa [Scheme.parsed, hs] using key

def Scheme.proto : Scheme → Proto
  | .none | .udp => .udp
  | .tcp | .tcpPipeline => .tcp
  | .tls | .tlsPipeline => .tls
  | .https | .h3 => .https
  | .http => .http
  | .quic | .doq => .quic

def Scheme.pipeline : Scheme → Bool
  | .tcpPipeline | .tlsPipeline => true
  | _ => false

def Scheme.isH3 : Scheme → Bool
  | .h3 => true
  | _ => false

/-- `NewUpstream` once the address is parsed and the authority trimmed: the scheme alone selects the
    branch, whatever the authority and the `dial_addr` are. -/
theorem newUpstream_scheme (s : Scheme) {addr dial auth path host : Str}
    (hp : urlParse (if !containsSep addr then sUdp ++ sSep ++ addr else addr) = some ⟨s.parsed, auth, path⟩)
    (ht : tryTrimIpv6Brackets? auth = some host) :
    newUpstream addr dial = .ok ⟨s.proto, s.pipeline, s.isH3,
      if s.stream then dialNetworkTcpOrUnix (getDialAddr host dial s.defaultPort) else sUdp,
      getDialAddr host dial s.defaultPort,
      if s.tlsBased then (if s.proto = .https then urlHostname auth else tryRemovePort host) else [],
      if s.proto = .http ∨ s.proto = .https then auth else [],
      if s.tcpRetry then some (getDialAddr host dial s.defaultPort) else none⟩ := by
  unfold newUpstream
  dsimp only
  rw [hp]
  dsimp only
  rw [ht]
  -- the tests on the scheme text are between given strings: they evaluate
  cases s <;> rfl

/-- the address the property says is dialled, `d` being the default port -/
def Dial.expAddr (host : Host) (port : Option Str) (d : Str) : Dial → Str
  | .none => joinHostPort host.bare (port.getD d)
  | .host h p => joinHostPort h.bare (p.getD d)
  | .bracketed x => joinHostPort x d
  | .unix n => '@' :: n
  | .raw s => getDialAddr (Dial.render (.host host port)) s d

/-- ... and the network it is dialled on by a stream based transport -/
def Dial.expNet (host : Host) (port : Option Str) (d : Str) : Dial → Str
  | .unix _ => sUnix
  | .raw s => dialNetworkTcpOrUnix (getDialAddr (Dial.render (.host host port)) s d)
  | _ => sTcp

def Case.expDial (c : Case) : Str := c.dial.expAddr c.host c.port c.scheme.defaultPort

def Case.expNet (c : Case) : Str :=
  if c.scheme.stream then c.dial.expNet c.host c.port c.scheme.defaultPort else sUdp

/-- the TLS server name: the URL host, never the dial address -/
def Case.expServerName (c : Case) : Str :=
  if c.scheme.tlsBased then c.host.bare else []

def Case.expHttpHost (c : Case) : Str :=
  if c.scheme.proto = .http ∨ c.scheme.proto = .https then c.host.url ++ portSuffix c.port else []

def Case.expPlan (c : Case) : Plan :=
  ⟨c.scheme.proto, c.scheme.pipeline, c.scheme.isH3, c.expNet, c.expDial, c.expServerName, c.expHttpHost,
    if c.scheme.tcpRetry then some c.expDial else none⟩

theorem Dial.wf_host {h : Host} {p : Option Str} (w : (Dial.host h p).wf = true) :
    h.wf = true ∧ portWf p = true :=
  Bool.and_eq_true_iff.mp w

/-- the dial address computed by the code for every form of `dial_addr` -/
theorem getDialAddr_dial {host : Host} {port : Option Str} (d : Str) {dial : Dial}
    (wh : host.wf = true) (wp : portWf port = true) (wd : dial.wf = true) :
    getDialAddr (Dial.render (.host host port)) dial.render d = dial.expAddr host port d := by
  cases dial with
  | none => exact getDialAddr_url _ wh wp
  | host h p => exact getDialAddr_override _ _ (Dial.wf_host wd).1 (Dial.wf_host wd).2
  | bracketed x => exact getDialAddr_bracketed _ _ wd
  | unix n => exact getDialAddr_unix _ _ _
  | raw s => rfl

theorem network_dial {host : Host} {port : Option Str} (d : Str) {dial : Dial}
    (wh : host.wf = true) (wd : dial.wf = true) :
    dialNetworkTcpOrUnix (dial.expAddr host port d) = dial.expNet host port d := by
  cases dial with
  | none => exact if_neg (ne_true_of_eq_false (join_no_at _ (Host.bare_noDelim wh).at_))
  | host h p => exact if_neg (ne_true_of_eq_false (join_no_at _ (Host.bare_noDelim (Dial.wf_host wd).1).at_))
  | bracketed x => exact if_neg (ne_true_of_eq_false (join_no_at _ (v6_facts wd).at_))
  | unix n => rfl
  | raw s => rfl

theorem urlHostname_authority {h : Host} {p : Option Str} (wh : h.wf = true) (wp : portWf p = true) :
    urlHostname (h.url ++ portSuffix p) = h.bare := by
  cases h with
  | plain h =>
    have f := plainHost_facts wh
    cases p with
    | none => simp [Host.url, portSuffix, urlHostname, indexOf_none f.colon, Host.bare]
    | some p =>
      have nr : ']' ∉ h ++ ':' :: p := by simp [f.rb, (port_facts wp).rb]
      simp [Host.url, portSuffix, urlHostname, indexOf_append p f.colon, indexOf_none nr, Host.bare]
  | v6 x =>
    -- some colon comes first (inside the brackets); the host is what stands before the first ']'
    have f := v6_facts wh
    obtain ⟨k, hk⟩ := indexOf_of_mem (c := ':') (s := '[' :: x ++ [']'] ++ portSuffix p) (by simp [f.colon])
    have hb := indexOf_append (c := ']') (a := '[' :: x) (portSuffix p) (by simp [f.rb])
    simp only [List.cons_append, List.append_assoc, List.nil_append] at hk hb
    simp [Host.url, urlHostname, hk, hb, Host.bare]

/-- ★ `NewUpstream` on every well-formed case builds exactly the plan the property describes:
    protocol, helper flags, socket network, dial address, TLS server name, HTTP host. -/
theorem newUpstream_case {c : Case} (w : c.wf = true) :
    newUpstream c.addr c.dial.render = .ok c.expPlan := by
  have f := Case.facts w
  -- `tryRemovePort` and `URL.Hostname()` both give the bare host: the two server names are one (`ite_self`)
  rw [newUpstream_scheme c.scheme (parse_addr w) (trim_authority f.host f.port),
    getDialAddr_dial _ f.host f.port f.dial, network_dial _ f.host f.dial,
    tryRemovePort_render f.host f.port, urlHostname_authority f.host f.port, ite_self]
  rfl

end MosVerif.Addr
