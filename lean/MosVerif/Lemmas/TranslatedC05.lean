/-
  Tie by translation (C05): the integer / boolean logic of `pipelineConn` (internal/upstream/transport/
  pipeline_conn.go) — the `reserved` bookkeeping of `addQueueC` and `Reserve`, the end-of-life tests of `addQueueC`
  and `deleteQueueC`, the `uint16` conversion of the id counter and its increment, `Status().Available` — is
  translated mechanically from the current Go source (`Generated/Translated.lean`); every operation of the model's
  `Conn` (Model/Pipeline.lean) is proved EQUAL, for all connections and arguments, to the operation assembled from
  the translated pieces (the map operations `qput`/`qdel` stay the model's own: they are pinned textually).
  The `c05_*_eq` lemmas bring each translated fragment to the model's form by case analysis + linear arithmetic, so
  that a rewrite of the Go text that keeps the meaning (`65535 < c.nextQid`, `c.nextQid >= 65536`, swapped
  conjuncts) keeps them provable, and a change of meaning does not.
-/
import MosVerif.Generated.Translated
import MosVerif.Lemmas.TranslatedTactics
import MosVerif.Model.Pipeline
namespace MosVerif.Pipeline
open MosVerif

theorem id_pure_c05 {α : Type} (x : α) : (pure x : Id α) = x := rfl

theorem c05_addQ_reserved_eq (r : Nat) : Translated.c05_addQ_reserved r = if r > 0 then r - 1 else r := by
  unfold Translated.c05_addQ_reserved
  tr_val

theorem c05_addQ_eol_eq (n : Nat) : Translated.c05_addQ_eol n = decide (n > 65535) := by
  unfold Translated.c05_addQ_eol
  bool_arith

theorem c05_addQ_qid_eq (n : Nat) : Translated.c05_addQ_qid n = n % 65536 := by
  unfold Translated.c05_addQ_qid
  tr_val

theorem c05_addQ_next_eq (n : Nat) : Translated.c05_addQ_next n = n + 1 := by
  unfold Translated.c05_addQ_next
  tr_val

theorem c05_delQ_eol_eq (n l : Nat) : Translated.c05_delQ_eol n l = (decide (n > 65535) && decide (l = 0)) := by
  unfold Translated.c05_delQ_eol
  bool_arith

theorem c05_status_avail_eq (a : Bool) (n r : Nat) : Translated.c05_status_avail a n r = decide (n + r ≤ 65535) := by
  unfold Translated.c05_status_avail
  bool_arith

theorem c05_reserve_eq (n r : Nat) : Translated.c05_reserve n r = if n + r < 65535 then r + 1 else r := by
  unfold Translated.c05_reserve
  tr_val

/-- `addQueueC`: decrement of `reserved`, end-of-life test, `qid := uint16(c.nextQid)`, `c.nextQid++` -/
theorem addQueueC_translated (c : Conn) (ch : Nat) :
    c.addQueueC ch =
      let c := { c with reserved := Translated.c05_addQ_reserved c.reserved }
      if Translated.c05_addQ_eol c.nextQid then (c, none)
      else
        let qid := Translated.c05_addQ_qid c.nextQid
        ({ c with nextQid := Translated.c05_addQ_next c.nextQid, queue := qput qid ch c.queue }, some qid) := by
  simp only [c05_addQ_reserved_eq, c05_addQ_eol_eq, c05_addQ_qid_eq, c05_addQ_next_eq]
  unfold Conn.addQueueC
  cases c with
  | mk n r cl q =>
    by_cases hr : r > 0 <;> by_cases hn : n > 65535 <;> simp [hr, hn]

/-- `deleteQueueC`: `eol := c.nextQid > 65535 && len(c.queue) == 0` (evaluated after the `delete`) -/
theorem deleteQueueC_translated (c : Conn) (qid : Nat) :
    c.deleteQueueC qid =
      let q := qdel qid c.queue
      { c with queue := q, closed := c.closed || Translated.c05_delQ_eol c.nextQid q.length } := by
  simp only [c05_delQ_eol_eq]
  unfold Conn.deleteQueueC
  cases h : qdel qid c.queue <;> simp

/-- `Status().Available` (whatever the field held before the assignment) -/
theorem status_translated (c : Conn) (a : Bool) :
    c.status = (c.closed, Translated.c05_status_avail a c.nextQid c.reserved) := by
  simp only [c05_status_avail_eq]
  rfl

theorem reserve_translated (c : Conn) :
    c.reserve = { c with reserved := Translated.c05_reserve c.nextQid c.reserved } := by
  simp only [c05_reserve_eq]
  unfold Conn.reserve
  cases c with
  | mk n r cl q => by_cases h : n + r < 65535 <;> simp [h]

end MosVerif.Pipeline
