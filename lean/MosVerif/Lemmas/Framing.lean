/-
  C13 — the blocking reader: `io.ReadFull` over any chunking sees only the concatenation, so
  `ReadMsgFromTCP` is a function of the byte stream and `handleConn` is the reference stream parser
  followed by the reference counter `admissionS`; and the idle deadline.
-/
import MosVerif.Model.Framing
import MosVerif.Lemmas.GnetParse
namespace MosVerif.Framing
open MosVerif.Gnet

theorem readFull_zero (cs : Chunks) (acc : Bytes) : readFull cs 0 acc = .ok acc cs := by
  cases cs <;> rfl

/-- enough octets: `ReadFull` returns exactly the next `n` octets of the concatenation, whatever the chunking -/
theorem readFull_ok (cs : Chunks) (n : Nat) (acc : Bytes) (h : n ≤ cs.flatten.length) :
    ∃ cs', readFull cs n acc = .ok (acc ++ cs.flatten.take n) cs' ∧ cs'.flatten = cs.flatten.drop n := by
  induction cs generalizing n acc with
  | nil =>
    obtain rfl : n = 0 := Nat.le_zero.mp h
    exact ⟨[], by rw [readFull_zero, List.take_zero, List.append_nil], rfl⟩
  | cons c cs ih =>
    rw [List.flatten_cons, List.length_append] at h
    cases n with
    | zero => exact ⟨c :: cs, by rw [readFull_zero, List.take_zero, List.append_nil], rfl⟩
    | succ n =>
      rw [readFull, List.flatten_cons]
      split
      · rename_i hc
        obtain ⟨cs', h1, h2⟩ := ih (n + 1 - c.length) (acc ++ c) (by omega)
        refine ⟨cs', ?_, ?_⟩
        · rw [h1, List.take_append, List.take_of_length_le hc, List.append_assoc]
        · rw [h2, List.drop_append, List.drop_of_length_le hc, List.nil_append]
      · rename_i hc
        have hlt : n + 1 ≤ c.length := by omega
        exact ⟨c.drop (n + 1) :: cs, by rw [List.take_append_of_le_length hlt],
          by rw [List.flatten_cons, List.drop_append_of_le_length hlt]⟩

theorem readFull_short (cs : Chunks) (n : Nat) (acc : Bytes) (h : cs.flatten.length < n) :
    readFull cs n acc =
      if (acc ++ cs.flatten).isEmpty then .eof else .unexpected (acc.length + cs.flatten.length) := by
  induction cs generalizing n acc with
  | nil =>
    obtain ⟨n, rfl⟩ : ∃ k, n = k + 1 := ⟨n - 1, by omega⟩
    rw [readFull, List.flatten_nil, List.append_nil]
    rfl
  | cons c cs ih =>
    rw [List.flatten_cons, List.length_append] at h
    obtain ⟨n, rfl⟩ : ∃ k, n = k + 1 := ⟨n - 1, by omega⟩
    rw [readFull, if_pos (by omega), ih _ _ (by omega), List.flatten_cons, List.append_assoc,
      List.length_append, List.length_append, Nat.add_assoc]

theorem readFull_short_nil (cs : Chunks) (n : Nat) (h : cs.flatten.length < n) :
    readFull cs n [] = if cs.flatten.isEmpty then .eof else .unexpected cs.flatten.length := by
  rw [readFull_short cs n [] h, List.nil_append, List.length_nil, Nat.zero_add]

/-- with no complete frame in the stream `ReadMsgFromTCP` fails after as many octets as there are -/
theorem readMsgFromTCP_incomplete (dec : Bytes → Bool) (cs : Chunks) (h : Incomplete cs.flatten) :
    readMsgFromTCP dec cs = .err cs.flatten.length := by
  rcases h with h | ⟨a, b, t, hS, ht⟩
  · rw [readMsgFromTCP, readFull_short_nil cs 2 h]
    generalize cs.flatten = S
    cases S <;> rfl
  · obtain ⟨cs1, h1, h1f⟩ := readFull_ok cs 2 [] (by rw [hS]; exact Nat.le_add_left ..)
    rw [hS] at h1 h1f
    rw [readMsgFromTCP, h1, hS]
    -- the header `[a, b]` selects the branch that reads the body
    show (match readFull cs1 (rd16 a b) [] with | .eof => _ | .unexpected n => _ | .ok body rest => _) = _
    rw [readFull_short_nil cs1 _ (by rw [h1f]; exact ht), h1f]
    cases t with
    | nil => rfl
    | cons y ys => exact congrArg ReadMsg.err (Nat.add_comm 2 _)

/-- with a complete frame at the front it reads exactly that frame, whatever the chunking -/
theorem readMsgFromTCP_frame (dec : Bytes → Bool) (cs : Chunks) (a b : UInt8) (t : Bytes)
    (hS : cs.flatten = a :: b :: t) (hc : rd16 a b ≤ t.length) :
    ∃ cs', cs'.flatten = t.drop (rd16 a b) ∧
      readMsgFromTCP dec cs =
        if dec (t.take (rd16 a b)) then .msg (t.take (rd16 a b)) cs'
        else .invalid (2 + (t.take (rd16 a b)).length) := by
  obtain ⟨cs1, h1, h1f⟩ := readFull_ok cs 2 [] (by rw [hS]; exact Nat.le_add_left ..)
  rw [hS] at h1 h1f
  obtain ⟨cs2, h2, h2f⟩ := readFull_ok cs1 (rd16 a b) [] (by rw [h1f]; exact hc)
  rw [h1f] at h2 h2f
  refine ⟨cs2, h2f, ?_⟩
  rw [readMsgFromTCP, h1]
  -- the header `[a, b]` selects the branch that reads the body
  show (match readFull cs1 (rd16 a b) [] with | .eof => _ | .unexpected n => _ | .ok body rest => _) = _
  rw [h2]
  rfl

/-- the outcome of `handleConn`'s loop that the reference parser prescribes for the stream `S` -/
def endOf (dec : Bytes → Bool) (S : Bytes) : End :=
  if (parse S).1.all dec then .closed (parse S).2.length else .invalid

theorem endOf_incomplete (dec : Bytes → Bool) {S : Bytes} (h : Incomplete S) :
    endOf dec S = .closed S.length := by
  rw [endOf, parse_of_incomplete h]
  rfl

theorem endOf_frame (dec : Bytes → Bool) (a b : UInt8) (t : Bytes) (hc : rd16 a b ≤ t.length) :
    endOf dec (a :: b :: t) =
      if dec (t.take (rd16 a b)) then endOf dec (t.drop (rd16 a b)) else .invalid := by
  rw [endOf, parse_complete a b t hc, List.all_cons]
  cases dec (t.take (rd16 a b)) <;> rfl

theorem endOf_invalid (dec : Bytes → Bool) (S : Bytes) :
    (endOf dec S == .invalid) = !(parse S).1.all dec := by
  rw [endOf]
  cases (parse S).1.all dec <;> rfl

/-- ★ for every chunking of the byte stream, every completion schedule and every limiter behaviour
    the blocking reader decodes exactly the frames of the concatenation (up to the first that does
    not decode), decides on each as the reference counter `admissionS` does, and stops with the error
    `ReadMsgFromTCP` reports for the incomplete tail. -/
theorem handleConn_refines (dec : Bytes → Bool) (max : Nat) (done : Nat → Nat) (lim : Nat → Bool)
    (fuel i : Nat) (cs : Chunks) (running : Nat) (h : cs.flatten.length < fuel) :
    handleConn dec max done lim fuel i cs running =
      (admissionS max done lim i running ((parse cs.flatten).1.takeWhile dec), endOf dec cs.flatten) := by
  induction fuel generalizing i cs running with
  | zero => omega
  | succ fuel ih =>
    rw [handleConn]
    rcases incomplete_or_frame cs.flatten with hi | ⟨a, b, t, hS, hc⟩
    · rw [readMsgFromTCP_incomplete dec cs hi, endOf_incomplete dec hi, parse_of_incomplete hi]
      rfl
    · obtain ⟨cs', hf, hr⟩ := readMsgFromTCP_frame dec cs a b t hS hc
      rw [hr, hS, endOf_frame dec a b t hc, parse_complete a b t hc, List.takeWhile_cons]
      cases hd : dec (t.take (rd16 a b)) with
      | false => rfl
      | true =>
        have hlen : cs'.flatten.length < fuel := by
          rw [hS, List.length_cons, List.length_cons] at h
          rw [hf, List.length_drop]
          omega
        simp only [if_true]
        rw [ih _ _ _ hlen, ih _ _ _ hlen, hf, admissionS]
        split <;> rfl

theorem handleConn_stream (dec : Bytes → Bool) (max : Nat) (done : Nat → Nat) (lim : Nat → Bool) (chunks : Chunks) :
    handleConn dec max done lim (chunks.flatten.length + 1) 0 chunks 0 =
      (admissionS max done lim 0 0 ((parse chunks.flatten).1.takeWhile dec), endOf dec chunks.flatten) :=
  handleConn_refines dec max done lim _ 0 chunks 0 (Nat.lt_succ_self _)

theorem admissionS_bodies (max : Nat) (done : Nat → Nat) (lim : Nat → Bool) (fs : List Bytes) (i running : Nat) :
    (admissionS max done lim i running fs).map Event.body = fs := by
  induction fs generalizing i running with
  | nil => rfl
  | cons f fs ih =>
    rw [admissionS]
    split <;> rw [List.map_cons, ih] <;> rfl

/-- no handler completes while the stream is read and the limiter allows everything: the per-connection
    counter `admission` of the event-driven listener -/
theorem admissionS_nodone (max : Nat) (fs : List Bytes) (i running : Nat) :
    admissionS max (fun _ => 0) (fun _ => false) i running fs = (admission max running fs).1 := by
  induction fs generalizing i running with
  | nil => rfl
  | cons f fs ih =>
    rw [admissionS, admission_cons, Bool.or_false, Nat.sub_zero, ih, ih]
    by_cases h : running + 1 > max
    · rw [decide_eq_true h, if_pos rfl, if_pos h, if_pos h]
    · rw [decide_eq_false h, if_neg Bool.false_ne_true, if_neg h, if_neg h]

/-- ping-pong (the previous handler has always finished, so at most one was running): with a limit of
    at least one nothing is REFUSED -/
theorem admissionS_pingpong (max : Nat) (hmax : 1 ≤ max) (fs : List Bytes) (i running : Nat) (h : running ≤ 1) :
    admissionS max (fun _ => 1) (fun _ => false) i running fs = fs.map Event.query := by
  induction fs generalizing i running with
  | nil => rfl
  | cons f fs ih =>
    have h0 : running - 1 = 0 := by omega
    have hadm : ¬ 0 + 1 > max := by omega
    rw [admissionS, h0, Bool.or_false, decide_eq_false hadm, if_neg Bool.false_ne_true, ih _ _ (Nat.le_refl 1)]
    rfl

/-! The idle deadline. In each proof `prev` is the completion time the client's pace refers to and `now ≥ prev` the time the
  loop really arms the deadline: being later only helps. -/

theorem idleLoop_paced (idle : Nat) (lag : Nat → Nat) (arr : List Nat) (j prev now : Nat)
    (hle : prev ≤ now) (hp : paced idle prev arr) : idleLoop idle lag j now arr = arr.length := by
  induction arr generalizing j prev now with
  | nil => rfl
  | cons a as ih =>
    have hmax : a ≤ Nat.max now a + lag j := Nat.le_add_right_of_le (Nat.le_max_right now a)
    rw [idleLoop, if_neg (by have := hp.1; omega), ih _ _ _ hmax hp.2, List.length_cons, Nat.add_comm]

theorem gnetIdle_gaps (idle : Nat) (ts : List Nat) (prev last : Nat)
    (hle : prev ≤ last) (hp : gapsBelow idle prev ts) : gnetIdle idle last ts = ts.length := by
  induction ts generalizing prev last with
  | nil => rfl
  | cons t ts ih =>
    rw [gnetIdle, if_neg (by have := hp.1; omega), ih _ _ (Nat.le_max_right last t) hp.2,
      List.length_cons, Nat.add_comm]

theorem fuelFor_pos (now : Nat) (arr : List Nat) : 1 ≤ fuelFor now arr := by
  cases arr with
  | nil => exact Nat.le_refl 1
  | cons a as => rw [fuelFor]; omega

/-- a pass that reads a message leaves enough fuel for the rest, wherever the clock stands then -/
theorem fuelFor_tail {now a fuel : Nat} {as : List Nat} (x : Nat) (h : fuelFor now (a :: as) ≤ fuel + 1) :
    fuelFor x as ≤ fuel := by
  rw [fuelFor] at h
  cases as with
  | nil => rw [fuelFor] at h ⊢; omega
  | cons b bs => rw [fuelFor] at h ⊢; omega

/-- a pass that only re-arms moves the clock towards the next arrival by `d ≥ 1` -/
theorem fuelFor_later {now d a fuel : Nat} {as : List Nat} (hd : 1 ≤ d) (hlt : now + d ≤ a)
    (h : fuelFor now (a :: as) ≤ fuel + 1) : fuelFor (now + d) (a :: as) ≤ fuel := by
  rw [fuelFor] at h ⊢
  omega

theorem idleLoopB_pacedB (idle : Nat) (hidle : 1 ≤ idle) (busy : Nat → Bool) (lag : Nat → Nat)
    (fuel : Nat) (arr : List Nat) (j prev now : Nat)
    (hle : prev ≤ now) (hp : pacedB idle busy prev arr) (hf : fuelFor now arr ≤ fuel) :
    idleLoopB idle busy lag fuel j now (arr.map (fun a => (a, a))) = arr.length := by
  induction fuel generalizing arr j prev now with
  | zero => exact absurd (Nat.le_trans (fuelFor_pos now arr) hf) (by decide)
  | succ fuel ih =>
    cases arr with
    | nil => rfl
    | cons a as =>
      rw [List.map_cons, idleLoopB]
      by_cases ha : a ≤ now + idle
      · -- the message is there in time: on to the next one
        have hmax : a ≤ Nat.max now a + lag j := Nat.le_add_right_of_le (Nat.le_max_right now a)
        rw [if_pos ha, ih as _ a _ hmax hp.2 (fuelFor_tail _ hf), List.length_cons, Nat.add_comm]
      · -- the deadline passes first: the client is not on pace, so queries are in flight; re-arm
        have hlt : now + idle < a := Nat.lt_of_not_le ha
        have hb : busy (now + idle) = true := hp.1.elim
          (fun h => absurd (Nat.le_trans h (Nat.add_le_add_right hle idle)) ha)
          (fun h => h _ (Nat.le_add_right_of_le hle) hlt)
        rw [if_neg ha, decide_eq_true hlt, hb, Bool.and_self, if_pos rfl]
        exact ih (a :: as) j prev _ (Nat.le_add_right_of_le hle) hp (fuelFor_later hidle (Nat.le_of_lt hlt) hf)

/-- a message of which some octets have arrived when the deadline passes is NOT waited for any longer,
    queries in flight or not (`n > 0`) -/
theorem idleLoopB_partial (idle : Nat) (busy : Nat → Bool) (lag : Nat → Nat) (fuel j now p a : Nat)
    (as : List (Nat × Nat)) (hp : p ≤ now + idle) (ha : now + idle < a) :
    idleLoopB idle busy lag (fuel + 1) j now ((p, a) :: as) = 0 := by
  rw [idleLoopB, if_neg (Nat.not_le_of_gt ha), decide_eq_false (Nat.not_lt_of_ge hp), Bool.false_and,
    if_neg Bool.false_ne_true]

theorem gnetIdleB_gaps (idle : Nat) (hidle : 1 ≤ idle) (busy : Nat → Bool)
    (fuel : Nat) (ts : List Nat) (prev last : Nat)
    (hle : prev ≤ last) (hp : gapsBelowB idle busy prev ts) (hf : fuelFor last ts ≤ fuel) :
    gnetIdleB idle busy fuel last ts = ts.length := by
  induction fuel generalizing ts prev last with
  | zero => exact absurd (Nat.le_trans (fuelFor_pos last ts) hf) (by decide)
  | succ fuel ih =>
    cases ts with
    | nil => rfl
    | cons t ts =>
      rw [gnetIdleB]
      by_cases ht : t < last + idle
      · rw [if_pos ht, ih ts t (Nat.max last t) (Nat.le_max_right last t) hp.2 (fuelFor_tail _ hf),
          List.length_cons, Nat.add_comm]
      · have hge : last + idle ≤ t := Nat.le_of_not_lt ht
        have hb : busy (last + idle) = true := hp.1.elim
          (fun h => absurd (Nat.lt_of_lt_of_le h (Nat.add_le_add_right hle idle)) ht)
          (fun h => h _ (Nat.le_add_right_of_le hle) hge)
        rw [if_neg ht, hb, if_pos rfl]
        exact ih (t :: ts) prev _ (Nat.le_add_right_of_le hle) hp (fuelFor_later hidle hge hf)

end MosVerif.Framing
