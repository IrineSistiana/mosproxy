/-
  C15: the interleaving model of `Model/LimiterConc` refines the sequential limiter.

  `CState.Inv` ties heap and map together (a cell is live exactly when the map points to it), so a
  locked region that finds its entry live works on the entry of its key.  `CState.abs` reads a
  sequential `ClientLimiter` off a state: per key, the mapped cell if it has been used.  Each atomic
  step is then either invisible to `abs` or one sequential operation on it (`sim_invisible`,
  `sim_allow` with the clamp of `LimiterClock`, `sim_gc`), and `linearizable` is the induction.
-/
import MosVerif.Model.LimiterConc
import MosVerif.Lemmas.LimiterClock
namespace MosVerif.Limiter

@[simp] theorem upd_same {α β : Type} [DecidableEq α] (f : α → β) (a : α) (v : β) : upd f a v a = v := by
  simp [upd]

theorem upd_other {α β : Type} [DecidableEq α] (f : α → β) (a : α) (v : β) (x : α) (h : x ≠ a) :
    upd f a v x = f x := by
  simp [upd, h]

/-- the heap/map invariant: an allocated entry is live (not dead) exactly when the map points
    to it — so whoever finds an entry live under its lock is working on *the* entry of the key. -/
structure CState.Inv (s : CState) : Prop where
  mapped : ∀ k id, s.map k = some id → id < s.next ∧ s.keyOf id = k ∧ (s.heap id).dead = false
  live : ∀ id, id < s.next → (s.heap id).dead = false → s.map (s.keyOf id) = some id
  virgin : ∀ id, id < s.next → (s.heap id).lastSeen = none → (s.heap id).b = Bucket.fresh

theorem CState.inv_init (o : Opts) : (CState.init o).Inv :=
  ⟨fun _ _ h => by simp [CState.init] at h, fun _ h _ => by simp [CState.init] at h,
   fun _ h _ => by simp [CState.init] at h⟩

theorem CState.inv_step (s : CState) (h : s.Inv) (st : Step) : (s.step st).2.Inv := by
  cases st with
  | load k =>
    cases hm : s.map k with
    | some id =>
      -- the key is mapped already: nothing is allocated
      simp only [CState.step, hm]
      exact h
    | none =>
      -- a new cell `s.next` is allocated for `k` and mapped there
      simp only [CState.step, hm]
      refine ⟨fun k' id hk => ?mapped, fun id hid hd => ?live, fun id hid hl => ?virgin⟩
      case mapped =>
        simp only at hk ⊢
        by_cases hkk : k' = k
        · -- `k` is mapped to the new cell: allocated, keyed `k`, not dead
          subst hkk
          rw [upd_same] at hk
          cases hk
          exact ⟨Nat.lt_succ_self _, upd_same _ _ _, congrArg CEntry.dead (upd_same _ _ _)⟩
        · -- another key is mapped to an old cell, which the allocation leaves alone
          rw [upd_other _ _ _ _ hkk] at hk
          obtain ⟨h1, h2, h3⟩ := h.mapped k' id hk
          have hne : id ≠ s.next := Nat.ne_of_lt h1
          rw [upd_other _ _ _ _ hne, upd_other _ _ _ _ hne]
          exact ⟨Nat.lt_succ_of_lt h1, h2, h3⟩
      case live =>
        simp only at hid hd ⊢
        by_cases hne : id = s.next
        · -- the new cell is keyed `k`, and `k` is mapped to it
          subst hne
          rw [upd_same, upd_same]
        · -- an old live cell is mapped at its key, which is not `k` (`k` was unmapped)
          rw [upd_other _ _ _ _ hne] at hd ⊢
          have hl := h.live id (by omega) hd
          have hkk : s.keyOf id ≠ k := by
            intro he; rw [he, hm] at hl; cases hl
          rw [upd_other _ _ _ _ hkk]
          exact hl
      case virgin =>
        simp only at hid hl ⊢
        by_cases hne : id = s.next
        · -- the new cell holds a new bucket
          subst hne
          exact congrArg CEntry.b (upd_same _ _ _)
        · rw [upd_other _ _ _ _ hne] at hl ⊢
          exact h.virgin id (by omega) hl
  | locked id addr now n =>
    simp only [CState.step]
    by_cases hh : s.holds id addr
    · rw [if_pos hh]
      cases hd : (s.heap id).dead with
      | true =>
        -- a dead entry: the goroutine gives up, nothing changes
        simp only [if_true]
        exact h
      | false =>
        -- cell `id` gets the new bucket and clock, stays alive; the map is untouched
        simp only [Bool.false_eq_true, if_false]
        refine ⟨fun k' id' hk => ?mapped, fun id' hid hd' => ?live, fun id' hid hl => ?virgin⟩
        case mapped =>
          obtain ⟨h1, h2, h3⟩ := h.mapped k' id' hk
          refine ⟨h1, h2, ?_⟩
          simp only
          by_cases hne : id' = id
          · -- the rewritten cell is written with `dead := false`
            subst hne
            exact congrArg CEntry.dead (upd_same _ _ _)
          · rw [upd_other _ _ _ _ hne]
            exact h3
        case live =>
          simp only at hid hd' ⊢
          by_cases hne : id' = id
          · -- the rewritten cell was alive before (`hd`), so it was mapped
            subst hne
            exact h.live id' hid hd
          · rw [upd_other _ _ _ _ hne] at hd'
            exact h.live id' hid hd'
        case virgin =>
          simp only at hid hl ⊢
          by_cases hne : id' = id
          · -- the rewritten cell has been used: its `lastSeen` is `some _`
            subst hne
            rw [upd_same] at hl
            cases hl
          · rw [upd_other _ _ _ _ hne] at hl ⊢
            exact h.virgin id' hid hl
    · -- not a pointer this goroutine can hold
      rw [if_neg hh]
      exact h
  | gcEntry k now =>
    cases hm : s.map k with
    | none =>
      simp only [CState.step, hm]
      exact h
    | some id =>
      simp only [CState.step, hm]
      split
      · -- idle and full: cell `id` is marked dead and `k` is unmapped
        obtain ⟨hid, hkey, hdead⟩ := h.mapped k id hm
        refine ⟨fun k' id' hk => ?mapped, fun id' hid' hd' => ?live, fun id' hid' hl => ?virgin⟩
        case mapped =>
          simp only at hk ⊢
          by_cases hkk : k' = k
          · -- `k` is unmapped now
            subst hkk
            rw [upd_same] at hk
            cases hk
          · -- another key's cell is another cell (it is keyed `k'`), so it is not the one marked
            rw [upd_other _ _ _ _ hkk] at hk
            obtain ⟨h1, h2, h3⟩ := h.mapped k' id' hk
            have hne : id' ≠ id := by
              intro he; subst he; exact hkk (h2.symm.trans hkey)
            rw [upd_other _ _ _ _ hne]
            exact ⟨h1, h2, h3⟩
        case live =>
          simp only at hid' hd' ⊢
          by_cases hne : id' = id
          · -- the marked cell is dead
            subst hne
            rw [upd_same] at hd'
            cases hd'
          · -- another live cell is mapped at its key; that key is not `k`, which was mapped to `id`
            rw [upd_other _ _ _ _ hne] at hd'
            have hl := h.live id' hid' hd'
            have hkk : s.keyOf id' ≠ k := by
              intro he; rw [he, hm] at hl; cases hl; exact hne rfl
            rw [upd_other _ _ _ _ hkk]
            exact hl
        case virgin =>
          simp only at hid' hl ⊢
          by_cases hne : id' = id
          · -- marking a cell dead changes neither its `lastSeen` nor its bucket
            subst hne
            rw [upd_same] at hl ⊢
            exact h.virgin id' hid' hl
          · rw [upd_other _ _ _ _ hne] at hl ⊢
            exact h.virgin id' hid' hl
      · exact h

/-- a pointer that may be held and is not dead is the entry the map holds for the key -/
theorem CState.Inv.held_live {s : CState} (h : s.Inv) {id : Nat} {addr : Addr} (hh : s.holds id addr)
    (hd : (s.heap id).dead = false) : s.map (mask s.opts addr) = some id :=
  hh.2 ▸ h.live id hh.1 hd

/-- **every `AllowN` verdict is taken on the live entry of its key**: the locked region
    returns a verdict only on the entry the map currently holds for the key. -/
theorem CState.locked_on_mapped_entry (s : CState) (h : s.Inv) (id : Nat) (addr : Addr) (now n : Nat) (v : Bool)
    (hv : (s.step (.locked id addr now n)).1 = some v) : s.map (mask s.opts addr) = some id := by
  simp only [CState.step] at hv
  by_cases hh : s.holds id addr
  · rw [if_pos hh] at hv
    cases hd : (s.heap id).dead with
    | true => simp [hd] at hv
    | false => exact h.held_live hh hd
  · rw [if_neg hh] at hv; simp at hv

theorem ClientLimiter.ext_pointwise (c1 c2 : ClientLimiter) (ho : c1.opts = c2.opts) (hm : ∀ k, c1.m k = c2.m k) : c1 = c2 := by
  obtain ⟨o1, m1⟩ := c1
  obtain ⟨o2, m2⟩ := c2
  cases ho
  cases (funext hm : m1 = m2)
  rfl

theorem CState.abs_limit (s : CState) : s.abs.limit = s.limit := rfl
theorem CState.abs_burst (s : CState) : s.abs.burst = s.burst := rfl

theorem CState.abs_m_none (s : CState) (k : Addr) (h : s.map k = none) : s.abs.m k = none := by
  simp only [CState.abs, h]

theorem CState.abs_m_virgin (s : CState) (k : Addr) (id : Nat) (h : s.map k = some id)
    (hl : (s.heap id).lastSeen = none) : s.abs.m k = none := by
  simp only [CState.abs, h, hl]

theorem CState.abs_m_used (s : CState) (k : Addr) (id ls : Nat) (h : s.map k = some id)
    (hl : (s.heap id).lastSeen = some ls) : s.abs.m k = some ⟨(s.heap id).b, ls⟩ := by
  simp only [CState.abs, h, hl]

/-- the sequential entry of `k` is read off the map at `k` and the heap cell mapped there -/
theorem CState.abs_m_congr (s s' : CState) (k : Addr) (hmap : s'.map k = s.map k)
    (hheap : ∀ id, s.map k = some id → s'.heap id = s.heap id) : s'.abs.m k = s.abs.m k := by
  simp only [CState.abs, hmap]
  cases hk : s.map k with
  | none => rfl
  | some id => simp only [hheap id hk]

/-- entries mapped at different keys are different cells -/
theorem CState.Inv.cell_ne {s : CState} (h : s.Inv) {k k' : Addr} {id id' : Nat} (hk : s.map k' = some id')
    (hid : s.keyOf id = k) (hne : k' ≠ k) : id' ≠ id :=
  fun e => hne ((h.mapped k' id' hk).2.1.symm.trans (e ▸ hid))

/-- an invisible step changes nothing the sequential limiter can see -/
theorem CState.sim_invisible (s : CState) (h : s.Inv) (st : Step) (hop : s.absOp st = none) :
    (s.step st).1 = none ∧ (s.step st).2.abs = s.abs := by
  cases st with
  | load k =>
    simp only [CState.step]
    cases hm : s.map k with
    | some id => exact ⟨rfl, rfl⟩
    | none =>
      refine ⟨rfl, ClientLimiter.ext_pointwise _ _ rfl fun k' => ?_⟩
      by_cases hkk : k' = k
      · subst hkk
        rw [s.abs_m_none k' hm]
        exact CState.abs_m_virgin _ k' s.next (upd_same _ _ _) (congrArg CEntry.lastSeen (upd_same _ _ _))
      · exact CState.abs_m_congr s _ k' (upd_other _ _ _ _ hkk) fun id' hk =>
          upd_other _ _ _ _ (Nat.ne_of_lt (h.mapped k' id' hk).1)
  | locked id addr now n =>
    simp only [CState.absOp] at hop
    simp only [CState.step]
    by_cases hh : s.holds id addr
    · rw [if_pos hh]
      cases hd : (s.heap id).dead with
      | true => exact ⟨rfl, rfl⟩
      | false => simp [hh, hd] at hop
    · rw [if_neg hh]; exact ⟨rfl, rfl⟩
  | gcEntry k now => simp [CState.absOp] at hop

theorem ClientLimiter.gc_m_other (cl : ClientLimiter) (now : Nat) (k k' : Addr) (h : k' ≠ k) :
    (cl.gc now (some k)).m k' = cl.m k' := by
  cases hm : cl.m k' with
  | none => exact cl.m_gcWith_none _ now _ hm
  | some e =>
    rw [ClientLimiter.gc, cl.m_gcWith_some _ now _ hm, if_neg]
    exact fun hc => hc.1.elim (fun h0 => nomatch h0) fun h1 => h (Option.some.inj h1).symm

theorem ClientLimiter.gc_m_same (cl : ClientLimiter) (now : Nat) (k : Addr) (e : Entry) (h : cl.m k = some e) :
    (cl.gc now (some k)).m k =
      if e.lastSeen + entryTtl < now ∧ ((cl.burst * nano : Nat) : Int) ≤ e.b.avail cl.limit cl.burst now
      then none else some e := by
  rw [ClientLimiter.gc, cl.m_gcWith_some _ now _ h]
  simp only [gcRequiresFull, or_true, true_and, Bool.true_eq_false, false_or]

/-- `k`'s entry after the sequential gc pass for `k`, in terms of the heap cell mapped at `k` -/
theorem CState.abs_gc_m (s : CState) (k : Addr) (id now : Nat) (hm : s.map k = some id) :
    (s.abs.gc now (some k)).m k =
      if (s.heap id).idle now ∧ ((s.burst * nano : Nat) : Int) ≤ (s.heap id).b.avail s.limit s.burst now
      then none else s.abs.m k := by
  cases hl : (s.heap id).lastSeen with
  | none =>
    rw [s.abs_m_virgin k id hm hl, ClientLimiter.gc, s.abs.m_gcWith_none _ now _ (s.abs_m_virgin k id hm hl)]
    split <;> rfl
  | some ls =>
    rw [s.abs_m_used k id ls hm hl, s.abs.gc_m_same now k _ (s.abs_m_used k id ls hm hl)]
    simp only [CEntry.idle, hl]
    rfl

/-- a gc pass for `k` that leaves `k`'s entry alone leaves the limiter alone -/
theorem ClientLimiter.gc_noop (cl : ClientLimiter) (now : Nat) (k : Addr) (h : (cl.gc now (some k)).m k = cl.m k) :
    cl = cl.gc now (some k) :=
  ClientLimiter.ext_pointwise _ _ rfl fun k' => by
    by_cases hkk : k' = k
    · rw [hkk, h]
    · rw [cl.gc_m_other now k k' hkk]

/-- a `locked` region on a live entry is the sequential `AllowN` -/
theorem CState.sim_allow (s : CState) (h : s.Inv) (id : Nat) (addr : Addr) (now0 n : Nat)
    (hh : s.holds id addr) (hd : (s.heap id).dead = false) :
    (s.step (.locked id addr now0 n)).1 = some (s.abs.allowN addr now0 n).1 ∧
    (s.step (.locked id addr now0 n)).2.abs = (s.abs.allowN addr now0 n).2 := by
  have hmap := h.held_live hh hd
  -- the sequential limiter sees the same bucket and clamps to the same clock
  have hbk : s.abs.bucketOf (mask s.abs.opts addr) = (s.heap id).b ∧ s.abs.clock addr now0 = (s.heap id).clock now0 := by
    unfold ClientLimiter.bucketOf ClientLimiter.clock CEntry.clock
    -- `s.abs.opts` is `s.opts` by definition; spelt so that the rewrites with `hmap` below find the key
    show (match s.abs.m (mask s.opts addr) with | some e => e.b | none => Bucket.fresh) = _ ∧
      (match s.abs.m (mask s.opts addr) with | some e => max e.lastSeen now0 | none => now0) = _
    cases hl : (s.heap id).lastSeen with
    | none => rw [s.abs_m_virgin _ id hmap hl]; exact ⟨(h.virgin id hh.1 hl).symm, rfl⟩
    | some ls => rw [s.abs_m_used _ id ls hmap hl]; exact ⟨rfl, rfl⟩
  have hstep : s.step (.locked id addr now0 n) =
      (some ((s.heap id).b.allowN s.limit s.burst ((s.heap id).clock now0) n).1,
        { s with heap := upd s.heap id ⟨((s.heap id).b.allowN s.limit s.burst ((s.heap id).clock now0) n).2,
            some ((s.heap id).clock now0), false⟩ }) := by
    simp only [CState.step, if_pos hh, hd, Bool.false_eq_true, if_false]
  rw [hstep, ClientLimiter.allowN, hbk.2]
  generalize (s.heap id).clock now0 = now
  refine ⟨by rw [ClientLimiter.allowNAt_fst, hbk.1]; rfl, ClientLimiter.ext_pointwise _ _ rfl fun k' => ?_⟩
  by_cases hkk : k' = mask s.opts addr
  · subst hkk
    have h1 : (s.abs.allowNAt addr now n).2.m (mask s.opts addr) = _ := s.abs.m_allowNAt_same addr now n
    rw [h1, hbk.1]
    simp only [CState.abs, hmap, upd_same]
    rfl
  · rw [ClientLimiter.m_allowNAt_other _ _ _ _ _ fun e => hkk e.symm]
    exact CState.abs_m_congr s _ k' rfl fun id' hk => upd_other _ _ _ _ (h.cell_ne hk hh.2 hkk)

/-- gc's locked region for one key is the sequential per-key gc pass -/
theorem CState.sim_gc (s : CState) (h : s.Inv) (k : Addr) (now : Nat) :
    (s.step (.gcEntry k now)).1 = none ∧ (s.step (.gcEntry k now)).2.abs = s.abs.gc now (some k) := by
  cases hm : s.map k with
  | none =>
    have hstep : s.step (.gcEntry k now) = (none, s) := by simp only [CState.step, hm]
    rw [hstep]
    exact ⟨rfl, s.abs.gc_noop now k ((s.abs.m_gcWith_none _ now _ (s.abs_m_none k hm)).trans (s.abs_m_none k hm).symm)⟩
  | some id =>
    have hgc := s.abs_gc_m k id now hm
    by_cases hc : (s.heap id).idle now ∧ ((s.burst * nano : Nat) : Int) ≤ (s.heap id).b.avail s.limit s.burst now
    · have hstep : s.step (.gcEntry k now) =
          (none, { s with heap := upd s.heap id { s.heap id with dead := true }, map := upd s.map k none }) := by
        simp only [CState.step, hm, if_pos hc]
      rw [hstep]
      refine ⟨rfl, ClientLimiter.ext_pointwise _ _ rfl fun k' => ?_⟩
      by_cases hkk : k' = k
      · subst hkk
        rw [hgc, if_pos hc]
        exact CState.abs_m_none _ k' (upd_same _ _ _)
      · rw [ClientLimiter.gc_m_other _ _ _ _ hkk]
        exact CState.abs_m_congr s _ k' (upd_other _ _ _ _ hkk) fun id' hk =>
          upd_other _ _ _ _ (h.cell_ne hk (h.mapped k id hm).2.1 hkk)
    · have hstep : s.step (.gcEntry k now) = (none, s) := by simp only [CState.step, hm, if_neg hc]
      rw [hstep]
      exact ⟨rfl, s.abs.gc_noop now k (by rw [hgc, if_neg hc])⟩

/-- **linearizability.**  The verdicts returned along any schedule are the verdicts of the
    sequential limiter on the schedule's visible steps, taken in schedule order. -/
theorem CState.linearizable : ∀ (sts : List Step) (s : CState), s.Inv →
    s.exec sts = s.abs.runOps (s.absOps sts) := by
  intro sts
  induction sts with
  | nil => intro s _; rfl
  | cons st sts ih =>
    intro s h
    have IH := ih (s.step st).2 (s.inv_step h st)
    simp only [CState.exec, CState.absOps]
    cases hop : s.absOp st with
    | none =>
      obtain ⟨h1, h2⟩ := s.sim_invisible h st hop
      simp only [h1]
      rw [IH, h2]
    | some o =>
      cases st with
      | load k => simp [CState.absOp] at hop
      | locked id addr now n =>
        simp only [CState.absOp] at hop
        split at hop
        · rename_i hc
          cases hop
          obtain ⟨h1, h2⟩ := s.sim_allow h id addr now n hc.1 hc.2
          simp only [h1]
          rw [IH, h2]
          rfl
        · cases hop
      | gcEntry k now =>
        simp only [CState.absOp] at hop
        cases hop
        obtain ⟨h1, h2⟩ := s.sim_gc h k now
        simp only [h1]
        rw [IH, h2]
        rfl

end MosVerif.Limiter
