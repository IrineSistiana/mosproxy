/-
  Helper lemmas for the range-file loader (C07): the loader's builder state corresponds line by
  line to the ranges the specification reads off the file.
-/
import MosVerif.Lemmas.NetlistLemmas
namespace MosVerif.Netlist

/-- the specification-level view of a built range, given the final label table -/
def toS (labels : List Bytes) (r : Range Nat) : SRange :=
  ⟨r.start.val, r.stop.val, (labels[r.v]?).getD []⟩

theorem findIdx_some {labels : List Bytes} {s : Bytes} {i : Nat} (h : findIdx labels s = some i) :
    labels[i]? = some s := by
  induction labels generalizing i with
  | nil => simp [findIdx] at h
  | cons x rest ih =>
    unfold findIdx at h
    by_cases hx : x = s
    · simp only [hx, if_true, Option.some.injEq] at h
      subst h; simp [hx]
    · simp only [hx, if_false] at h
      cases hr : findIdx rest s with
      | none => simp [hr] at h
      | some j =>
        simp only [hr, Option.map_some, Option.some.injEq] at h
        subst h
        simpa using ih hr

theorem assignIdx_spec (labels : List Bytes) (s : Bytes) :
    ∃ ext, (assignIdx labels s).2 = labels ++ ext ∧
      (assignIdx labels s).2[(assignIdx labels s).1]? = some s := by
  unfold assignIdx
  cases h : findIdx labels s with
  | some i => exact ⟨[], by simp, by simpa using findIdx_some h⟩
  | none => exact ⟨[s], rfl, by simp⟩

/-- builder invariant: every range is valid and its label index is inside the table -/
def Inv (b : List (Range Nat)) (labels : List Bytes) : Prop :=
  ∀ r ∈ b, r.Valid ∧ r.v < labels.length

theorem toS_append {labels ext : List Bytes} {r : Range Nat} (h : r.v < labels.length) :
    toS (labels ++ ext) r = toS labels r := by
  simp [toS, List.getElem?_append_left h]

theorem map_toS_append {labels ext : List Bytes} {b : List (Range Nat)} (h : Inv b labels) :
    b.map (toS (labels ++ ext)) = b.map (toS labels) := by
  apply List.map_congr_left
  intro r hr
  exact toS_append (h r hr).2

def allValid (rs : List SRange) : Bool := rs.all (fun r => decide (r.lo ≤ r.hi))

/-- `allValid` is the first half of the specification's `fileOK` -/
theorem fileOK_eq (rs : List SRange) : fileOK rs = (allValid rs && noIntersect rs) := rfl

theorem allValid_cons (r : SRange) (rs : List SRange) :
    allValid (r :: rs) = (decide (r.lo ≤ r.hi) && allValid rs) := rfl

theorem builderAdd_eq {V : Type} (b : List (Range V)) (a e : Addr) (v : V) :
    builderAdd b a e v =
      if a.isValid && e.isValid then
        if (addr2Ipv6 e).val < (addr2Ipv6 a).val then none
        else some (b ++ [{ start := addr2Ipv6 a, stop := addr2Ipv6 e, v := v }])
      else none := by
  unfold builderAdd
  cases a.isValid
  · rfl
  · cases e.isValid
    · rfl
    · simp [cmp_gt_iff]

/-- The scanner loop against the specification's reading of the same lines: it fails when a line does
    not parse or a range is invalid, and otherwise adds the specification's ranges to the builder.
    The builder holds label *indices*, the specification labels: they are compared through the FINAL
    label table `labels'` (`toS labels'`), which only ever grows (`labels' = labels ++ ext`), so that
    an index assigned early still means the same label at the end. -/
theorem loadLines_spec (pa : Bytes → Option Addr) :
    ∀ (lines : List Bytes) (b : List (Range Nat)) (labels : List Bytes), Inv b labels →
    match specRanges pa lines with
    | none => ∃ e, loadLines pa lines b labels = .error e
    | some rs =>
      if allValid rs = true then
        ∃ b' labels' ext, loadLines pa lines b labels = .ok (b', labels') ∧
          Inv b' labels' ∧ labels' = labels ++ ext ∧ b'.map (toS labels') = b.map (toS labels') ++ rs
      else ∃ e, loadLines pa lines b labels = .error e
  | [], b, labels, hinv => ⟨b, labels, [], rfl, hinv, (List.append_nil _).symm, (List.append_nil _).symm⟩
  | t :: rest, b, labels, hinv => by
    rw [specRanges, loadLines]
    simp only []    -- the `let`s of the two definitions
    by_cases hemp : (trimSpace (cut t 35).1).isEmpty = true
    · simp only [hemp, if_true]
      exact loadLines_spec pa rest b labels hinv
    · simp only [hemp, Bool.false_eq_true, if_false]
      cases hpl : parseLine pa (trimSpace (cut t 35).1) with
      | none => exact ⟨.parse, rfl⟩
      | some x =>
        obtain ⟨a, e, lab⟩ := x
        obtain ⟨ext1, hext1, hidx1⟩ := assignIdx_spec labels lab
        cases hA : assignIdx labels lab with
        | mk idx labels1 =>
        rw [hA] at hext1 hidx1
        simp only at hext1 hidx1
        simp only [builderAdd_eq, hA]
        have hi : idx < labels1.length := (List.getElem?_eq_some_iff.mp hidx1).1
        have ih (hlt : ¬ (addr2Ipv6 e).val < (addr2Ipv6 a).val) :=
          loadLines_spec pa rest (b ++ [{ start := addr2Ipv6 a, stop := addr2Ipv6 e, v := idx }]) labels1 <| by
            intro r hr
            rcases List.mem_append.mp hr with hr | hr
            · refine ⟨(hinv r hr).1, ?_⟩
              rw [hext1, List.length_append]
              exact Nat.lt_add_right _ (hinv r hr).2
            · rw [List.mem_singleton.mp hr]
              exact ⟨Nat.le_of_not_lt hlt, hi⟩
        by_cases hval : (a.isValid && e.isValid) = true
        · by_cases hlt : (addr2Ipv6 e).val < (addr2Ipv6 a).val
          · -- start > end: `Add` fails; the specification sees an invalid range
            cases specRanges pa rest with
            | none => exact ⟨.range, by simp only [hval, hlt, if_true]⟩
            | some rs' =>
              simp only [hval, hlt, if_true, allValid_cons, decide_eq_false (Nat.not_le.mpr hlt),
                Bool.false_and, Bool.false_eq_true, if_false]
              exact ⟨.range, rfl⟩
          · have ih := ih hlt
            cases hr : specRanges pa rest with
            | none =>
              rw [hr] at ih
              simp only [hval, hlt, if_true, if_false]
              exact ih
            | some rs' =>
              rw [hr] at ih
              simp only at ih
              simp only [hval, hlt, if_true, if_false, allValid_cons, decide_eq_true (Nat.le_of_not_lt hlt),
                Bool.true_and]
              split
              · next hall =>
                rw [if_pos hall] at ih
                obtain ⟨b', labels', ext, hok, hinv', hlab, hmap⟩ := ih
                refine ⟨b', labels', ext1 ++ ext, hok, hinv', by rw [hlab, hext1, List.append_assoc], ?_⟩
                rw [hmap, List.map_append, List.append_assoc, List.map_singleton, List.singleton_append, toS,
                  hlab, List.getElem?_append_left hi, hidx1]
                rfl
              · next hall =>
                rw [if_neg hall] at ih
                exact ih
        · cases specRanges pa rest with
          | none => exact ⟨.range, by simp only [hval, Bool.false_eq_true, if_false]⟩
          | some rs' =>
            simp only [hval, Bool.false_eq_true, if_false]
            exact ⟨.range, rfl⟩

theorem noIntersect_iff (rs : List SRange) :
    noIntersect rs = true ↔ List.Pairwise (fun r s => r.intersects s = false) rs := by
  induction rs with
  | nil => simp [noIntersect]
  | cons r rest ih =>
    simp only [noIntersect, Bool.and_eq_true, List.all_eq_true, Bool.not_eq_eq_eq_not, Bool.not_true,
      List.pairwise_cons, ih]

theorem intersects_toS (labels : List Bytes) (r s : Range Nat) :
    (toS labels r).intersects (toS labels s) = false ↔ Disj r s := by
  unfold SRange.intersects toS Disj
  simp only [decide_eq_false_iff_not]
  omega

theorem noIntersect_map_toS (labels : List Bytes) (b : List (Range Nat)) :
    noIntersect (b.map (toS labels)) = true ↔ List.Pairwise Disj b := by
  rw [noIntersect_iff, List.pairwise_map]
  exact ⟨fun h => h.imp (intersects_toS labels _ _).mp, fun h => h.imp (intersects_toS labels _ _).mpr⟩

/-- in a pairwise disjoint list at most one range contains a given address -/
theorem unique_containing {b : List (Range Nat)} (hd : List.Pairwise Disj b) {r r' : Range Nat}
    (hr : r ∈ b) (hr' : r' ∈ b) {x : Nat}
    (h1 : r.start.val ≤ x ∧ x ≤ r.stop.val) (h2 : r'.start.val ≤ x ∧ x ≤ r'.stop.val) : r = r' := by
  obtain ⟨i, hi, rfl⟩ := List.mem_iff_getElem.mp hr
  obtain ⟨j, hj, rfl⟩ := List.mem_iff_getElem.mp hr'
  have hidx := List.pairwise_iff_getElem.mp hd
  by_cases hij : i = j
  · subst hij; rfl
  · by_cases hlt : i < j
    · have := hidx i j hi hj hlt
      unfold Disj at this; omega
    · have := hidx j i hj hi (by omega)
      unfold Disj at this; omega

/-- the linear scan of the specification agrees with "the unique containing range" -/
theorem specLabel_map_toS {labels : List Bytes} {b : List (Range Nat)} (hd : List.Pairwise Disj b)
    (hinv : Inv b labels) (a : Addr) (ha : a.isValid = true) :
    (∀ r ∈ b, r.start.val ≤ (addr2Ipv6 a).val → (addr2Ipv6 a).val ≤ r.stop.val →
        labels[r.v]? = some (specLabel (b.map (toS labels)) a)) ∧
    ((∀ r ∈ b, ¬ (r.start.val ≤ (addr2Ipv6 a).val ∧ (addr2Ipv6 a).val ≤ r.stop.val)) →
        specLabel (b.map (toS labels)) a = []) := by
  unfold specLabel
  simp only [ha, Bool.not_true, Bool.false_eq_true, if_false]
  cases hf : List.find? (fun r => decide (r.lo ≤ (addr2Ipv6 a).val ∧ (addr2Ipv6 a).val ≤ r.hi))
      (b.map (toS labels)) with
  | none =>
    refine ⟨fun r hr h1 h2 => ?_, fun _ => rfl⟩
    have := List.find?_eq_none.mp hf (toS labels r) (List.mem_map_of_mem hr)
    rw [decide_eq_true_eq] at this
    exact absurd ⟨h1, h2⟩ this
  | some s =>
    have hs := List.find?_some hf
    obtain ⟨r', hr', rfl⟩ := List.mem_map.mp (List.mem_of_find?_eq_some hf)
    rw [decide_eq_true_eq] at hs
    refine ⟨fun r hr h1 h2 => ?_, fun hnone => absurd hs (hnone r' hr')⟩
    have : r = r' := unique_containing hd hr hr' ⟨h1, h2⟩ hs
    subst this
    simp [toS, List.getElem?_eq_getElem (hinv r hr).2]

/-- `Mark` on a loaded marker returns the specification's label, and never panics -/
theorem mark_eq_specLabel {b l : List (Range Nat)} {labels : List Bytes} (hinv : Inv b labels)
    (hb : build b = some l) (a : Addr) :
    (Marker.mk l labels).mark a = some (specLabel (b.map (toS labels)) a) := by
  have hv : ∀ r ∈ b, r.Valid := fun r hr => (hinv r hr).1
  obtain ⟨hsep, hvl, hperm⟩ := build_sep hv hb
  have hd := build_disj hv hb
  unfold Marker.mark
  cases ha : a.isValid with
  | false => simp [specLabel, ha]
  | true =>
    simp only [Bool.not_true, Bool.false_eq_true, if_false]
    obtain ⟨res, hres, hiff⟩ := lookupAddr_of_sep hvl hsep a ha
    obtain ⟨hs1, hs2⟩ := specLabel_map_toS hd hinv a ha
    rw [hres]
    cases res with
    | none =>
      simp only
      rw [hs2]
      intro r hr hc
      have := (hiff r.v).mpr ⟨r, hperm.mem_iff.mpr hr, hc.1, hc.2, rfl⟩
      cases this
    | some idx =>
      simp only
      obtain ⟨r, hr, h1, h2, h3⟩ := (hiff idx).mp rfl
      subst h3
      exact hs1 r (hperm.mem_iff.mp hr) h1 h2

theorem marksOf_eq {m : Marker} {f : Addr → Bytes} (h : ∀ a, m.mark a = some (f a)) :
    ∀ addrs, marksOf m addrs = some (addrs.map f)
  | [] => rfl
  | a :: rest => by simp [marksOf, h a, marksOf_eq h rest]

/-- the specification on a file whose lines parse, in terms of the ranges read off it -/
theorem spec_marks {pa : Bytes → Option Addr} {file : Bytes} {rs : List SRange}
    (h : specRanges pa (splitLines file) = some rs) (addrs : List Addr) (ms : List Bytes) :
    spec pa file addrs (.marks ms) = (fileOK rs && ms == addrs.map (specLabel rs)) := by
  unfold spec; rw [h]

theorem spec_err {pa : Bytes → Option Addr} {file : Bytes} {rs : List SRange}
    (h : specRanges pa (splitLines file) = some rs) (addrs : List Addr) (e : LoadErr) :
    spec pa file addrs (.err e) = !fileOK rs := by
  unfold spec; rw [h]

/-- ★ (ipmark) for every range file, every address parser and every list of client addresses the
    model's outcome satisfies the specification: a file is rejected only if a line does not parse,
    a range has start > end or two ranges intersect; otherwise every client gets the label of the
    (unique) range containing its address as a 128-bit number, or none. -/
theorem marker_meets_spec (pa : Bytes → Option Addr) (file : Bytes) (addrs : List Addr) :
    spec pa file addrs (model pa file addrs) = true := by
  have hL := loadLines_spec pa (splitLines file) [] [] (fun _ hr => nomatch hr)
  unfold model loadMarker
  cases hS : specRanges pa (splitLines file) with
  | none =>
    rw [hS] at hL
    obtain ⟨e, he⟩ := hL
    rw [he]
    simp only [spec, hS]
  | some rs =>
    rw [hS] at hL
    simp only at hL
    cases hav : allValid rs with
    | false =>
      obtain ⟨e, he⟩ := (if_neg (hav ▸ Bool.false_ne_true)).mp hL
      rw [he, spec_err hS, fileOK_eq, hav]
      rfl
    | true =>
      obtain ⟨b', labels', ext, hload, hinv, hlab, hmap⟩ := (if_pos hav).mp hL
      rw [List.map_nil, List.nil_append] at hmap
      have hv : ∀ r ∈ b', r.Valid := fun r hr => (hinv r hr).1
      have hni : noIntersect rs = true ↔ List.Pairwise Disj b' := by
        rw [← hmap]
        exact noIntersect_map_toS _ _
      rw [hload]
      simp only
      cases hb : build b' with
      | none =>
        have : noIntersect rs = false :=
          Bool.eq_false_iff.mpr fun a => (build_eq_none_iff hv).mp hb (hni.mp a)
        rw [spec_err hS, fileOK_eq, this, Bool.and_false]
        rfl
      | some l =>
        have hd := build_disj hv hb
        simp only [marksOf_eq (m := ⟨l, labels'⟩) (fun a => mark_eq_specLabel hinv hb a) addrs]
        rw [spec_marks hS, fileOK_eq, hav, hni.mpr hd, hmap]
        simp only [Bool.and_self, beq_self_eq_true]

end MosVerif.Netlist
