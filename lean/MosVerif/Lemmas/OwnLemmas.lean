/-
  C20 — the ownership monitor of Model/Own: ownership is a property of each single object
  (`safeFrom_iff_per_object`), the replay for one object ignores events on others, also under
  interleaving, and after a release of an object only a `get` can happen to it.
-/
import MosVerif.Model.Own
namespace MosVerif.C20
open MosVerif.Own

theorem setOwner_same (o : Owners) (b : Buf) (t : Option Thread) : setOwner o b t b = t := by
  simp [setOwner]

theorem setOwner_other {o : Owners} {b b' : Buf} {t : Option Thread} (h : b' ≠ b) : setOwner o b t b' = o b' := by
  simp [setOwner, h]

theorem safeFrom_iff_per_object (o : Owners) (tr : List Event) :
    safeFrom o tr = true ↔ ∀ b, safeFromB b (o b) tr = true := by
  induction tr generalizing o with
  | nil => simp [safeFrom, safeFromB]
  | cons e es ih =>
    simp only [safeFrom, safeFromB]
    cases ht : transition (o e.buf) e with
    | none =>
      refine iff_of_false Bool.false_ne_true fun h => ?_
      have := h e.buf
      rw [if_pos rfl, ht] at this
      exact Bool.false_ne_true this
    | some n =>
      rw [ih]
      refine forall_congr' fun b => ?_
      by_cases hb : e.buf = b
      · subst hb
        rw [if_pos rfl, ht, setOwner_same]
      · rw [if_neg hb, setOwner_other (Ne.symm hb)]

/-- events on other objects do not matter to the replay for `b` -/
theorem safeFromB_skip (b : Buf) (cur : Option Thread) (mid l : List Event) (h : ∀ e ∈ mid, e.buf ≠ b) :
    safeFromB b cur (mid ++ l) = safeFromB b cur l := by
  induction mid with
  | nil => rfl
  | cons e es ih =>
    rw [List.cons_append, safeFromB, if_neg (h e (List.mem_cons_self ..))]
    exact ih fun e' he' => h e' (List.mem_cons_of_mem _ he')

theorem interleavings_nil_left (ys : List Event) : interleavings [] ys = [ys] := by
  cases ys <;> rw [interleavings]

theorem interleavings_nil_right (xs : List Event) : interleavings xs [] = [xs] := by
  cases xs with
  | nil => rw [interleavings]
  | cons x xs =>
    rw [interleavings]
    exact List.cons_ne_nil x xs

/-- interleaving a program with one that never touches `b` does not change the replay for `b` -/
theorem safeFromB_interleave (b : Buf) (xs ys tr : List Event) (h : tr ∈ interleavings xs ys)
    (hy : ∀ e ∈ ys, e.buf ≠ b) (cur : Option Thread) : safeFromB b cur tr = safeFromB b cur xs := by
  induction xs generalizing ys tr cur with
  | nil =>
    rw [interleavings_nil_left, List.mem_singleton] at h
    subst h
    have := safeFromB_skip b cur tr [] hy
    rwa [List.append_nil] at this
  | cons x xs ihx =>
    induction ys generalizing tr cur with
    | nil =>
      rw [interleavings_nil_right, List.mem_singleton] at h
      rw [h]
    | cons y ys ihy =>
      simp only [interleavings, List.mem_append, List.mem_map] at h
      rcases h with ⟨tr', h', rfl⟩ | ⟨tr', h', rfl⟩
      · simp only [safeFromB, ihx _ _ h' hy]
      · rw [safeFromB, if_neg (hy y (List.mem_cons_self ..))]
        exact ihy tr' h' (fun e he => hy e (List.mem_cons_of_mem _ he)) cur

theorem interleavings_comm_mem (xs ys tr : List Event) (h : tr ∈ interleavings xs ys) :
    tr ∈ interleavings ys xs := by
  induction xs generalizing ys tr with
  | nil => rwa [interleavings_nil_left, List.mem_singleton, ← List.mem_singleton, ← interleavings_nil_right] at h
  | cons x xs ihx =>
    induction ys generalizing tr with
    | nil => rwa [interleavings_nil_right, List.mem_singleton, ← List.mem_singleton, ← interleavings_nil_left] at h
    | cons y ys ihy =>
      simp only [interleavings, List.mem_append, List.mem_map] at h ⊢
      rcases h with ⟨tr', h', rfl⟩ | ⟨tr', h', rfl⟩
      · exact Or.inr ⟨tr', ihx (y :: ys) tr' h', rfl⟩
      · exact Or.inl ⟨tr', ihy tr' h', rfl⟩

/-- on a free object every event but a `get` is a violation -/
theorem transition_free (e : Event) (hget : ∀ u, e ≠ .get u e.buf) : transition none e = none := by
  cases e with
  | get u b => exact absurd rfl (hget u)
  | use _ _ => rfl
  | send _ _ _ => rfl
  | release _ _ => rfl

/-- the replay for `b` cannot get past a release of `b` whose next event on `b` is anything but a `get` -/
theorem safeFromB_release_stuck (b : Buf) (t : Thread) (e : Event) (he : e.buf = b)
    (hget : ∀ u, e ≠ .get u e.buf) (mid : List Event) (hmid : ∀ e ∈ mid, e.buf ≠ b)
    (rest l : List Event) (cur : Option Thread) :
    safeFromB b cur (l ++ .release t b :: (mid ++ e :: rest)) = false := by
  induction l generalizing cur with
  | nil =>
    rw [List.nil_append, safeFromB, if_pos (c := (Event.release t b).buf = b) rfl, transition]
    by_cases hc : cur = some t
    · rw [if_pos hc]
      show safeFromB b none (mid ++ e :: rest) = false
      rw [safeFromB_skip b none mid _ hmid, safeFromB, if_pos he, transition_free e hget]
    · rw [if_neg hc]
  | cons x xs ih =>
    rw [List.cons_append, safeFromB]
    split
    · split
      · exact ih _
      · rfl
    · exact ih _

/-- once released, an object must be obtained again (`get`) before anything else happens to it -/
theorem release_then_stuck (pre mid post : List Event) (t : Thread) (b : Buf) (e : Event) (he : e.buf = b)
    (hget : ∀ u, e ≠ .get u e.buf) (hmid : ∀ e ∈ mid, e.buf ≠ b) :
    safe (pre ++ [.release t b] ++ mid ++ [e] ++ post) = false := by
  refine Bool.eq_false_iff.mpr fun hs => ?_
  have h := (safeFrom_iff_per_object noOwners _).mp hs b
  rw [List.append_assoc, List.append_assoc, List.append_assoc, List.singleton_append, List.singleton_append,
    safeFromB_release_stuck b t e he hget mid hmid] at h
  exact Bool.noConfusion h

end MosVerif.C20
