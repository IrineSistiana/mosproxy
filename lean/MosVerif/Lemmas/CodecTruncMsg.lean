/-
  Wire codec (C09), on Lemmas/CodecTrunc: `Msg.Pack` with a size limit, taken apart.  `packMsg … = .ok out` holds
  iff the counts and the capacity pass and there is a `Run` — the states between the four section
  loops and the OPT record, with the numbers of skipped elements — whose `out` it is.  The retained
  sub-message `keptMsg` is read off the run.
-/
import MosVerif.Lemmas.CodecTrunc
namespace MosVerif.Wire

def countsOK (m : Msg) : Prop :=
  m.questions.length ≤ 65535 ∧ m.answers.length ≤ 65535 ∧ m.authorities.length ≤ 65535 ∧ m.additionals.length ≤ 65535

/-- The sub-message `Msg.Pack(…, size)` retains: the kept questions and records in their original
    order, the popped OPT re-appended last, `Truncated` or-ed with "something was skipped". -/
def keptMsg (m : Msg) (c : Bool) (size : Nat) : Msg :=
  match packQuestionsLoop (limitOf m size) m.questions (initState c) with
  | .ok (s1, kq) =>
    match packResourcesLoop (limitOf m size) m.answers s1 with
    | .ok (s2, ka) =>
      match packResourcesLoop (limitOf m size) m.authorities s2 with
      | .ok (s3, kn) =>
        match packResourcesLoop (limitOf m size) (popped m size).2 s3 with
        | .ok (_, kx) =>
          { hdr := { m.hdr with truncated := m.hdr.truncated || decide (kq + ka + kn + kx > 0) }
            questions := keptQ (limitOf m size) m.questions (initState c)
            answers := keptR (limitOf m size) m.answers s1
            authorities := keptR (limitOf m size) m.authorities s2
            additionals := keptR (limitOf m size) (popped m size).2 s3 ++ (popped m size).1.toList }
        | _ => m
      | _ => m
    | _ => m
  | _ => m

theorem effSize_zero : effSize 0 = 0 := rfl

theorem popped_perm (m : Msg) (size : Nat) :
    ((popped m size).1.toList ++ (popped m size).2).Perm m.additionals := by
  unfold popped
  split
  · rcases popEDNS0_spec m.additionals with h | ⟨o, rs', h, _, hp⟩
    · rw [h]; exact .refl _
    · rw [h]; exact hp
  · exact .refl _

theorem popped_length (m : Msg) (size : Nat) :
    (popped m size).2.length + (popped m size).1.toList.length = m.additionals.length := by
  rw [← (popped_perm m size).length_eq, List.length_append, Nat.add_comm]

theorem popped_sum (m : Msg) (size : Nat) (f : Resource → Nat) :
    ((popped m size).2.map f).sum + ((popped m size).1.toList.map f).sum = (m.additionals.map f).sum := by
  rw [← ((popped_perm m size).map f).sum_nat, List.map_append, List.sum_append, Nat.add_comm]

/-- the re-appended OPT record is packed like one more section without limit -/
theorem packOpt_eq_loop {o : Option Resource} {s s' : PState} (h : packOpt o s = .ok s') :
    packResourcesLoop none o.toList s = .ok (s', 0) := by
  cases o with
  | none => cases h; rfl
  | some o =>
    obtain ⟨⟨bs, tbl⟩, h1, h2⟩ := Res.bind_eq_ok h
    cases h2
    rw [Option.toList_some, resourcesLoop.loop_cons_none, h1]
    rfl

/-- A successful run of the four section loops of `Msg.Pack` and of the re-appended OPT record: the
    states in between and the number of elements each loop skipped. -/
structure Run (m : Msg) (c : Bool) (size : Nat) where
  (s1 s2 s3 s4 s5 : PState)
  (kq ka kn kx : Nat)
  questions : packQuestionsLoop (limitOf m size) m.questions (initState c) = .ok (s1, kq)
  answers : packResourcesLoop (limitOf m size) m.answers s1 = .ok (s2, ka)
  authorities : packResourcesLoop (limitOf m size) m.authorities s2 = .ok (s3, kn)
  additionals : packResourcesLoop (limitOf m size) (popped m size).2 s3 = .ok (s4, kx)
  opt : packOpt (popped m size).1 s4 = .ok s5

variable {m : Msg} {c : Bool} {size : Nat}

def Run.skipped (r : Run m c size) : Nat := r.kq + r.ka + r.kn + r.kx

def Run.out (r : Run m c size) : Bytes := msgBytes m r.kq r.ka r.kn r.kx r.s5.body

theorem Run.out_length (r : Run m c size) : r.out.length = 12 + r.s5.body.length := by
  rw [Run.out, msgBytes, List.length_append, hdrBytes_length]

/-- the loops are functions: there is at most one run -/
theorem Run.eq (r r' : Run m c size) : r = r' := by
  obtain ⟨s1, s2, s3, s4, s5, kq, ka, kn, kx, hq, ha, hn, hx, ho⟩ := r
  obtain ⟨t1, t2, t3, t4, t5, jq, ja, jn, jx, gq, ga, gn, gx, go⟩ := r'
  cases hq.symm.trans gq
  cases ha.symm.trans ga
  cases hn.symm.trans gn
  cases hx.symm.trans gx
  cases ho.symm.trans go
  rfl

theorem packMsg_ok_iff {cap : Nat} {out : Bytes} :
    packMsg m c size cap = .ok out ↔
      countsOK m ∧ 12 ≤ cap ∧ ∃ r : Run m c size, r.out = out ∧ out.length ≤ cap := by
  rw [packMsg_unfold]
  constructor
  · intro h
    split at h
    · cases h
    · split at h
      · cases h
      · obtain ⟨⟨s1, kq⟩, h1, h⟩ := Res.bind_eq_ok h
        obtain ⟨⟨s2, ka⟩, h2, h⟩ := Res.bind_eq_ok h
        obtain ⟨⟨s3, kn⟩, h3, h⟩ := Res.bind_eq_ok h
        obtain ⟨⟨s4, kx⟩, h4, h⟩ := Res.bind_eq_ok h
        obtain ⟨s5, h5, h⟩ := Res.bind_eq_ok h
        split at h
        · cases h
        · cases h
          exact ⟨by unfold countsOK; omega, by omega, ⟨s1, s2, s3, s4, s5, kq, ka, kn, kx, h1, h2, h3, h4, h5⟩,
            rfl, by omega⟩
  · rintro ⟨hcnt, hcap, r, rfl, hlen⟩
    rw [if_neg (by unfold countsOK at hcnt; omega), if_neg (by omega), r.questions, Res.ok_bind, r.answers,
      Res.ok_bind, r.authorities, Res.ok_bind, r.additionals, Res.ok_bind, r.opt, Res.ok_bind]
    exact if_neg (Nat.not_lt.2 hlen)

/-- the capacity only decides between success and `ErrSmallBuffer`, never the bytes -/
theorem packMsg_cap_indep {cap1 cap2 : Nat} {a b : Bytes}
    (h1 : packMsg m c size cap1 = .ok a) (h2 : packMsg m c size cap2 = .ok b) : a = b := by
  obtain ⟨_, _, r1, rfl, _⟩ := packMsg_ok_iff.1 h1
  obtain ⟨_, _, r2, rfl, _⟩ := packMsg_ok_iff.1 h2
  rw [r1.eq r2]

theorem Run.keptMsg_eq (r : Run m c size) :
    keptMsg m c size =
      { hdr := { m.hdr with truncated := m.hdr.truncated || decide (r.skipped > 0) }
        questions := keptQ (limitOf m size) m.questions (initState c)
        answers := keptR (limitOf m size) m.answers r.s1
        authorities := keptR (limitOf m size) m.authorities r.s2
        additionals := keptR (limitOf m size) (popped m size).2 r.s3 ++ (popped m size).1.toList } := by
  simp only [keptMsg, r.questions, r.answers, r.authorities, r.additionals]
  rfl

theorem Run.counts (r : Run m c size) :
    r.kq + (keptMsg m c size).questions.length = m.questions.length ∧
    r.ka + (keptMsg m c size).answers.length = m.answers.length ∧
    r.kn + (keptMsg m c size).authorities.length = m.authorities.length ∧
    r.kx + (keptMsg m c size).additionals.length = m.additionals.length := by
  have l4 := (resourcesLoop.ok_kept r.additionals).2
  have hpl := popped_length m size
  rw [r.keptMsg_eq]
  exact ⟨(questionsLoop.ok_kept r.questions).2, (resourcesLoop.ok_kept r.answers).2,
    (resourcesLoop.ok_kept r.authorities).2, by rw [List.length_append]; omega⟩

end MosVerif.Wire
