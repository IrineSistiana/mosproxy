/-
  Tie by translation (C15): the four defaults of `ClientLimiterOpts.setDefault` (and the two `> 0` tests of
  limiter construction), translated mechanically from the current Go source, equal the model's `Opts.setDefault` (this is the D8 regression: the V6 branch must assign V6Mask).
  Each translated function returns one field; the `if`s that assign other fields drop out of it (`tr_val`), and what
  is left is compared with that field of the model (`setDefault_limit` … `setDefault_v6`).
-/
import MosVerif.Generated.Translated
import MosVerif.Lemmas.TranslatedTactics
import MosVerif.Lemmas.LimiterSpec
namespace MosVerif.Limiter
open MosVerif

theorem id_pure_int' (x : Int) : (pure x : Id Int) = x := rfl

/-- ★ the WHOLE body of `ClientLimiterOpts.setDefault` (all four defaults, and nothing else: a further statement
    touching one of the four fields would show up here), field by field.  The rate is an integer in the model as in the
    configuration (`Limit: float64(cfg.Client.Limit)`), so `int(opts.Limit)` is the value itself. -/
theorem setDefault_translated (o : Opts) :
    (o.setDefault).limit = Translated.c15_setDefault_limit o.limit o.burst o.v4Mask o.v6Mask ∧
    (o.setDefault).burst = Translated.c15_setDefault_burst o.limit o.burst o.v4Mask o.v6Mask ∧
    (o.setDefault).v4Mask = Translated.c15_setDefault_v4mask o.limit o.burst o.v4Mask o.v6Mask ∧
    (o.setDefault).v6Mask = Translated.c15_setDefault_v6mask o.limit o.burst o.v4Mask o.v6Mask := by
  rw [setDefault_limit, setDefault_burst, setDefault_v4, setDefault_v6]
  unfold Translated.c15_setDefault_limit Translated.c15_setDefault_burst
    Translated.c15_setDefault_v4mask Translated.c15_setDefault_v6mask
  and_intros
  all_goals tr_val

/-- `cfg.GlobalLimit > 0`: a global limiter is built -/
theorem initGlobalCond_translated (g : Int) : limitSet g = Translated.c15_initGlobalCond g := by
  unfold limitSet Translated.c15_initGlobalCond
  bool_arith

/-- `cfg.Client.Limit > 0`: a client limiter is built -/
theorem initClientCond_translated (l : Int) : limitSet l = Translated.c15_initClientCond l := by
  unfold limitSet Translated.c15_initClientCond
  bool_arith

theorem setDefault_masks_translated (o : Opts) :
    (o.setDefault).v4Mask = Translated.setDefault_V4Mask o.v4Mask o.v6Mask ∧
    (o.setDefault).v6Mask = Translated.setDefault_V6Mask o.v4Mask o.v6Mask := by
  rw [setDefault_v4, setDefault_v6]
  unfold Translated.setDefault_V4Mask Translated.setDefault_V6Mask
  and_intros
  all_goals tr_val

end MosVerif.Limiter
