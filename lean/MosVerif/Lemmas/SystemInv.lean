/-
  Invariant of the composed protocol model (C04) and its preservation by every atomic step.

  The clause that carries the property is `inflight_ok`: a registered waiter is the thread waiting for
  that wire ID, and the question the server saw under the ID is that thread's own.  A reply therefore
  reaches a thread that asked exactly the question answered (`done_ok`) and fills the cache under that
  question (`cache_ok`); `fresh_ids` keeps an ID from being handed out twice.  A step changes the stage
  of one thread, so the frame lemmas are about `setStage` (`inflight_setStage`, `done_setStage`).
-/
import MosVerif.Model.System
namespace MosVerif.System

theorem lookup_cons {β} (l : List (Nat × β)) (k k' : Nat) (v : β) :
    lookup ((k', v) :: l) k = if k' = k then some v else lookup l k := rfl

/-- striking the entries of `id` from a table -/
theorem lookup_filter {β} (l : List (Nat × β)) (k id : Nat) :
    lookup (l.filter (fun p => p.1 ≠ id)) k = if k = id then none else lookup l k := by
  induction l with
  | nil => exact (ite_self none).symm
  | cons p rest ih =>
    obtain ⟨k', v⟩ := p
    rw [List.filter_cons, lookup_cons]
    by_cases hk : k' = id
    · rw [if_neg (by simpa using hk), ih]
      split
      · rfl
      · next hne => rw [if_neg fun e => hne (e.symm.trans hk)]
    · rw [if_pos (by simpa using hk), lookup_cons, ih]
      split
      · next e => rw [if_neg fun e' => hk (e.trans e')]
      · rfl

theorem lookup_mem {β} (l : List (Nat × β)) (k : Nat) (v : β) (h : lookup l k = some v) : (k, v) ∈ l := by
  induction l with
  | nil => simp [lookup] at h
  | cons p rest ih =>
    obtain ⟨k', v'⟩ := p
    simp only [lookup] at h
    split at h
    · next hk =>
      rw [← hk, ← Option.some.inj h]
      exact List.mem_cons_self
    · exact List.mem_cons_of_mem _ (ih h)

theorem setStage_get (ts : List Thread) (t : Nat) (s : Stage) (u : Nat) :
    (setStage ts t s)[u]? =
      if u = t then (ts[t]?).map (fun th => { th with stage := s }) else ts[u]? := by
  unfold setStage
  cases h : ts[t]? with
  | none =>
    simp only [Option.map_none]
    split
    · next hu => exact hu ▸ h
    · rfl
  | some th =>
    have hlt : t < ts.length := (List.getElem?_eq_some_iff.mp h).1
    simp only [Option.map_some, List.getElem?_set, hlt, if_true, eq_comm (a := t)]

structure Inv (f : Key → Val) (s : State) : Prop where
  /-- a registered waiter is the thread waiting for exactly that wire ID, and the server saw that
      thread's own question under that ID -/
  inflight_ok : ∀ id t, lookup s.inflight id = some t →
      ∃ th : Thread, s.threads[t]? = some th ∧ th.stage = Stage.waiting id ∧ lookup s.seen id = some th.q
  /-- wire IDs not yet handed out are unknown to everybody -/
  fresh_ids : ∀ id, s.nextId ≤ id → lookup s.inflight id = none ∧ lookup s.seen id = none
  /-- the cache pairs every key with the upstream's answer for that key -/
  cache_ok : ∀ k v, (k, v) ∈ s.cache → v = f k
  /-- a thread that answered, answered with the upstream's answer for its own question -/
  done_ok : ∀ (t : Nat) (th : Thread) (v : Val), s.threads[t]? = some th → th.stage = Stage.done (some v) → v = f th.q

theorem inv_init (f : Key → Val) (qs : List Key) : Inv f (init qs) := by
  refine ⟨nofun, fun _ _ => ⟨rfl, rfl⟩, nofun, fun t th v h hs => ?_⟩
  -- every thread of the initial state is `fresh`
  simp only [init, List.getElem?_map] at h
  cases hq : qs[t]? with
  | none =>
    rw [hq] at h
    cases h
  | some q =>
    rw [hq] at h
    cases h
    cases hs

/-- thread `t`, at `th`, moves to stage `sg`: a waiter for an ID that `t` is not waiting for keeps waiting -/
theorem inflight_setStage {f : Key → Val} {s : State} (h : Inv f s) {t : Nat} {th : Thread}
    (ht : s.threads[t]? = some th) (sg : Stage) {id t' : Nat} (hl : lookup s.inflight id = some t')
    (hne : th.stage ≠ .waiting id) :
    ∃ th' : Thread, (setStage s.threads t sg)[t']? = some th' ∧ th'.stage = Stage.waiting id ∧
      lookup s.seen id = some th'.q := by
  obtain ⟨th', hth', hs', hseen⟩ := h.inflight_ok id t' hl
  have htt : t' ≠ t := by
    intro e
    subst e
    rw [ht] at hth'
    cases hth'
    exact hne hs'
  exact ⟨th', by rw [setStage_get, if_neg htt]; exact hth', hs', hseen⟩

/-- … and the answers given so far stay right, as is `sg` if it is an answer with `hsg` -/
theorem done_setStage {f : Key → Val} {s : State} (h : Inv f s) {t : Nat} {th : Thread}
    (ht : s.threads[t]? = some th) {sg : Stage} (hsg : ∀ v, sg = .done (some v) → v = f th.q)
    (t' : Nat) (th' : Thread) (v : Val) (hth' : (setStage s.threads t sg)[t']? = some th')
    (hs' : th'.stage = Stage.done (some v)) : v = f th'.q := by
  rw [setStage_get] at hth'
  split at hth'
  · next e =>
    subst e
    rw [ht] at hth'
    cases hth'
    exact hsg v hs'
  · exact h.done_ok t' th' v hth' hs'

/-- `t`, waiting for `id`, stops waiting and is struck from the in-flight table; the cache may change -/
theorem inv_drop {f : Key → Val} {s : State} (h : Inv f s) {t : Nat} {th : Thread}
    (ht : s.threads[t]? = some th) {id : Nat} (hst : th.stage = .waiting id) {sg : Stage}
    (hsg : ∀ v, sg = .done (some v) → v = f th.q) {c : List (Key × Val)} (hc : ∀ k v, (k, v) ∈ c → v = f k) :
    Inv f { s with threads := setStage s.threads t sg, inflight := s.inflight.filter (fun p => p.1 ≠ id),
                   cache := c } := by
  refine ⟨fun id' t' hl => ?_, fun id' hge => ⟨?_, (h.fresh_ids id' hge).2⟩, hc, done_setStage h ht hsg⟩
  · rw [lookup_filter] at hl
    split at hl
    · cases hl
    · next hid =>
      exact inflight_setStage h ht sg hl fun e => hid (Stage.waiting.inj (hst.symm.trans e)).symm
  · rw [lookup_filter, (h.fresh_ids id' hge).1]
    exact ite_self none

theorem inv_step (f : Key → Val) (s : State) (st : Step) (h : Inv f s) : Inv f (step f s st) := by
  cases st with
  | evict k =>
    exact ⟨h.inflight_ok, h.fresh_ids, fun k' v hm => h.cache_ok k' v (List.mem_filter.mp hm).1, h.done_ok⟩
  | giveUp t =>
    simp only [step]
    cases ht : s.threads[t]? with
    | none => exact h
    | some th =>
      simp only
      cases hst : th.stage with
      | waiting id =>
        exact inv_drop (sg := .done none) h ht hst nofun h.cache_ok
      | _ => exact h
  | start t =>
    simp only [step]
    cases ht : s.threads[t]? with
    | none => exact h
    | some th =>
      simp only
      split
      · next hfresh =>
        have hnw id : th.stage ≠ .waiting id := fun e => nomatch hfresh.symm.trans e
        cases hc : lookup s.cache th.q with
        | some v =>
          refine ⟨fun id' t' hl => inflight_setStage h ht _ hl (hnw id'), h.fresh_ids, h.cache_ok,
            done_setStage h ht fun v' e => ?_⟩
          cases e
          exact h.cache_ok _ _ (lookup_mem _ _ _ hc)
        | none =>
          -- a fresh wire ID is reserved and the query goes on the wire
          refine ⟨fun id' t' hl => ?_, fun id' hge => ?_, h.cache_ok, done_setStage h ht nofun⟩
          · rw [lookup_cons] at hl
            split at hl
            · next e =>
              cases hl
              subst e
              exact ⟨{ th with stage := .waiting s.nextId }, by rw [setStage_get, if_pos rfl, ht]; rfl, rfl,
                if_pos rfl⟩
            · next hne =>
              obtain ⟨th', a, b, c⟩ := inflight_setStage h ht (.waiting s.nextId) hl (hnw id')
              exact ⟨th', a, b, (if_neg hne).trans c⟩
          · have hne : s.nextId ≠ id' := Nat.ne_of_lt hge
            have := h.fresh_ids id' (Nat.le_of_succ_le hge)
            exact ⟨(if_neg hne).trans this.1, (if_neg hne).trans this.2⟩
      · exact h
  | reply id =>
    simp only [step]
    cases hk : lookup s.seen id with
    | none => exact h
    | some k =>
      simp only
      cases hl : lookup s.inflight id with
      | none => exact h
      | some t =>
        simp only
        obtain ⟨th, hth, hst, hseen⟩ := h.inflight_ok id t hl
        have hkq : k = th.q := Option.some.inj (hk.symm.trans hseen)
        simp only [hth]
        refine inv_drop h hth hst (fun v e => ?_) fun k' v hm => ?_
        · cases e
          rw [hkq]
        · rcases List.mem_cons.mp hm with hm | hm
          · cases hm
            rw [hkq]
          · exact h.cache_ok k' v hm

theorem inv_run (f : Key → Val) (s : State) (steps : List Step) (h : Inv f s) : Inv f (run f s steps) := by
  induction steps generalizing s with
  | nil => exact h
  | cons st rest ih => exact ih (step f s st) (inv_step f s st h)

/-- the question of a thread never changes -/
theorem step_q (f : Key → Val) (s : State) (st : Step) (t : Nat) :
    ((step f s st).threads[t]?).map (·.q) = (s.threads[t]?).map (·.q) := by
  have hset : ∀ (ts : List Thread) (u : Nat) (sg : Stage), ((setStage ts u sg)[t]?).map (·.q) = (ts[t]?).map (·.q) := by
    intro ts u sg
    rw [setStage_get]
    split
    · next e =>
      subst e
      cases ts[t]? <;> rfl
    · rfl
  cases st with
  | evict k => rfl
  | giveUp u =>
    simp only [step]
    cases s.threads[u]? with
    | none => rfl
    | some th =>
      simp only
      cases th.stage <;> simp only [hset]
  | start u =>
    simp only [step]
    cases s.threads[u]? with
    | none => rfl
    | some th =>
      simp only
      split
      · cases lookup s.cache th.q <;> simp only [hset]
      · rfl
  | reply id =>
    simp only [step]
    cases lookup s.seen id with
    | none => rfl
    | some k =>
      simp only
      cases lookup s.inflight id with
      | none => rfl
      | some u =>
        simp only
        cases s.threads[u]? with
        | none => rfl
        | some th => simp only [hset]

theorem run_q (f : Key → Val) (s : State) (steps : List Step) (t : Nat) :
    ((run f s steps).threads[t]?).map (·.q) = (s.threads[t]?).map (·.q) := by
  induction steps generalizing s with
  | nil => rfl
  | cons st rest ih => exact (ih (step f s st)).trans (step_q f s st t)

/-- the question of thread `t` is the `t`-th of the initial list -/
theorem run_init_q (f : Key → Val) (qs : List Key) (steps : List Step) (t : Nat) (th : Thread)
    (ht : (run f (init qs) steps).threads[t]? = some th) : qs[t]? = some th.q := by
  have := run_q f (init qs) steps t
  rw [ht] at this
  simp only [init, List.getElem?_map, Option.map_some, Option.map_map] at this
  cases hq : qs[t]? with
  | none =>
    rw [hq] at this
    cases this
  | some q =>
    rw [hq] at this
    exact this.symm

end MosVerif.System
