/-
  C06 — the inductive invariant of the `Reuse` transition system and its preservation by
  every step (helper lemmas for MosVerif/Props/C06.lean).

  The invariant ties every connection to the monitor's view of it (`COK`: what is outstanding,
  whether it is dirty, closed, abandoned, who owns it) according to the goroutine that holds the
  connection (`WOK`).  A step changes one connection and appends events about that connection,
  so its proof has two parts: the changed connection, whose new invariant is written out clause
  by clause (`step_at`; `COK.held` for a connection that stays in a goroutine's hands), and all
  others, for which nothing the invariant reads has changed.  What the invariant of a connection
  reads, and in which direction it may change, is said once (`COK_mono`); on it rest the changes
  the invariant does not see (`inv_irrelevant`), the closing of a connection (`inv_netClose`,
  `inv_rcClose`), of the transport, and a caller that gives up (`inv_finish`).
  Where a step is a deep nest of `if`s (`getIdle`, `idleTimer`, `workerRelB`, the closing lemmas)
  they are taken one at a time with `iteInduction`, since `split` on such a nest is slow to check;
  shallow ones are `split`.
-/
import MosVerif.Model.Reuse
namespace MosVerif.Reuse

@[simp] theorem upd_same {α : Type} (f : Nat → α) (i : Nat) (a : α) : upd f i a i = a := by simp [upd]
@[simp] theorem upd_other {α : Type} (f : Nat → α) (i j : Nat) (a : α) (h : j ≠ i) : upd f i a j = f j := by
  simp [upd, h]

theorem upd_apply {α : Type} (f : Nat → α) (i j : Nat) (a : α) : upd f i a j = if j = i then a else f j := rfl

@[simp] theorem mon_append (h₁ h₂ : List Event) : mon (h₁ ++ h₂) = h₂.foldl monStep (mon h₁) := by
  simp [mon, List.foldl_append]

@[simp] theorem mon_append1 (h : List Event) (ev : Event) : mon (h ++ [ev]) = monStep (mon h) ev := by
  rw [mon_append]
  rfl

/-- what must hold of a connection depending on the goroutine that owns it; `clean` = nothing
    is owed on the connection, no I/O on it ever failed, no exchange owns it -/
def WOK (k : Conn) (dirty : Bool) (owner : Option Nat) (wid : Nat) (acc : Nat → List Nat) (clean : Prop)
    (inAll : Prop) (tclosed : Bool) : Option Worker → Prop
  | none => True
  | some (.fresh _) => clean ∧ k.serving = false ∧ k.closed = false ∧ k.netClosed = false ∧ ¬ inAll
  | some (.hold _) => clean ∧ k.serving = true ∧ (k.netClosed = true → tclosed = true) ∧ inAll
  | some (.write e _) => k.pending = [] ∧ k.serving = true ∧ dirty = false ∧ owner = some e
  | some (.read e _ qid) => k.pending = [e] ∧ k.serving = true ∧ dirty = false ∧ owner = some e ∧ wid = qid
  | some (.post e _ (.ok q)) => q ∈ acc e ∧ clean ∧ k.serving = true
  | some (.post _ _ .err) => True
  | some (.relA true) => clean ∧ k.serving = true
  | some (.relA false) => True
  | some (.relB true) => clean ∧ k.serving = false
  | some (.relB false) => True

/-- the invariant of one connection, as a predicate of exactly the parts of the state and of the
    monitor it depends on -/
structure COK (k : Conn) (out : List Nat) (dirty mclosed : Bool) (owner : Option Nat) (ab : Bool) (wid : Nat)
    (acc : Nat → List Nat) (inIdle inAll : Prop) (tclosed : Bool) (alloc : Prop) : Prop where
  /-- the monitor's outstanding queries are the connection's -/
  sync : out = k.pending
  /-- the monitor's `closed` mark mirrors `netClosed` -/
  mirror : mclosed = k.netClosed
  one : k.pending.length ≤ 1
  busy : k.pending ≠ [] → k.serving = true
  /-- a connection in the idle set: no goroutine holds it, it is not serving, it is clean -/
  idle : inIdle → k.worker = none ∧ k.serving = false ∧
    (k.pending = [] ∧ k.halfRead = false ∧ dirty = false ∧ owner = none ∧ ab = false)
  /-- the row of `WOK` for the goroutine that holds the connection -/
  wok : WOK k dirty owner wid acc (k.pending = [] ∧ k.halfRead = false ∧ dirty = false ∧ owner = none ∧ ab = false)
    inAll tclosed k.worker
  /-- a connection not dialled yet is untouched -/
  unalloc : ¬ alloc → k.worker = none ∧ out = [] ∧ ¬ inIdle ∧ ¬ inAll ∧ dirty = false ∧ owner = none ∧
    ab = false ∧ mclosed = false
  all : inAll → alloc

/-- A connection in the hands of a goroutine stays in (other) hands, or is let go without entering
    the idle set: the clauses about idle and about undialled connections do not apply, so what
    remains to show is that the monitor still mirrors the connection, and the new row of `WOK`. -/
theorem COK.held {k k' : Conn} (h : COK k out dirty mcl owner ab wid acc inIdle inAll tcl alloc)
    (hw : k.worker ≠ none) (sync : out' = k'.pending) (mirror : mcl' = k'.netClosed)
    (one : k'.pending.length ≤ 1) (busy : k'.pending ≠ [] → k'.serving = true)
    (wok : WOK k' dirty' owner' wid' acc'
      (k'.pending = [] ∧ k'.halfRead = false ∧ dirty' = false ∧ owner' = none ∧ ab' = false) inAll tcl k'.worker) :
    COK k' out' dirty' mcl' owner' ab' wid' acc' inIdle inAll tcl alloc :=
  ⟨sync, mirror, one, busy, fun hi => absurd (h.idle hi).1 hw, wok, fun hna => absurd (h.unalloc hna).1 hw, h.all⟩

def ConnOK (s : State) (m : Mon) (c : Nat) : Prop :=
  COK (s.conn c) (m.out c) (m.dirty c) (m.closed c) (m.owner c) (m.ab c) (m.wid c) m.acc (c ∈ s.idle) (c ∈ s.all)
    s.tclosed
    (c < s.nconn)

structure Inv (s : State) : Prop where
  fault : s.fault = none
  ok : (mon s.hist).ok = true
  tcl : (mon s.hist).tclosed = s.tclosed
  conn : ∀ c, ConnOK s (mon s.hist) c
  chan : ∀ e a q, s.chan e a = some (.ok q) → q ∈ (mon s.hist).acc e

theorem inv_init : Inv State.init := by
  refine ⟨rfl, rfl, rfl, fun c => ?_, ?_⟩
  · exact ⟨rfl, rfl, Nat.zero_le _, fun hne => absurd rfl hne, nofun, trivial,
      fun _ => ⟨rfl, rfl, nofun, nofun, rfl, rfl, rfl, rfl⟩, nofun⟩
  · simp [State.init]

variable {adv : Bool}

attribute [local simp] State.setConn State.setCaller State.emit State.finish State.spawn monStep

/-- the result channels did not change and the monitor's `acc` did not shrink -/
macro "chan_same" h:ident : tactic =>
  `(tactic| (intro e a q hq; simpa using Inv.chan $h e a q hq))

/-- The common shape of a step: only connection `c` changed, by at most one event about `c` that
    leaves the result channels alone.  The monitor's verdict stays `ok` by the facts in the context;
    `t` is the invariant of the new connection `c` against the monitor's new entries for `c`, clause
    by clause; every other connection reads what it read before. -/
macro "step_at" h:ident c:ident t:term : tactic =>
  `(tactic| (refine ⟨(Inv.fault $h : _), ?_, ?_, fun c' => ?_, by chan_same $h⟩
             · simp [Inv.ok $h, (Inv.conn $h $c).sync, (Inv.conn $h $c).mirror, *]
             · simp [Inv.tcl $h]
             · by_cases hc : c' = $c
               · rw [hc]
                 simp only [ConnOK, State.setConn, State.setCaller, State.emit, State.spawn, mon_append1, monStep,
                   upd_same]
                 exact $t
               · simpa [ConnOK, hc] using Inv.conn $h c'))

/-- What `COK` reads, and in which direction.  Of the connection: `serving`, `pending`, `worker`,
    `halfRead`; of `closed` and `netClosed` only that a connection whose dial goroutine has not
    called `exitIdle` yet is open, that the monitor mirrors `netClosed`, and that a connection held
    by its dial goroutine is closed only together with the transport.  Of the monitor: `acc` may
    grow, and the mark `ab` may change on a connection that has an owner.  So `COK` survives every
    other change of the connection, its closing, the closing of the transport, a caller that
    gives up and a frame that is accepted elsewhere. -/
theorem COK_mono {k k' : Conn} {out dirty mcl mcl' owner ab ab' wid} {acc acc' : Nat → List Nat} {inIdle inAll}
    {tcl tcl' : Bool} {alloc}
    (h : COK k out dirty mcl owner ab wid acc inIdle inAll tcl alloc)
    (h1 : k'.serving = k.serving) (h3 : k'.pending = k.pending) (h4 : k'.worker = k.worker)
    (h5 : k'.halfRead = k.halfRead) (h2 : mcl' = k'.netClosed) (hal : mcl' = mcl ∨ alloc)
    (htc : tcl = true → tcl' = true) (hab : owner = none → ab' = ab) (hacc : ∀ e q, q ∈ acc e → q ∈ acc' e)
    (hfresh : ∀ e, k.worker = some (.fresh e) → k'.netClosed = k.netClosed ∧ k'.closed = k.closed)
    (hhold : ∀ e, k.worker = some (.hold e) → k'.netClosed = k.netClosed ∨ tcl' = true) :
    COK k' out dirty mcl' owner ab' wid acc' inIdle inAll tcl' alloc := by
  have hcl : (k.pending = [] ∧ k.halfRead = false ∧ dirty = false ∧ owner = none ∧ ab = false) →
      (k'.pending = [] ∧ k'.halfRead = false ∧ dirty = false ∧ owner = none ∧ ab' = false) :=
    fun ⟨a, b, c, d, e⟩ => ⟨h3 ▸ a, h5 ▸ b, c, d, (hab d).trans e⟩
  refine ⟨h3 ▸ h.sync, h2, h3 ▸ h.one, h3 ▸ h1 ▸ h.busy, fun hi => ?_, ?_, fun hna => ?_, h.all⟩
  · obtain ⟨a, b, c⟩ := h.idle hi
    exact ⟨h4 ▸ a, h1 ▸ b, hcl c⟩
  · have hw := h.wok
    rw [h4]
    generalize hk : k.worker = w at hw
    match w, hw with
    | none, _ => trivial
    | some (.fresh e), ⟨hc, hs, hc', hn, hna⟩ =>
      exact ⟨hcl hc, h1 ▸ hs, (hfresh e hk).2 ▸ hc', (hfresh e hk).1 ▸ hn, hna⟩
    | some (.hold e), ⟨hc, hs, hn, hia⟩ =>
      exact ⟨hcl hc, h1 ▸ hs, fun hn' => (hhold e hk).elim (fun e' => htc (hn (e' ▸ hn'))) id, hia⟩
    | some (.write _ _), ⟨hp, hs, hr⟩ => exact ⟨h3 ▸ hp, h1 ▸ hs, hr⟩
    | some (.read _ _ _), ⟨hp, hs, hr⟩ => exact ⟨h3 ▸ hp, h1 ▸ hs, hr⟩
    | some (.post _ _ (.ok _)), ⟨hq, hc, hs⟩ => exact ⟨hacc _ _ hq, hcl hc, h1 ▸ hs⟩
    | some (.post _ _ .err), _ => trivial
    | some (.relA true), ⟨hc, hs⟩ => exact ⟨hcl hc, h1 ▸ hs⟩
    | some (.relA false), _ => trivial
    | some (.relB true), ⟨hc, hs⟩ => exact ⟨hcl hc, h1 ▸ hs⟩
    | some (.relB false), _ => trivial
  · obtain ⟨a, b, c, d, e, f, g, i⟩ := h.unalloc hna
    refine ⟨h4 ▸ a, b, c, d, e, f, (hab f).trans g, ?_⟩
    rcases hal with hal | hal
    · exact hal.trans i
    · exact absurd hal hna

/-- a change of connection `c` that `COK` does not look at -/
theorem inv_irrelevant (h : Inv s) (c : Nat) (k : Conn)
    (h1 : k.serving = (s.conn c).serving) (h2 : k.netClosed = (s.conn c).netClosed)
    (h3 : k.pending = (s.conn c).pending) (h4 : k.worker = (s.conn c).worker)
    (h5 : k.halfRead = (s.conn c).halfRead)
    (h6 : ∀ e, (s.conn c).worker = some (.fresh e) → k.closed = (s.conn c).closed) : Inv (s.setConn c k) := by
  refine ⟨h.fault, h.ok, h.tcl, fun c' => ?_, h.chan⟩
  by_cases hc : c' = c
  · subst hc
    have := h.conn c'
    simp only [ConnOK, State.setConn, upd_same] at this ⊢
    exact COK_mono this h1 h3 h4 h5 (h2 ▸ this.mirror) (.inl rfl) id (fun _ => rfl)
      (fun _ _ hq => hq) (fun e hw => ⟨h2, h6 e hw⟩) (fun _ _ => Or.inl h2)
  · simpa [ConnOK, hc] using h.conn c'

/-- an exchange returns: an error changes nothing the invariant looks at, a message must have been
    accepted for the exchange, and giving up marks the connections the exchange owns -/
theorem inv_finish (h : Inv s) (e : Nat) (r : RetK) (hr : ∀ q, r = .ok q → q ∈ (mon s.hist).acc e) :
    Inv (s.finish e r) := by
  refine ⟨h.fault, ?_, ?_, fun c' => ?_, fun e' a q hq => ?_⟩
  · cases r with
    | ok q => simp [h.ok, hr q rfl]
    | _ => simp [h.ok]
  · cases r <;> simp [h.tcl]
  · cases r with
    | ctx =>
      have := COK_mono (ab' := (mon s.hist).ab c' || ((mon s.hist).owner c' == some e)) (h.conn c') rfl rfl rfl rfl
        (h.conn c').mirror (.inl rfl) id (fun ho => by simp [ho]) (fun _ _ hq => hq) (fun _ _ => ⟨rfl, rfl⟩)
        (fun _ _ => Or.inl rfl)
      simpa [ConnOK] using this
    | _ => simpa [ConnOK] using h.conn c'
  · cases r <;> simpa using h.chan e' a q hq

theorem inv_setCaller (h : Inv s) (e : Nat) (k : Caller) : Inv (s.setCaller e k) :=
  ⟨h.fault, h.ok, h.tcl, h.conn, h.chan⟩

theorem netClose_worker (s : State) (c : Nat) : ((s.netClose c).conn c).worker = (s.conn c).worker := by
  unfold State.netClose
  split
  · rfl
  · simp

theorem rcClose_worker (s : State) (c : Nat) : ((s.rcClose c).conn c).worker = (s.conn c).worker := by
  unfold State.rcClose
  split
  · rfl
  · simp [netClose_worker]

/-- closing a connection that exists, other than one in the hands of its dial goroutine while
    the transport is open -/
theorem inv_netClose (h : Inv s) (c : Nat) (hal : c < s.nconn)
    (hf : ∀ e, (s.conn c).worker ≠ some (.fresh e))
    (hh : ∀ e, (s.conn c).worker = some (.hold e) → s.tclosed = true) : Inv (s.netClose c) := by
  unfold State.netClose
  refine iteInduction (fun _ => h) fun _ => ⟨h.fault, ?_, ?_, fun c' => ?_, by chan_same h⟩
  · simp [h.ok]
  · simp [h.tcl]
  · by_cases hc : c' = c
    · subst hc
      have hcc := h.conn c'
      simp only [ConnOK, State.setConn, State.emit, mon_append1, monStep, upd_same] at hcc ⊢
      exact COK_mono hcc rfl rfl rfl rfl rfl (.inr hal) id (fun _ => rfl) (fun _ _ hq => hq)
        (fun e hw => absurd hw (hf e)) (fun e hw => Or.inr (hh e hw))
    · simpa [ConnOK, hc] using h.conn c'

/-- `closed := true` and then `netClose`: what `rcClose` and the idle timer do -/
theorem inv_close (h : Inv s) (c : Nat) (hal : c < s.nconn)
    (hf : ∀ e, (s.conn c).worker ≠ some (.fresh e))
    (hh : ∀ e, (s.conn c).worker = some (.hold e) → s.tclosed = true) :
    Inv ((s.setConn c { s.conn c with closed := true }).netClose c) := by
  have h1 := inv_irrelevant h c { s.conn c with closed := true } rfl rfl rfl rfl rfl fun e hw => absurd hw (hf e)
  exact inv_netClose h1 c hal (by simpa using hf) (by simpa using hh)

theorem inv_rcClose (h : Inv s) (c : Nat) (hal : c < s.nconn)
    (hf : ∀ e, (s.conn c).worker ≠ some (.fresh e))
    (hh : ∀ e, (s.conn c).worker = some (.hold e) → s.tclosed = true) : Inv (s.rcClose c) := by
  unfold State.rcClose
  exact iteInduction (fun _ => h) fun _ => inv_close h c hal hf hh

theorem Inv.alloc (h : Inv s) (hw : (s.conn c).worker ≠ none) : c < s.nconn := by
  exact Decidable.byContradiction fun hna => hw ((h.conn c).unalloc hna).1

/-- a goroutine that holds a connection moves on to a state of which `WOK` asks nothing -/
theorem inv_setWorker (h : Inv s) (c : Nat) {w : Option Worker}
    (hw : ∀ {k dirty owner wid acc clean inAll tcl}, WOK k dirty owner wid acc clean inAll tcl w)
    (hcur : (s.conn c).worker ≠ none) : Inv (s.setConn c { s.conn c with worker := w }) := by
  refine ⟨h.fault, h.ok, h.tcl, fun c' => ?_, h.chan⟩
  by_cases hc : c' = c
  · subst hc
    have hcc := h.conn c'
    simp only [ConnOK, State.setConn, upd_same] at hcc ⊢
    exact hcc.held hcur hcc.sync hcc.mirror hcc.one hcc.busy hw
  · simpa [ConnOK, hc] using h.conn c'

/-- `workerPost`: what holds of every result in the channels and of the one posted holds afterwards -/
theorem chan_post {chan : Nat → Nat → Option Res} {P : Nat → Nat → Prop} {e a : Nat} {r : Res}
    (hold : ∀ e' a' q, chan e' a' = some (.ok q) → P e' q) (hnew : ∀ q, r = .ok q → P e q) (e' a' q : Nat)
    (hq : upd chan e (upd (chan e) a (some r)) e' a' = some (.ok q)) : P e' q := by
  simp only [upd_apply] at hq
  split at hq
  · rename_i he
    subst he
    rw [upd_apply] at hq
    split at hq
    · exact hnew q (Option.some.inj hq)
    · exact hold _ _ _ hq
  · exact hold _ _ _ hq

/-- closing connections changes nothing in the monitor but their `closed` marks -/
theorem foldl_cl (l : List Nat) (m : Mon) :
    (l.map Event.cl).foldl monStep m = { m with closed := fun c => m.closed c || decide (c ∈ l) } := by
  induction l generalizing m with
  | nil => simp
  | cons x xs ih =>
    rw [List.map_cons, List.foldl_cons, ih]
    simp only [monStep, Mon.mk.injEq, true_and, and_true]
    funext c
    by_cases hc : c = x <;> simp [hc]

/-- every step of a transport that has not panicked preserves the invariant, against any server:
    `adv` is arbitrary, so the server may also send frames of its own making (`srvStray`) -/
theorem core_inv (h : Inv s) (a : Act) : Inv (stepCoreG false adv s a) := by
  cases a with
  | start e =>
    simp only [stepCoreG]
    split
    · exact inv_setCaller h _ _
    · exact h
  | cancel e => exact inv_setCaller h _ _
  | getIdle e pick =>
    cases hph : (s.caller e).phase with
    | get =>
      simp only [stepCoreG, hph]
      refine iteInduction (fun _ => inv_setCaller h _ _) fun _ => ?_
      refine iteInduction (fun _ => inv_finish h _ _ nofun) fun htc' => ?_
      cases pick with
      | none => exact iteInduction (fun _ => inv_setCaller h _ _) fun _ => h
      | some c =>
        dsimp only
        refine iteInduction (fun hin => ?_) fun _ => h
        have hc := h.conn c
        obtain ⟨hw, hsv0, hp, hh, hd, ho, hab⟩ := hc.idle hin
        have hal : c < s.nconn := Decidable.byContradiction fun hna => (hc.unalloc hna).2.2.1 hin
        refine iteInduction (fun hcl => ?_) fun hcl => ?_
        · step_at h c ⟨hc.sync, hc.mirror, hc.one, hc.busy, fun hi => absurd hi (by simp), by rw [hw]; trivial,
            fun hna => absurd hal hna, fun hi => absurd hi (by simp)⟩
        · refine iteInduction (fun hsv => ?_) fun hsv => ?_
          · exact absurd hsv (by simp [hsv0])
          · refine iteInduction (fun hnc => ?_) fun hnc => ?_
            · step_at h c ⟨hc.sync, hc.mirror, hc.one, fun _ => rfl, fun hi => absurd hi (by simp), by rw [hw]; trivial,
                fun hna => absurd hal hna, fun hi => absurd hi (by simp)⟩
            · refine iteInduction (fun hw' => ?_) fun _ => ?_
              · exact absurd hw' (by simp [hw])
              · -- S2, S4, S5: an idle connection is clean, and this one is not closed
                step_at h c ⟨hc.sync, hc.mirror, hc.one, fun _ => rfl, fun hi => absurd hi (by simp), ⟨hp, rfl, hd, rfl⟩,
                  fun hna => absurd hal hna, hc.all⟩
    | _ => simpa only [stepCoreG, hph] using h
  | recvRes e =>
    simp only [stepCoreG]
    split
    · split
      · rename_i q hq
        exact inv_finish h _ _ fun q' hq' => by cases hq'; exact h.chan _ _ _ hq
      · split
        · exact inv_setCaller h _ _
        · exact inv_finish h _ _ nofun
      · exact h
    · exact h
  | giveUp e =>
    simp only [stepCoreG]
    split
    · split
      · exact inv_finish h _ _ nofun
      · exact inv_finish h _ _ nofun
      · exact h
    · exact h
  | dialDone e b =>
    simp only [stepCoreG]
    split
    · split
      · obtain ⟨-, ho, hni, hna, hd, hown, hab, hmc⟩ := (h.conn s.nconn).unalloc (Nat.lt_irrefl _)
        refine ⟨h.fault, ?_, ?_, fun c' => ?_, by chan_same h⟩
        · simp [h.ok]
        · simp [h.tcl]
        · have hc' := h.conn c'
          simp only [ConnOK, State.setConn, State.setCaller, State.emit, mon_append1, monStep, upd_apply]
          split
          · -- the new connection: nothing is known of it but that it is untouched
            rename_i hc
            rw [hc]
            exact ⟨ho, hmc, Nat.zero_le _, fun hne => absurd rfl hne, fun hi => absurd hi hni,
              ⟨⟨rfl, rfl, hd, hown, hab⟩, rfl, rfl, rfl, hna⟩, fun hn => absurd (Nat.lt_succ_self _) hn,
              fun hi => absurd hi hna⟩
          · -- `nconn` grew: a connection that was dialled still is, and `c'` is not the new one
            rename_i hc
            exact ⟨hc'.sync, hc'.mirror, hc'.one, hc'.busy, hc'.idle, hc'.wok,
              fun hn => hc'.unalloc fun hlt => hn (Nat.lt_succ_of_lt hlt), fun hi => Nat.lt_succ_of_lt (hc'.all hi)⟩
      · exact inv_setCaller h _ _
    · exact h
  | dialExit c =>
    simp only [stepCoreG]
    split
    · rename_i e hw
      have hc := h.conn c
      have hwok := hc.wok
      simp only [hw, WOK] at hwok
      obtain ⟨hclean, hsv, hcl, hnc, hnia⟩ := hwok
      simp only [hcl, hsv, Bool.not_false, Bool.true_and, Bool.false_eq_true, if_false]
      split
      · simp only [State.rcClose, State.netClose, State.setConn, State.setCaller, State.emit, upd_same, hnc,
          Bool.false_eq_true, if_false]
        step_at h c (hc.held (by simp [hw]) hc.sync rfl hc.one (fun _ => rfl) trivial)
      · step_at h c ⟨hc.sync, hc.mirror, hc.one, fun _ => rfl, fun hi => absurd (hc.idle hi).1 (by simp [hw]),
          ⟨hclean, rfl, fun hn => absurd hn (by simp [hnc]), by simp⟩,
          fun hna => absurd (hc.unalloc hna).1 (by simp [hw]), fun _ => h.alloc (by simp [hw])⟩
    · exact h
  | dialDeliver c b =>
    simp only [stepCoreG]
    split
    · rename_i e hw
      have hc := h.conn c
      have htc := h.tcl
      obtain ⟨⟨hp, hh, hd, ho, hab⟩, hsv, hnt, hia⟩ : (_ ∧ _ ∧ _ ∧ _ ∧ _) ∧ _ ∧ _ ∧ _ := by
        simpa only [hw, WOK] using hc.wok
      have hct : (s.conn c).netClosed = false ∨ s.tclosed = true := by
        cases hn : (s.conn c).netClosed
        · exact .inl rfl
        · exact .inr (hnt hn)
      split
      · -- S2, S4, S5: nothing outstanding, clean, not abandoned, closed only with the transport
        step_at h c (hc.held (by simp [hw]) hc.sync hc.mirror hc.one hc.busy ⟨hp, hsv, hd, rfl⟩)
      · step_at h c (hc.held (by simp [hw]) hc.sync hc.mirror hc.one hc.busy ⟨⟨hp, hh, hd, ho, hab⟩, hsv⟩)
    · exact h
  | dialFail e b =>
    simp only [stepCoreG]
    split
    · split
      · exact inv_finish (inv_setCaller h _ _) _ _ nofun
      · exact inv_setCaller h _ _
    · exact h
  | workerWrite c fail =>
    simp only [stepCoreG]
    split
    · rename_i e a hw
      have hc := h.conn c
      obtain ⟨hp, hsv, hd, ho⟩ : _ ∧ _ ∧ _ ∧ _ := by simpa only [hw, WOK] using hc.wok
      split
      · step_at h c (hc.held (by simp [hw]) hc.sync hc.mirror hc.one hc.busy trivial)
      · -- S1: nothing is outstanding, the connection is not dirty and it is `e`'s
        step_at h c (hc.held (by simp [hw]) (by rw [hc.sync]) hc.mirror (by simp [hp]) (fun _ => hsv) ⟨by simp [hp], hsv, hd, ho, rfl⟩)
    · exact h
  | workerReadPart c =>
    simp only [stepCoreG]
    split
    · rename_i e a qid hw
      split
      · exact h
      · have hc := h.conn c
        step_at h c (hc.held (by simp [hw]) hc.sync hc.mirror hc.one hc.busy
          (by have := hc.wok; simp only [hw, WOK] at this ⊢; exact this))
    · exact h
  | workerReadOk c =>
    simp only [stepCoreG]
    split
    · rename_i e a qid hw
      have hwok := (h.conn c).wok
      simp only [hw, WOK] at hwok
      obtain ⟨hp, hsv, hd, hown, hwid⟩ := hwok
      split
      · exact h
      · split
        · rename_i f fs hin
          split
          · -- a frame that does not decode
            step_at h c ((h.conn c).held (by simp [hw]) (congrArg List.tail (h.conn c).sync) (h.conn c).mirror
              (by simp [hp]) (fun _ => hsv) trivial)
          · split
            · -- the reply with the id of the query: accepted
              rename_i hid
              have hacc : ∀ e' q, q ∈ (mon s.hist).acc e' →
                  q ∈ upd (mon s.hist).acc e (f.q :: (mon s.hist).acc e) e' := by
                intro e' q hq
                by_cases he : e' = e
                · subst he; simp [hq]
                · simpa [he] using hq
              refine ⟨h.fault, ?_, ?_, ?_, ?_⟩
              · simp [h.ok, hwid, hid, hown]
              · simp [h.tcl, hwid, hid, hown]
              · intro c'
                by_cases hc : c' = c
                · rw [hc]
                  simp only [ConnOK, State.setConn, State.emit, mon_append1, monStep, upd_same, hwid, hid, hown, if_true]
                  exact (h.conn c).held (by simp [hw]) (congrArg List.tail (h.conn c).sync) (h.conn c).mirror
                    (by simp [hp]) (fun _ => hsv) (And.intro (by simp) ⟨⟨by simp [hp], rfl, hd, rfl, rfl⟩, hsv⟩)
                · have := COK_mono (h.conn c') rfl rfl rfl rfl (h.conn c').mirror (.inl rfl) id (fun _ => rfl) hacc
                    (fun _ _ => ⟨rfl, rfl⟩) (fun _ _ => Or.inl rfl)
                  simpa [ConnOK, hc, hwid, hid, hown] using this
              · intro e' a' q hq
                have := hacc e' q (h.chan e' a' q hq)
                simpa [hwid, hid, hown] using this
            · -- a frame with another id: errUnexpectedRespID
              rename_i hid
              have hne : ¬ f.id = (mon s.hist).wid c := by rw [hwid]; exact hid
              refine ⟨h.fault, ?_, ?_, ?_, ?_⟩
              · simp [h.ok, hne]
              · simp [h.tcl, hne]
              · intro c'
                by_cases hc : c' = c
                · rw [hc]
                  simp only [ConnOK, State.setConn, State.emit, mon_append1, monStep, upd_same, hne, if_false]
                  exact (h.conn c).held (by simp [hw]) (congrArg List.tail (h.conn c).sync) (h.conn c).mirror
                    (by simp [hp]) (fun _ => hsv) trivial
                · simpa [ConnOK, hc, hne] using h.conn c'
              · intro e' a' q hq
                simpa [hne] using h.chan e' a' q hq
        · exact h
    · exact h
  | workerReadErr c =>
    simp only [stepCoreG]
    split
    · have hc := h.conn c
      step_at h c (hc.held (by simp [*]) hc.sync hc.mirror hc.one hc.busy trivial)
    · exact h
  | workerPost c =>
    simp only [stepCoreG]
    split
    · rename_i e a r hw
      refine ⟨h.fault, ?_, ?_, ?_, ?_⟩
      · simp [h.ok]
      · simp [h.tcl]
      · intro c'
        by_cases hc' : c' = c
        · rw [hc']
          simp only [ConnOK, State.setConn, upd_same]
          have hc := h.conn c
          have hwok := hc.wok
          rw [hw] at hwok
          refine hc.held (by simp [hw]) hc.sync hc.mirror hc.one hc.busy ?_
          -- `WOK` has one row for a posted message and one for a posted error
          cases r with
          | ok q => exact ⟨hwok.2.1, hwok.2.2⟩
          | err => trivial
        · simpa [ConnOK, hc'] using h.conn c'
      · refine chan_post h.chan fun q hr => ?_
        subst hr
        have hwok := (h.conn c).wok
        simp only [hw, WOK] at hwok
        exact hwok.1
    · exact h
  | workerRelA c =>
    simp only [stepCoreG]
    split
    · rename_i ok hw
      cases ok
      · have h1 := inv_rcClose h c (h.alloc (by simp [hw])) (by simp [hw]) (by simp [hw])
        exact inv_setWorker h1 c trivial (by simp [rcClose_worker, hw])
      · have hsv := (h.conn c).wok
        simp only [hw, WOK] at hsv
        simp only [if_true]
        refine iteInduction (fun hns => ?_) fun _ => ?_
        · exact absurd hns (by simp [hsv.2])
        · have hc := h.conn c
          step_at h c (hc.held (by simp [hw]) hc.sync hc.mirror hc.one (fun hne => absurd hsv.1.1 hne) ⟨hsv.1, rfl⟩)
    · exact h
  | workerRelB c =>
    simp only [stepCoreG]
    split
    · rename_i ok hw
      have h1 := inv_setWorker h c (w := none) trivial (by simp [hw])
      have hwok := (h.conn c).wok
      rw [hw] at hwok
      refine iteInduction (fun _ => ?_) fun _ => ?_
      · exact iteInduction (fun _ => inv_rcClose h1 c (h.alloc (by simp [hw])) (by simp) (by simp)) fun _ => h1
      · cases ok
        · simp only [Bool.false_eq_true, if_false]
          have hc := h.conn c
          step_at h c ⟨hc.sync, hc.mirror, hc.one, hc.busy, fun hi => absurd (hc.idle hi).1 (by simp [hw]), trivial,
            fun hna => absurd (hc.unalloc hna).1 (by simp [hw]), fun hi => absurd hi (by simp)⟩
        · simp only [if_true]
          refine ⟨h.fault, h.ok, h.tcl, ?_, by chan_same h⟩
          intro c'
          by_cases hc : c' = c
          · rw [hc]
            simp only [ConnOK, State.setConn, upd_same]
            have hc := h.conn c
            exact ⟨hc.sync, hc.mirror, hc.one, hc.busy, fun _ => ⟨rfl, hwok.2, hwok.1⟩, trivial,
              fun hna => absurd (hc.unalloc hna).1 (by simp [hw]), hc.all⟩
          · -- the model's `if c ∈ s.idle then s.idle else s.idle ++ [c]`
            have := h.conn c'
            by_cases hi : c ∈ s.idle
            · simpa [ConnOK, hc, hi] using this
            · simpa [ConnOK, hc, hi] using this
    · exact h
  | idleTimer c =>
    simp only [stepCoreG]
    refine iteInduction (fun hal => ?_) fun _ => h
    refine iteInduction (fun _ => h) fun hf => ?_
    refine iteInduction (fun hsv => ?_) fun _ => h
    have hfresh : ∀ e, (s.conn c).worker ≠ some (.fresh e) := fun e he => hf (by rw [he]; rfl)
    have hhold : ∀ e, (s.conn c).worker = some (.hold e) → s.tclosed = true := by
      intro e he
      have hwok := (h.conn c).wok
      simp only [he, WOK] at hwok
      rw [hwok.2.1] at hsv
      exact absurd hsv (by decide)
    exact inv_close h c hal hfresh hhold
  | tClose =>
    simp only [stepCoreG]
    refine iteInduction (fun _ => h) fun htc => ?_
    refine ⟨h.fault, ?_, ?_, ?_, ?_⟩
    · simp [foldl_cl, monStep, h.ok]
    · simp [foldl_cl, monStep]
    · intro c'
      have hcc := h.conn c'
      simp only [ConnOK] at hcc
      simp only [ConnOK, mon_append, List.foldl_cons, foldl_cl, monStep]
      by_cases hin : c' ∈ s.all
      · rw [if_pos hin]
        refine COK_mono hcc rfl rfl rfl rfl ?_ (.inr (hcc.all hin)) (fun _ => rfl)
          (fun _ => rfl) (fun _ _ hq => hq) (fun e hw => ?_) (fun _ _ => Or.inr rfl)
        · rw [hcc.mirror]
          cases hn : (s.conn c').netClosed <;> simp [List.mem_filter, hin, hn]
        · have := hcc.wok
          rw [hw] at this
          exact absurd hin this.2.2.2.2
      · rw [if_neg hin]
        refine COK_mono hcc rfl rfl rfl rfl ?_ (.inl ?_) (fun _ => rfl) (fun _ => rfl) (fun _ _ hq => hq)
          (fun _ _ => ⟨rfl, rfl⟩) (fun _ _ => Or.inr rfl)
        · simp [List.mem_filter, hin, hcc.mirror]
        · simp [List.mem_filter, hin]
    · intro e a q hq
      simpa [foldl_cl, monStep] using h.chan e a q hq
  | srvReply c g | srvDup c g =>
    simp only [stepCoreG]
    split
    · split
      · exact inv_irrelevant h c _ rfl rfl rfl rfl rfl fun _ _ => rfl
      · exact h
    · exact h
  | srvStray c f | srvAbort c =>
    simp only [stepCoreG]
    split
    · exact inv_irrelevant h c _ rfl rfl rfl rfl rfl fun _ _ => rfl
    · exact h

theorem step_inv (h : Inv s) (a : Act) : Inv (step s a) := by
  simp only [step, h.fault, Option.isSome_none, Bool.false_eq_true, if_false]
  exact core_inv h a

theorem stepAdv_inv (h : Inv s) (a : Act) : Inv (stepAdv s a) := by
  simp only [stepAdv, h.fault, Option.isSome_none, Bool.false_eq_true, if_false]
  exact core_inv h a

theorem foldl_inv {P : State → Prop} {f : State → Act → State} (hf : ∀ s a, P s → P (f s a)) (h : P s)
    (acts : List Act) : P (acts.foldl f s) := by
  induction acts generalizing s with
  | nil => exact h
  | cons a as ih => exact ih (hf s a h)

theorem reachAdv_inv (acts : List Act) : Inv (execAdv State.init acts) :=
  foldl_inv (P := Inv) (f := stepAdv) (fun _ a h => stepAdv_inv h a) inv_init acts

theorem reach_inv (acts : List Act) : Inv (exec State.init acts) :=
  foldl_inv (P := Inv) (f := step) (fun _ a h => step_inv h a) inv_init acts

end MosVerif.Reuse
