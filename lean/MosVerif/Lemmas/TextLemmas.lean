/-
  C11 — lemmas about the name/text model (`Model/Text.lean`): the scanner and
  the wire form are inverse to each other, `ToLowerName` lower-cases label-wise.
  Both loops are followed one label at a time (`scanLoop_label`, `toLowerLoop_label`).
-/
import MosVerif.Model.Text
namespace MosVerif.Text

/-- labels of 1..63 octets. -/
def GoodLabels (ls : List Label) : Prop := ∀ l ∈ ls, 1 ≤ l.length ∧ l.length ≤ 63

theorem GoodLabels.tail {l : Label} {ls : List Label} (h : GoodLabels (l :: ls)) : GoodLabels ls :=
  fun x hx => h x (by simp [hx])

theorem GoodLabels.head {l : Label} {ls : List Label} (h : GoodLabels (l :: ls)) :
    1 ≤ l.length ∧ l.length ≤ 63 := h l (by simp)

theorem GoodLabels.nil : GoodLabels [] := fun _ hx => nomatch hx

theorem GoodLabels.cons {l : Label} {ls : List Label} (h1 : 1 ≤ l.length) (h63 : l.length ≤ 63)
    (h : GoodLabels ls) : GoodLabels (l :: ls) := by
  intro x hx
  rcases List.mem_cons.mp hx with rfl | hx
  · exact ⟨h1, h63⟩
  · exact h x hx

theorem encode_length (ls : List Label) : (encode ls).length = wireLen ls := by
  induction ls with
  | nil => rfl
  | cons l ls ih =>
    simp [encode, wireLen, ih]
    omega

theorem toNat_ofNat_small {n : Nat} (h : n ≤ 63) : (UInt8.ofNat n).toNat = n := by
  simp only [UInt8.toNat_ofNat']
  omega

/-- one `Scan()` over a length octet and its label, whatever follows. -/
theorem scanLoop_label (f : Nat) (l : Label) (t : Bytes) (h1 : 1 ≤ l.length) (h63 : l.length ≤ 63) :
    scanLoop (f + 1) (UInt8.ofNat l.length :: (l ++ t)) = (scanLoop f t).map (l :: ·) := by
  have e0 : (l.length == 0) = false := beq_eq_false_iff_ne.mpr (Nat.ne_of_gt h1)
  simp only [scanLoop, toNat_ofNat_small h63, labelMax, e0, Nat.not_lt.mpr h63, List.length_append,
    Nat.not_lt.mpr (Nat.le_add_right _ _), Bool.false_eq_true, ↓reduceIte, List.drop_left,
    List.take_left]

theorem scanLoop_encode (ls : List Label) (hg : GoodLabels ls) (fuel : Nat)
    (hf : ls.length < fuel) : scanLoop fuel (encode ls) = some ls := by
  induction ls generalizing fuel with
  | nil =>
    cases fuel with
    | zero => cases hf
    | succ f => rfl
  | cons l ls ih =>
    cases fuel with
    | zero => cases hf
    | succ f =>
      rw [encode, scanLoop_label f l _ hg.head.1 hg.head.2, ih hg.tail f (Nat.lt_of_succ_lt_succ hf)]
      rfl

/-- the fuel `scan` and `ToLowerName` start with covers every label. -/
theorem length_lt_fuel (ls : List Label) : ls.length < (encode ls).length + 1 := by
  rw [encode_length]
  induction ls with
  | nil => exact Nat.zero_lt_one
  | cons l ls ih =>
    rw [wireLen, List.length_cons]
    omega

theorem encode_fits (ls : List Label) (hw : wireLen ls ≤ 254) :
    ¬ (encode ls).length > scanMax := by
  rw [encode_length]
  exact Nat.not_lt.mpr hw

theorem scan_encode (ls : List Label) (hg : GoodLabels ls) (hw : wireLen ls ≤ 254) :
    scan (encode ls) = some ls := by
  simp only [scan, encode_fits ls hw, ↓reduceIte]
  exact scanLoop_encode ls hg _ (length_lt_fuel ls)

theorem scanLoop_sound (fuel : Nat) (n : Bytes) (ls : List Label) (hf : n.length < fuel)
    (h : scanLoop fuel n = some ls) : n = encode ls ∧ GoodLabels ls := by
  induction fuel generalizing n ls with
  | zero => cases hf
  | succ f ih =>
    cases n with
    | nil =>
      obtain rfl := Option.some.inj h
      exact ⟨rfl, .nil⟩
    | cons c rest =>
      simp only [scanLoop, beq_iff_eq] at h
      split at h
      · cases h
      · split at h
        · cases h
        · split at h
          · cases h
          · rename_i h0 h63 hle
            obtain ⟨ls', hs, rfl⟩ := Option.map_eq_some_iff.mp h
            have hk : (rest.take c.toNat).length = c.toNat :=
              List.length_take_of_le (Nat.not_lt.mp hle)
            have hlen : (rest.drop c.toNat).length < f := by
              rw [List.length_drop]
              exact Nat.lt_of_le_of_lt (Nat.sub_le ..) (Nat.lt_of_succ_lt_succ hf)
            obtain ⟨he, hg⟩ := ih _ _ hlen hs
            refine ⟨?_, .cons (hk.symm ▸ Nat.pos_of_ne_zero h0) (hk.symm ▸ Nat.not_lt.mp h63) hg⟩
            rw [encode, hk, UInt8.ofNat_toNat, ← he, List.take_append_drop]

theorem scan_sound (n : Bytes) (ls : List Label) (h : scan n = some ls) :
    n = encode ls ∧ GoodLabels ls ∧ wireLen ls ≤ 254 := by
  unfold scan at h
  split at h
  · simp at h
  · rename_i hl
    obtain ⟨he, hg⟩ := scanLoop_sound _ _ _ (by omega) h
    refine ⟨he, hg, ?_⟩
    rw [← encode_length, ← he]
    exact Nat.not_lt.mp hl

theorem encode_injective (a b : List Label) (ha : GoodLabels a) (hb : GoodLabels b)
    (h : encode a = encode b) : a = b := by
  have h1 := scanLoop_encode a ha (a.length + b.length + 1) (by omega)
  rw [h, scanLoop_encode b hb _ (by omega)] at h1
  exact (Option.some.inj h1).symm

/-- only upper-case letters change, into lower-case letters: never into or out of a dot. -/
theorem lowerByte_eq_dot (c : UInt8) : lowerByte c = 46 ↔ c = 46 := by
  unfold lowerByte
  split
  · rename_i h
    simp only [UInt8.le_iff_toNat_le, UInt8.reduceToNat] at h
    simp only [← UInt8.toNat_inj, UInt8.toNat_add, UInt8.reduceToNat]
    omega
  · rfl

theorem lowerByte_idem (c : UInt8) : lowerByte (lowerByte c) = lowerByte c := by
  unfold lowerByte
  split
  · rename_i h
    simp only [UInt8.le_iff_toNat_le, UInt8.reduceToNat] at h
    have : ¬ (65 ≤ c + 32 ∧ c + 32 ≤ 90) := by
      simp only [UInt8.le_iff_toNat_le, UInt8.toNat_add, UInt8.reduceToNat]
      omega
    rw [if_neg this]
  · rfl

theorem lowerLabel_idem (l : Label) : lowerLabel (lowerLabel l) = lowerLabel l := by
  simp [lowerLabel, lowerByte_idem]

theorem lowerLabel_length (l : Label) : (lowerLabel l).length = l.length := by simp [lowerLabel]

theorem goodLabels_lower (ls : List Label) (hg : GoodLabels ls) : GoodLabels (ls.map lowerLabel) := by
  intro x hx
  simp only [List.mem_map] at hx
  obtain ⟨l, hl, rfl⟩ := hx
  rw [lowerLabel_length]
  exact hg l hl

theorem wireLen_lower (ls : List Label) : wireLen (ls.map lowerLabel) = wireLen ls := by
  induction ls with
  | nil => rfl
  | cons l ls ih => simp [wireLen, ih, lowerLabel_length]

/-- one step of `ToLowerName` over a length octet and its label, whatever follows. -/
theorem toLowerLoop_label (f : Nat) (l : Label) (t : Bytes) (h1 : 1 ≤ l.length)
    (h63 : l.length ≤ 63) :
    toLowerLoop (f + 1) (UInt8.ofNat l.length :: (l ++ t)) =
      UInt8.ofNat l.length :: (lowerLabel l ++ toLowerLoop f t) := by
  have e0 : (l.length == 0) = false := beq_eq_false_iff_ne.mpr (Nat.ne_of_gt h1)
  simp only [toLowerLoop, toNat_ofNat_small h63, labelMax, e0, Nat.not_lt.mpr h63,
    List.length_append, Nat.not_lt.mpr (Nat.le_add_right _ _), Bool.false_eq_true, ↓reduceIte,
    List.drop_left, List.take_left]

theorem toLowerLoop_encode (ls : List Label) (hg : GoodLabels ls) (fuel : Nat)
    (hf : ls.length < fuel) :
    toLowerLoop fuel (encode ls) = encode (ls.map lowerLabel) := by
  induction ls generalizing fuel with
  | nil =>
    cases fuel with
    | zero => cases hf
    | succ f => rfl
  | cons l ls ih =>
    cases fuel with
    | zero => cases hf
    | succ f =>
      rw [encode, toLowerLoop_label f l _ hg.head.1 hg.head.2,
        ih hg.tail f (Nat.lt_of_succ_lt_succ hf), List.map_cons, encode, lowerLabel_length]

theorem toLowerName_encode (ls : List Label) (hg : GoodLabels ls) (hw : wireLen ls ≤ 254) :
    toLowerName (encode ls) = encode (ls.map lowerLabel) := by
  simp only [toLowerName, encode_fits ls hw, ↓reduceIte]
  exact toLowerLoop_encode ls hg _ (length_lt_fuel ls)

end MosVerif.Text
