/-
  Tie by translation (C02/C09): `Name.pack` (internal/dnsmsg/name.go) with its compression map.
  The Go function is translated into `Translated.Name_pack_step` (ONE iteration of the scanning loop over the state
  (scanner.off, scanner.err, scanner.label, scanner.labelOff, msg, off): table lookup of the remaining suffix, pointer
  on a hit, label octets on a miss) and `Translated.Name_pack_loop2_step` (ONE iteration of the insertion loop:
  the 14-bit bound, `compression[suffix] = uint16(newPtr)`), both over `Translated.NameScanner_Scan`.
  `Name_pack_translated`: the model's `packName`, written into the buffer (`packNameBuf`), IS that function — for all
  names (valid or not), buffers, offsets and tables.
  The way there: what `Scan` returns at each kind of position (`scan_*`); about the model alone, that the accumulator of
  `packNameLoop` is a prefix of its result, that it never panics, and that without a hit it returned the name itself,
  walkable (`packNameLoop_acc`, `packNameLoop_ne_panic`, `packNameLoop_nohit`, `packName_ne_panic`); the insertion loop
  registers what `registerSuffixes` registers (`loop2_spec`); one iteration of the scanning loop at each kind of position
  (`step1_*`), hence the scanning loop writes the octets of `packNameLoop` and, without a hit, goes on with `postG`
  (`loop1_spec`); `postG` is `registerSuffixes` and the terminator (`postG_spec`); then the theorem.
-/
import MosVerif.Lemmas.TranslatedEnc
namespace MosVerif.Wire
open MosVerif

/-- `Name.pack` is tied: the model's `packName`, written into the buffer, is the translated function. -/
def NamePackTied : Prop :=
  ∀ (n : Name) (msg : Bytes) (off : Nat) (tbl : Option Table), packNameBuf msg off tbl n = Translated.Name_pack n msg off tbl

theorem writeRes_ok (msg : Bytes) (off : Nat) (a : Bytes) (t : Option Table) :
    writeRes msg off (.ok (a, t)) = (writeAt msg off a >>= fun w => .ok (w.1, t, w.2)) := by
  simp only [writeRes]
  cases writeAt msg off a <;> rfl

/-- `n[off]` at the length octet of a label -/
theorem index_mid (pre : Bytes) (l : UInt8) (r : Bytes) : GoSem.index (pre ++ l :: r) pre.length = .ok l.toNat := by
  unfold GoSem.index
  simp

/-- `n[labelStart:labelEnd]`: the octets of the label behind its length octet -/
theorem slice_mid (pre : Bytes) (l : UInt8) (r : Bytes) (k : Nat) (hk : k ≤ r.length) :
    GoSem.slice (pre ++ l :: r) (pre.length + 1) (pre.length + 1 + k) = .ok (r.take k) := by
  unfold GoSem.slice
  have h1 : pre.length + 1 ≤ pre.length + 1 + k ∧ pre.length + 1 + k ≤ (pre ++ l :: r).length := by
    simp
    omega
  have e : pre ++ l :: r = (pre ++ [l]) ++ r := by simp
  have e2 : pre.length + 1 = (pre ++ [l]).length := by simp
  rw [if_pos h1, e, e2, List.take_length_add_append, List.drop_left]

/-- `Scan` at the end of the name: no label, no error -/
theorem scan_end (n : Bytes) (err : Bool) (lo : Nat) (hn : n.length ≤ 254) :
    Translated.NameScanner_Scan n n.length err lo = .ok (n.length, err, [], lo, false) := by
  unfold Translated.NameScanner_Scan
  have h1 : ¬ n.length > 254 := by omega
  have h2 : ((n.length : Nat) : Int) > ((n.length : Nat) : Int) - ((1 : Nat) : Int) := by omega
  simp only [GoSem.len, h1, decide_false, Bool.false_eq_true, if_false, h2, decide_true, if_true, Res.pure_eq]

/-- `Scan` of a name longer than 254 octets: `errNameTooLong` -/
theorem scan_long (n : Bytes) (off : Nat) (err : Bool) (lo : Nat) (hn : n.length > 254) :
    Translated.NameScanner_Scan n off err lo = .ok (off, true, [], lo, false) := by
  unfold Translated.NameScanner_Scan
  simp only [GoSem.len, hn, decide_true, if_true, Res.pure_eq]

/-- `Scan` at a label whose length octet is 0, above 63 or runs past the end: error -/
theorem scan_bad (pre : Bytes) (l : UInt8) (r : Bytes) (err : Bool) (lo : Nat) (hn : (pre ++ l :: r).length ≤ 254)
    (hb : l.toNat = 0 ∨ l.toNat > 63 ∨ r.length < l.toNat) :
    Translated.NameScanner_Scan (pre ++ l :: r) pre.length err lo = .ok (pre.length, true, [], lo, false) := by
  unfold Translated.NameScanner_Scan
  have h1 : ¬ (pre ++ l :: r).length > 254 := by omega
  have h2 : ¬ ((pre.length : Nat) : Int) > (((pre ++ l :: r).length : Nat) : Int) - ((1 : Nat) : Int) := by
    simp
    omega
  simp only [GoSem.len, h1, decide_false, Bool.false_eq_true, if_false, h2, index_mid, Res.bind_ok', Res.pure_eq]
  by_cases h0 : l.toNat = 0
  · simp [h0]
  · by_cases h63 : l.toNat > 63
    · simp [h0, h63]
    · have h3 : pre.length + 1 + l.toNat > (pre ++ l :: r).length := by simp; omega
      simp only [h0, h63, h3, decide_false, decide_true, Bool.false_eq_true, if_false, if_true]

/-- `Scan` at a good label: the label, its offset, the scanner behind it -/
theorem scan_ok (pre : Bytes) (l : UInt8) (r : Bytes) (err : Bool) (lo : Nat) (hn : (pre ++ l :: r).length ≤ 254)
    (hb : ¬ (l.toNat = 0 ∨ l.toNat > 63 ∨ r.length < l.toNat)) :
    Translated.NameScanner_Scan (pre ++ l :: r) pre.length err lo =
      .ok (pre.length + 1 + l.toNat, err, r.take l.toNat, pre.length + 1, true) := by
  unfold Translated.NameScanner_Scan
  have h1 : ¬ (pre ++ l :: r).length > 254 := by omega
  have h2 : ¬ ((pre.length : Nat) : Int) > (((pre ++ l :: r).length : Nat) : Int) - ((1 : Nat) : Int) := by
    simp
    omega
  have h0 : ¬ l.toNat = 0 := by omega
  have h63 : ¬ l.toNat > 63 := by omega
  have h3 : ¬ pre.length + 1 + l.toNat > (pre ++ l :: r).length := by simp; omega
  have hk : l.toNat ≤ r.length := by omega
  simp only [GoSem.len, h1, decide_false, Bool.false_eq_true, if_false, h2, index_mid, Res.bind_ok', Res.pure_eq, h0,
    h63, h3, slice_mid pre l r l.toNat hk]

/-- the model's table and the `map[string]uint16` of the prelude look a key up alike -/
theorem Table_find_eq (t : Table) (k : Bytes) : Table.find t k = GoSem.Map.find t k := by
  induction t with
  | nil => rfl
  | cons a t ih =>
    obtain ⟨k', v⟩ := a
    simp only [Table.find, GoSem.Map.find, ih]

/-- the accumulator of `packNameLoop` is a prefix of its result -/
theorem packNameLoop_acc : ∀ (fuel : Nat) (tbl : Option Table) (rest acc : Bytes),
    packNameLoop fuel tbl rest acc =
      (match packNameLoop fuel tbl rest [] with
       | .ok (bs, h) => .ok (acc ++ bs, h)
       | .err => .err
       | .panic => .panic) := by
  intro fuel
  induction fuel with
  | zero => intro tbl rest acc; cases rest <;> simp [packNameLoop]
  | succ f ih =>
    intro tbl rest acc
    cases rest with
    | nil => simp [packNameLoop]
    | cons l r =>
      simp only [packNameLoop]
      by_cases hb : l.toNat = 0 ∨ l.toNat > 63 ∨ r.length < l.toNat
      · simp only [hb, if_true]
      · simp only [hb, if_false]
        cases hf : tbl.bind (·.find (l :: r)) with
        | some ptr => simp
        | none =>
          simp only
          rw [ih tbl _ (acc ++ [l] ++ r.take l.toNat), ih tbl _ ([] ++ [l] ++ r.take l.toNat)]
          cases packNameLoop f tbl (r.drop l.toNat) [] with
          | ok x => obtain ⟨bs, h⟩ := x; simp
          | err => rfl
          | panic => rfl

theorem packNameLoop_ne_panic : ∀ (fuel : Nat) (tbl : Option Table) (rest acc : Bytes),
    packNameLoop fuel tbl rest acc ≠ .panic := by
  intro fuel
  induction fuel with
  | zero => intro tbl rest acc; cases rest <;> simp [packNameLoop]
  | succ f ih =>
    intro tbl rest acc
    cases rest with
    | nil => simp [packNameLoop]
    | cons l r =>
      simp only [packNameLoop]
      by_cases hb : l.toNat = 0 ∨ l.toNat > 63 ∨ r.length < l.toNat
      · simp [hb]
      · simp only [hb, if_false]
        cases hf : tbl.bind (·.find (l :: r)) with
        | some ptr => simp
        | none => exact ih _ _ _

/-- the labels are walked without a scanner error (what `packNameLoop` established when it ended without a hit) -/
def ValidL : Nat → Bytes → Prop
  | _, [] => True
  | 0, _ :: _ => False
  | f + 1, l :: r => ¬ (l.toNat = 0 ∨ l.toNat > 63 ∨ r.length < l.toNat) ∧ ValidL f (r.drop l.toNat)

/-- without a hit the loop wrote the name itself, and the name is walkable -/
theorem packNameLoop_nohit : ∀ (fuel : Nat) (tbl : Option Table) (rest bs : Bytes),
    packNameLoop fuel tbl rest [] = .ok (bs, false) → bs = rest ∧ ValidL fuel rest := by
  intro fuel
  induction fuel with
  | zero =>
    intro tbl rest bs h
    cases rest with
    | nil => simp [packNameLoop] at h; exact ⟨h, trivial⟩
    | cons l r => simp [packNameLoop] at h
  | succ f ih =>
    intro tbl rest bs h
    cases rest with
    | nil => simp [packNameLoop] at h; exact ⟨h, trivial⟩
    | cons l r =>
      simp only [packNameLoop] at h
      by_cases hb : l.toNat = 0 ∨ l.toNat > 63 ∨ r.length < l.toNat
      · simp [hb] at h
      · simp only [hb, if_false] at h
        cases hf : tbl.bind (·.find (l :: r)) with
        | some ptr => rw [hf] at h; simp at h
        | none =>
          rw [hf] at h
          simp only at h
          rw [packNameLoop_acc] at h
          cases hp : packNameLoop f tbl (r.drop l.toNat) [] with
          | ok x =>
            obtain ⟨bs', hit⟩ := x
            rw [hp] at h
            simp only [Res.ok.injEq, Prod.mk.injEq] at h
            obtain ⟨h1, h2⟩ := h
            subst h2
            obtain ⟨e, v⟩ := ih tbl _ _ hp
            subst e
            refine ⟨?_, hb, v⟩
            rw [← h1]
            simp
          | err => rw [hp] at h; simp at h
          | panic => rw [hp] at h; simp at h

/-- `int(^uint16(0) >> 2)`, the largest offset a compression pointer can hold, as the translation spells it -/
theorem ptrBound_eq : ((((65535 - (0 % 65536)) >>> 2 : Nat)) : Int) = 16383 := by decide

/-- ONE iteration of the insertion loop at the end of the name: the loop is left -/
theorem loop2_step_end (n : Bytes) (ns : Int) (hn : n.length ≤ 254) (lbl : Bytes) (lo : Nat) (c : GoSem.Map) :
    Translated.Name_pack_loop2_step ns n n (n.length, false, lbl, lo, c) = .ok (.inr (n.length, false, [], lo, c)) := by
  unfold Translated.Name_pack_loop2_step
  simp only [scan_end n false lo hn, Res.bind_ok', Res.pure_eq, Bool.not_false, if_true]

/-- ONE iteration of the insertion loop at a good label: the suffix that starts there is registered iff its offset
    fits 14 bits -/
theorem loop2_step_ok (pre : Bytes) (l : UInt8) (r : Bytes) (off0 : Nat) (hn : (pre ++ l :: r).length ≤ 254)
    (hb : ¬ (l.toNat = 0 ∨ l.toNat > 63 ∨ r.length < l.toNat)) (lbl : Bytes) (lo : Nat) (t : Table) :
    Translated.Name_pack_loop2_step ((off0 : Nat) : Int) (pre ++ l :: r) (pre ++ l :: r) (pre.length, false, lbl, lo, some t) =
      .ok (.inl (pre.length + 1 + l.toNat, false, r.take l.toNat, pre.length + 1,
        some (if off0 + pre.length ≤ ptrLimit then (l :: r, off0 + pre.length) :: t else t))) := by
  unfold Translated.Name_pack_loop2_step
  simp only [scan_ok pre l r false lo hn hb, Res.bind_ok', Res.pure_eq, Bool.not_true, Bool.false_eq_true,
    if_false, Translated.NameScanner_LabelOff, ptrBound_eq]
  by_cases hp : off0 + pre.length ≤ ptrLimit
  · have hc : ((off0 : Nat) : Int) + ((((pre.length + 1 : Nat)) : Int) - ((1 : Nat) : Int)) ≤ 16383 := by
      unfold ptrLimit at hp
      omega
    have hnat : GoSem.natOfInt ((((pre.length + 1 : Nat)) : Int) - ((1 : Nat) : Int)) = .ok pre.length :=
      natOfInt_sub (pre.length + 1) 1 (Nat.le_add_left ..)
    have hsl : GoSem.sliceFrom (pre ++ l :: r) pre.length = .ok (l :: r) := sliceFrom_window pre (l :: r)
    have hval : Int.toNat ((((off0 : Nat) : Int) + ((((pre.length + 1 : Nat)) : Int) - ((1 : Nat) : Int))) % 65536)
        = off0 + pre.length := by
      unfold ptrLimit at hp
      omega
    simp only [hc, decide_true, if_true, hnat, Res.bind_ok', hsl, GoSem.Map.insert, hval, hp]
  · have hc : ¬ ((off0 : Nat) : Int) + ((((pre.length + 1 : Nat)) : Int) - ((1 : Nat) : Int)) ≤ 16383 := by
      unfold ptrLimit at hp
      omega
    simp only [hc, decide_false, Bool.false_eq_true, if_false, hp]

/-- the insertion loop of `Name.pack`, started behind `pre` with the table `t`, registers exactly the suffixes the
    model registers (`registerSuffixes`), with the same 14-bit bound and the same offsets -/
theorem loop2_spec (n : Bytes) (off0 : Nat) (hn : n.length ≤ 254) :
    ∀ (fuel : Nat) (pre rest : Bytes) (t : Table) (lbl : Bytes) (lo : Nat), n = pre ++ rest → ValidL fuel rest →
      ∃ a b c d, GoSem.loop (Translated.Name_pack_loop2_step ((off0 : Nat) : Int) n n) (pre.length, false, lbl, lo, some t) =
        .ok (a, b, c, d, some (registerSuffixes fuel t (off0 + pre.length) rest)) := by
  intro fuel
  induction fuel with
  | zero =>
    intro pre rest t lbl lo hnr hv
    cases rest with
    | cons l r => exact absurd hv (by simp [ValidL])
    | nil =>
      simp only [List.append_nil] at hnr
      subst hnr
      rw [GoSem.loop_unfold, loop2_step_end n _ hn]
      exact ⟨_, _, _, _, rfl⟩
  | succ f ih =>
    intro pre rest t lbl lo hnr hv
    cases rest with
    | nil =>
      simp only [List.append_nil] at hnr
      subst hnr
      rw [GoSem.loop_unfold, loop2_step_end n _ hn]
      exact ⟨_, _, _, _, rfl⟩
    | cons l r =>
      obtain ⟨hb, hv'⟩ := hv
      subst hnr
      have hk : l.toNat ≤ r.length := by omega
      rw [GoSem.loop_unfold, loop2_step_ok pre l r off0 hn hb]
      have hpre' : (pre ++ l :: r.take l.toNat).length = pre.length + 1 + l.toNat := by
        simp [List.length_take, Nat.min_eq_left hk]
        omega
      have hsplit : pre ++ l :: r = (pre ++ l :: r.take l.toNat) ++ r.drop l.toNat := by simp
      obtain ⟨a, b, c, d, h⟩ := ih (pre ++ l :: r.take l.toNat) (r.drop l.toNat)
        (if off0 + pre.length ≤ ptrLimit then (l :: r, off0 + pre.length) :: t else t)
        (r.take l.toNat) (pre.length + 1) hsplit hv'
      rw [hpre'] at h
      refine ⟨a, b, c, d, ?_⟩
      simp only
      rw [h]
      simp only [registerSuffixes]
      have e : off0 + (pre.length + 1 + l.toNat) = off0 + pre.length + 1 + l.toNat := by omega
      rw [e]

/-- the first octet of a compression pointer, `byte(ptr>>8 | 0xC0)` -/
theorem ptr_hi (ptr : Nat) : ((ptr >>> 8) ||| 192) % 256 = Nat.lor (ptr / 256 % 256) 192 := by
  have h : (256 : Nat) = 2 ^ 8 := rfl
  rw [Nat.shiftRight_eq_div_pow, h, Nat.or_mod_two_pow]
  rfl

/-- what `Name.pack` does behind its scanning loop when the name was written in full: register the suffixes (if
    there is a map and the name is not the root), then the terminating zero octet -/
noncomputable def postG (n : Bytes) (tbl : GoSem.Map) (msg : Bytes) (off : Nat) : Res (Bytes × GoSem.Map × Nat) :=
  (if (!(GoSem.Map.isNil tbl) && decide (n.length > 0)) then
      GoSem.loop (Translated.Name_pack_loop2_step (((off : Nat) : Int) - ((n.length : Nat) : Int)) n n) (0, false, [], 0, tbl)
        >>= fun r => pure r.2.2.2.2
    else pure tbl) >>= fun tbl' =>
  Translated.packByte msg off 0 >>= fun w => pure (w.1, tbl', w.2)

/-- ONE iteration of the scanning loop at the end of the name -/
theorem step1_end (n msg0 : Bytes) (off0 : Nat) (tbl : GoSem.Map) (hn : n.length ≤ 254) (lbl : Bytes) (lo : Nat)
    (msg : Bytes) (off : Nat) :
    Translated.Name_pack_step n msg0 off0 tbl (n.length, false, lbl, lo, msg, off) =
      (postG n tbl msg off >>= fun r => .ok (.inr r)) := by
  unfold Translated.Name_pack_step postG
  simp only [Translated.NewNameScanner, scan_end n false lo hn, Res.bind_ok', Res.pure_eq, Bool.not_false, if_true,
    Translated.NameScanner_Err, Bool.false_eq_true, if_false, GoSem.len]
  split
  · simp only [Res.bind_assoc', Res.bind_ok']
  · simp only [Res.bind_assoc', Res.bind_ok']

/-- ONE iteration of the scanning loop at a bad label: the scanner's error -/
theorem step1_bad (pre : Bytes) (l : UInt8) (r msg0 : Bytes) (off0 : Nat) (tbl : GoSem.Map)
    (hn : (pre ++ l :: r).length ≤ 254) (hb : l.toNat = 0 ∨ l.toNat > 63 ∨ r.length < l.toNat) (lbl : Bytes) (lo : Nat)
    (msg : Bytes) (off : Nat) :
    Translated.Name_pack_step (pre ++ l :: r) msg0 off0 tbl (pre.length, false, lbl, lo, msg, off) = .err := by
  unfold Translated.Name_pack_step
  simp only [Translated.NewNameScanner, scan_bad pre l r false lo hn hb, Res.bind_ok', Res.pure_eq, Bool.not_false,
    if_true, Translated.NameScanner_Err, Res.bind_err']

/-- ONE iteration of the scanning loop on a name longer than 254 octets: `errNameTooLong` -/
theorem step1_long (n msg0 : Bytes) (off0 : Nat) (tbl : GoSem.Map) (hn : n.length > 254) (so : Nat) (lbl : Bytes)
    (lo : Nat) (msg : Bytes) (off : Nat) :
    Translated.Name_pack_step n msg0 off0 tbl (so, false, lbl, lo, msg, off) = .err := by
  unfold Translated.Name_pack_step
  simp only [Translated.NewNameScanner, scan_long n so false lo hn, Res.bind_ok', Res.pure_eq, Bool.not_false,
    if_true, Translated.NameScanner_Err, Res.bind_err']

/-- ONE iteration of the scanning loop at a good label: a pointer if the remaining suffix is in the table,
    otherwise the label -/
theorem step1_good (pre : Bytes) (l : UInt8) (r msg0 : Bytes) (off0 : Nat) (tbl : Option Table)
    (hn : (pre ++ l :: r).length ≤ 254) (hb : ¬ (l.toNat = 0 ∨ l.toNat > 63 ∨ r.length < l.toNat)) (lbl : Bytes)
    (lo : Nat) (msg : Bytes) (off : Nat) :
    Translated.Name_pack_step (pre ++ l :: r) msg0 off0 tbl (pre.length, false, lbl, lo, msg, off) =
      (match tbl.bind (·.find (l :: r)) with
       | some ptr =>
         writeAt msg off [UInt8.ofNat (Nat.lor (ptr / 256 % 256) 192), UInt8.ofNat (ptr % 256)] >>= fun w =>
           .ok (.inr (w.1, tbl, w.2))
       | none =>
         writeAt msg off ([l] ++ r.take l.toNat) >>= fun w =>
           .ok (.inl (pre.length + 1 + l.toNat, false, r.take l.toNat, pre.length + 1, w.1, w.2))) := by
  have hk : l.toNat ≤ r.length := by omega
  have hlen : (r.take l.toNat).length % 256 = l.toNat := by
    rw [List.length_take, Nat.min_eq_left hk]
    exact Nat.mod_eq_of_lt (UInt8.toNat_lt l)
  have hl : UInt8.ofNat l.toNat = l := by simp
  have hmiss : (Translated.packByte msg off ((r.take l.toNat).length % 256) >>= fun x =>
        Translated.packBytes x.1 x.2 (r.take l.toNat) >>= fun y =>
          (.ok (.inl (pre.length + 1 + l.toNat, false, r.take l.toNat, pre.length + 1, y.1, y.2)) :
            Res ((Nat × Bool × Bytes × Nat × Bytes × Nat) ⊕ (Bytes × GoSem.Map × Nat)))) =
      (writeAt msg off ([l] ++ r.take l.toNat) >>= fun w =>
        .ok (.inl (pre.length + 1 + l.toNat, false, r.take l.toNat, pre.length + 1, w.1, w.2))) := by
    simp only [← packByte_translated, ← packBytes_translated, writeAt_append, hlen, hl, Res.bind_assoc']
  unfold Translated.Name_pack_step
  simp only [Translated.NewNameScanner, scan_ok pre l r false lo hn hb, Res.bind_ok', Res.pure_eq, Bool.not_true,
    Bool.false_eq_true, if_false, Translated.NameScanner_Label, Translated.NameScanner_LabelOff, GoSem.len]
  cases tbl with
  | none =>
    simp only [GoSem.Map.isNil, Option.isNone_none, Bool.not_true, Bool.false_eq_true, if_false, Option.bind_none]
    exact hmiss
  | some t =>
    have hnat : GoSem.natOfInt ((((pre.length + 1 : Nat)) : Int) - ((1 : Nat) : Int)) = .ok pre.length :=
      natOfInt_sub (pre.length + 1) 1 (Nat.le_add_left ..)
    have hsl : GoSem.sliceFrom (pre ++ l :: r) pre.length = .ok (l :: r) := sliceFrom_window pre (l :: r)
    simp only [GoSem.Map.isNil, Option.isNone_some, Bool.not_false, if_true, hnat, Res.bind_ok', hsl,
      GoSem.Map.lookup, Option.bind_some, Table_find_eq]
    obtain ⟨x, hx⟩ : ∃ x, GoSem.Map.find t (l :: r) = x := ⟨_, rfl⟩
    simp only [hx]
    cases x with
    | none =>
      simp only [Bool.false_eq_true, if_false]
      exact hmiss
    | some ptr =>
      simp only [if_true, ptr_hi]
      rw [← packNamePtr_translated _ _ _ rfl]

/-- the outcome of the scanning loop in terms of the model's `packNameLoop`: its octets are written; after a hit
    the function returns, otherwise the part behind the loop runs -/
noncomputable def fin1 (n : Bytes) (tbl : GoSem.Map) (msg : Bytes) (off : Nat) (r : Res (Bytes × Bool)) :
    Res (Bytes × GoSem.Map × Nat) :=
  match r with
  | .ok (bs, hit) => writeAt msg off bs >>= fun w => if hit then .ok (w.1, tbl, w.2) else postG n tbl w.1 w.2
  | .err => .err
  | .panic => .panic

/-- The scanning loop, started behind `pre` with `rest` to go, writes what the model's `packNameLoop` produces for
    `rest` and ends as `fin1` says. `off ≤ msg.length` is what the empty write at the end of the name needs
    (`writeAt_nil`); `Name_pack_translated` treats an offset behind the buffer separately. -/
theorem loop1_spec (n msg0 : Bytes) (off0 : Nat) (tbl : Option Table) (hn : n.length ≤ 254) :
    ∀ (fuel : Nat) (pre rest lbl : Bytes) (lo : Nat) (msg : Bytes) (off : Nat), n = pre ++ rest → rest.length ≤ fuel →
      off ≤ msg.length →
      GoSem.loop (Translated.Name_pack_step n msg0 off0 tbl) (pre.length, false, lbl, lo, msg, off) =
        fin1 n tbl msg off (packNameLoop fuel tbl rest []) := by
  have hend : ∀ (fuel : Nat) (lbl : Bytes) (lo : Nat) (msg : Bytes) (off : Nat), off ≤ msg.length →
      GoSem.loop (Translated.Name_pack_step n msg0 off0 tbl) (n.length, false, lbl, lo, msg, off) =
        fin1 n tbl msg off (packNameLoop fuel tbl [] []) := by
    intro fuel lbl lo msg off hoff
    have e : packNameLoop fuel tbl [] [] = .ok ([], false) := by cases fuel <;> rfl
    rw [GoSem.loop_unfold, step1_end n msg0 off0 tbl hn, e]
    simp only [fin1, writeAt_nil msg off hoff, Res.bind_ok', Bool.false_eq_true, if_false]
    cases postG n tbl msg off <;> rfl
  intro fuel
  induction fuel with
  | zero =>
    intro pre rest lbl lo msg off hnr hl hoff
    cases rest with
    | cons l r => simp at hl
    | nil =>
      simp only [List.append_nil] at hnr
      subst hnr
      exact hend 0 lbl lo msg off hoff
  | succ f ih =>
    intro pre rest lbl lo msg off hnr hl hoff
    cases rest with
    | nil =>
      simp only [List.append_nil] at hnr
      subst hnr
      exact hend (f + 1) lbl lo msg off hoff
    | cons l r =>
      subst hnr
      by_cases hb : l.toNat = 0 ∨ l.toNat > 63 ∨ r.length < l.toNat
      · rw [GoSem.loop_unfold, step1_bad pre l r msg0 off0 tbl hn hb]
        simp only [packNameLoop, hb, if_true, fin1]
      · have hk : l.toNat ≤ r.length := by omega
        rw [GoSem.loop_unfold, step1_good pre l r msg0 off0 tbl hn hb]
        simp only [packNameLoop, hb, if_false]
        cases hf : tbl.bind (·.find (l :: r)) with
        | some ptr =>
          simp only [fin1, List.nil_append, if_true]
          cases writeAt msg off [UInt8.ofNat (Nat.lor (ptr / 256 % 256) 192), UInt8.ofNat (ptr % 256)] <;> rfl
        | none =>
          simp only
          rw [packNameLoop_acc]
          have hpre' : (pre ++ l :: r.take l.toNat).length = pre.length + 1 + l.toNat := by
            simp [List.length_take, Nat.min_eq_left hk]
            omega
          have hsplit : pre ++ l :: r = (pre ++ l :: r.take l.toNat) ++ r.drop l.toNat := by simp
          have hl' : (r.drop l.toNat).length ≤ f := by simp at hl ⊢; omega
          cases hw : writeAt msg off ([l] ++ r.take l.toNat) with
          | panic => exact absurd hw (writeAt_ne_panic _ _ _)
          | err =>
            simp only [Res.bind_err']
            cases hp : packNameLoop f tbl (r.drop l.toNat) [] with
            | panic => exact absurd hp (packNameLoop_ne_panic _ _ _ _)
            | err => rfl
            | ok x =>
              obtain ⟨bs', hit⟩ := x
              simp only [fin1, List.nil_append, writeAt_append, hw, Res.bind_err']
          | ok w =>
            obtain ⟨m', o'⟩ := w
            obtain ⟨hlen, ho, _⟩ := writeAt_ok_length _ _ _ _ _ hw
            simp only [Res.bind_ok']
            have hih := ih (pre ++ l :: r.take l.toNat) (r.drop l.toNat) (r.take l.toNat) (pre.length + 1) m' o' hsplit hl'
              (by omega)
            rw [hpre'] at hih
            rw [hih]
            cases hp : packNameLoop f tbl (r.drop l.toNat) [] with
            | panic => rfl
            | err => rfl
            | ok x =>
              obtain ⟨bs', hit⟩ := x
              simp only [fin1, List.nil_append, writeAt_append, hw, Res.bind_ok']

/-- behind the end of the buffer nothing fits -/
theorem writeAt_err_of_gt (b : Bytes) (off : Nat) (bs : Bytes) (h : off > b.length) : writeAt b off bs = .err := by
  unfold writeAt
  have : ¬ off + bs.length ≤ b.length := by omega
  simp only [this, if_false]

/-- the state before the first iteration -/
theorem Name_pack_init_eq (n msg : Bytes) (off : Nat) (tbl : GoSem.Map) :
    Translated.Name_pack_init n msg off tbl = .ok (0, false, [], 0, msg, off) := by
  unfold Translated.Name_pack_init
  simp only [Translated.NewNameScanner, Res.bind_ok', Res.pure_eq]

/-- the part of `Name.pack` behind the scanning loop, for a name that was written in full at `off`: the model's
    `registerSuffixes` and the terminator -/
theorem postG_spec (n : Bytes) (off : Nat) (tbl : Option Table) (hn : n.length ≤ 254) (hv : ValidL n.length n)
    (m : Bytes) :
    postG n tbl m (off + n.length) =
      (writeAt m (off + n.length) [0] >>= fun w =>
        .ok (w.1, (match tbl with | some t => some (registerSuffixes n.length t off n) | none => none), w.2)) := by
  unfold postG
  rw [← packByte_translated]
  cases tbl with
  | none =>
    simp only [GoSem.Map.isNil, Option.isNone_none, Bool.not_true, Bool.false_and, Bool.false_eq_true, if_false,
      Res.pure_eq, Res.bind_ok']
    rfl
  | some t =>
    by_cases h0 : n.length > 0
    · have e : (((off + n.length : Nat)) : Int) - ((n.length : Nat) : Int) = ((off : Nat) : Int) := by omega
      obtain ⟨a, b, c, d, h⟩ := loop2_spec n off hn n.length [] n t [] 0 rfl hv
      simp only [List.length_nil, Nat.add_zero] at h
      simp only [GoSem.Map.isNil, Option.isNone_some, Bool.not_false, Bool.true_and, h0, decide_true, if_true, e, h,
        Res.bind_ok', Res.pure_eq]
      rfl
    · have hz : n = [] := by
        cases n with
        | nil => rfl
        | cons a b => simp at h0
      subst hz
      simp only [GoSem.Map.isNil, Option.isNone_some, Bool.not_false, Bool.true_and, List.length_nil, Nat.lt_irrefl,
        decide_false, Bool.false_eq_true, if_false, Res.pure_eq, Res.bind_ok', registerSuffixes]
      rfl

theorem packName_ne_panic (off : Nat) (tbl : Option Table) (n : Name) : packName off tbl n ≠ .panic := by
  unfold packName
  split
  · simp
  · cases hp : packNameLoop n.length tbl n [] with
    | panic => exact absurd hp (packNameLoop_ne_panic _ _ _ _)
    | err => simp
    | ok x => obtain ⟨bs, hit⟩ := x; cases hit <;> simp

/-- ★ `Name.pack`: the model's `packName` (scanner errors, table lookup of every remaining suffix, pointer on a hit,
    registration of the suffixes below the 14-bit bound, terminator), written into the buffer, IS the function
    regenerated from the Go source — for all names, buffers, offsets and compression maps (nil or not). -/
theorem Name_pack_translated : NamePackTied := by
  intro n msg off tbl
  unfold packNameBuf Translated.Name_pack
  rw [Name_pack_init_eq]
  simp only [Res.bind_ok']
  by_cases hlong : n.length > 254
  · rw [GoSem.loop_unfold, step1_long n msg off tbl hlong]
    simp only [packName, hlong, if_true, writeRes]
  · have hn : n.length ≤ 254 := by omega
    by_cases hoff : off ≤ msg.length
    · unfold packName
      simp only [hlong, if_false]
      have h1 := loop1_spec n msg off tbl hn n.length [] n [] 0 msg off rfl (Nat.le_refl _) hoff
      simp only [List.length_nil] at h1
      rw [h1]
      cases hp : packNameLoop n.length tbl n [] with
      | err => rfl
      | panic => rfl
      | ok x =>
        obtain ⟨bs, hit⟩ := x
        cases hit with
        | true =>
          simp only [fin1, if_true, writeRes_ok]
        | false =>
          obtain ⟨e, hv⟩ := packNameLoop_nohit _ _ _ _ hp
          subst e
          simp only [fin1, Bool.false_eq_true, if_false, writeRes_ok, writeAt_append, Res.bind_assoc']
          cases hw : writeAt msg off bs with
          | err => rfl
          | panic => rfl
          | ok w =>
            obtain ⟨m', o'⟩ := w
            obtain ⟨_, ho, _⟩ := writeAt_ok_length _ _ _ _ _ hw
            subst ho
            simp only [Res.bind_ok']
            rw [postG_spec bs off tbl hn hv m']
            cases tbl <;> rfl
    · -- behind the end of the buffer nothing fits: ErrSmallBuffer (or the scanner's error) on both sides
      have hgt : off > msg.length := by omega
      have hmodel : writeRes msg off (packName off tbl n) = .err := by
        cases hx : packName off tbl n with
        | panic => exact absurd hx (packName_ne_panic _ _ _)
        | err => rfl
        | ok y => simp only [writeRes, writeAt_err_of_gt _ _ _ hgt]
      rw [hmodel, GoSem.loop_unfold]
      cases n with
      | nil =>
        rw [show (0 : Nat) = ([] : Bytes).length from rfl, step1_end [] msg off tbl hn]
        unfold postG
        rw [← packByte_translated, writeAt_err_of_gt _ _ _ hgt]
        simp only [List.length_nil, Nat.lt_irrefl, decide_false, Bool.and_false, Bool.false_eq_true, if_false,
          Res.pure_eq, Res.bind_ok', Res.bind_err']
      | cons l r =>
        by_cases hb : l.toNat = 0 ∨ l.toNat > 63 ∨ r.length < l.toNat
        · have := step1_bad [] l r msg off tbl hn hb [] 0 msg off
          simp only [List.nil_append, List.length_nil] at this
          rw [this]
        · have := step1_good [] l r msg off tbl hn hb [] 0 msg off
          simp only [List.nil_append, List.length_nil] at this
          rw [this]
          cases tbl.bind (·.find (l :: r)) <;> simp only [writeAt_err_of_gt _ _ _ hgt, Res.bind_err']

end MosVerif.Wire
