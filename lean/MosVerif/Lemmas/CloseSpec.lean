/-
  C18 — the close-protocol model meets the executable specification that judges the implementation
  (`Close.spec`), for every kind, mode and script.
-/
import MosVerif.Lemmas.CloseHistory
namespace MosVerif.Close

theorem all_insertSorted (p : Nat × String → Bool) (a : Nat × String) (l : List (Nat × String)) :
    (insertSorted a l).all p = (p a && l.all p) := by
  induction l with
  | nil => simp [insertSorted]
  | cons q rest ih =>
    simp only [insertSorted]
    split
    · simp
    · simp only [List.all_cons, ih]
      cases p a <;> cases p q <;> simp

theorem all_sortRes (p : Nat × String → Bool) (l : List (Nat × String)) :
    (sortRes l).all p = l.all p := by
  induction l with
  | nil => rfl
  | cons a rest ih =>
    simp only [sortRes, List.foldr_cons, List.all_cons] at ih ⊢
    rw [all_insertSorted, ih]

theorem str_pend (r : Option Res) : (strOfRes r != "pend") = true ↔ r ≠ none := by
  cases r with
  | none => simp [strOfRes]
  | some v => cases v <;> simp [strOfRes] <;> decide

theorem str_err (r : Option Res) (h : r = some .err) : (strOfRes r == "err") = true := by
  subst h; decide

theorem str_ok (r : Option Res) (h : r ≠ some .ok) : (strOfRes r != "ok") = true := by
  cases r with
  | none => decide
  | some v => cases v <;> first | exact absurd rfl h | decide

/-- a script is run by the operations the harness makes of it, followed by dials that return -/
theorem runScript_run (k : Kind) (auto : Bool) (ops0 : List Op) :
    ∃ tail, (∀ op ∈ tail, ∃ d, op = Op.dialOk d) ∧
      runScript k auto ops0 = run (init k) ((fullOps auto ops0).flatMap (expand auto) ++ tail) := by
  obtain ⟨tail, htail, he⟩ := epilogue_run (run (init k) ((fullOps auto ops0).flatMap (expand auto)))
  exact ⟨tail, htail, by rw [run_append]; exact he⟩

/-- a caller only gets the error of its context when the script cancels it -/
theorem runScript_ctx (k : Kind) (auto : Bool) (ops0 : List Op) :
    ∀ x ∈ (runScript k auto ops0).exs, x.res = some .ctx → Op.cancel x.id ∈ ops0 := by
  intro x hx hr
  obtain ⟨tail, htail, he⟩ := runScript_run k auto ops0
  rcases List.mem_append.mp ((reach_origin k _ x (he ▸ hx)).2.2 hr) with h | h
  · have := expand_passes auto _ _ (fun _ _ => Op.noConfusion) (fun _ => Op.noConfusion) h
    unfold fullOps at this
    split at this
    · exact (List.mem_append.mp this).elim id fun h => nomatch List.mem_singleton.mp h
    · exact this
  · obtain ⟨d, hd⟩ := htail _ h
    cases hd

theorem runScript_exists (k : Kind) (ops0 : List Op) (e : Nat) (b : Bool) (h : Op.start e b ∈ ops0) :
    ∃ x ∈ (runScript k true ops0).exs, x.id = e := by
  obtain ⟨tail, _, he⟩ := runScript_run k true ops0
  rw [he]
  exact run_exists _ _ e false (List.mem_append_left _
    (List.mem_flatMap.mpr ⟨.start e b, List.mem_append_left _ h, List.mem_cons_self⟩))

/-- The final state of a script that contains a Close, decomposed at the first Close: every exchange has
    returned and no connection is open; an exchange whose id was not started before the Close has an error;
    a success stems from a reply before the Close; and without a dialer that ignores its context nobody was
    blocked when the first Close had returned. -/
theorem script_facts (k : Kind) (auto : Bool) (ops0 : List Op)
    (hcl : (fullOps auto ops0).contains .close = true) :
    let before := (fullOps auto ops0).takeWhile (· != .close)
    let s := runScript k auto ops0
    (∀ x ∈ s.exs, x.res ≠ none) ∧
    s.conns.filter (·.isOpen) = [] ∧
    (∀ x ∈ s.exs, x.id ∈ before.filterMap startId ∨ x.res = some .err) ∧
    (∀ x ∈ s.exs, x.res = some .ok → Op.reply x.id ∈ before) ∧
    ((fullOps auto ops0).any isStubStart = false → s.atClose.getD [] = []) := by
  generalize hops : fullOps auto ops0 = ops at hcl ⊢
  obtain ⟨rest, hsplit⟩ := split_close ops hcl
  intro before s
  -- `sc`: right after the first Close; `sr`: at the end of the script; then the epilogue runs in a closed state
  let sc := run (init k) ((before ++ [Op.close]).flatMap (expand auto))
  let sr := run sc (rest.flatMap (expand auto))
  have hcc : sc.closed = true := by
    show (run (init k) ((before ++ [Op.close]).flatMap (expand auto))).closed = true
    rw [List.flatMap_append, run_append]
    exact closeOp_closed _
  have hcr : sr.closed = true := closed_run sc _ hcc
  have hsr : run (init k) (ops.flatMap (expand auto)) = sr := by
    conv => lhs; rw [hsplit, List.append_cons, List.flatMap_append, run_append]
  have hset : s = epilogue sr := by
    show runScript k auto ops0 = _
    rw [runScript, hops, hsr]
  obtain ⟨tail, htail, hrun⟩ := runScript_run k auto ops0
  rw [hops] at hrun
  have hfinal : s = run sc (rest.flatMap (expand auto) ++ tail) := by
    show runScript k auto ops0 = _
    rw [hrun, run_append, hsr, run_append]
  obtain ⟨_, _, hopen, hnone⟩ := epilogue_settled sr (inv_run sc _ (reach_inv k _)) hcr
  rw [← hset] at hopen hnone
  have hres := run_closed_res sc (rest.flatMap (expand auto) ++ tail) (reach_inv k _) hcc
  rw [← hfinal] at hres
  refine ⟨hnone, List.filter_eq_nil_iff.mpr fun c hc => ?_, fun x hx => ?_, fun x hx hok => ?_, fun hns => ?_⟩
  · rw [hopen c hc]
    exact Bool.false_ne_true
  · refine (hres x hx).imp_left fun ⟨y, hy, hid, _⟩ => ?_
    rw [← hid, ← expand_noclose_ids auto before]
    exact (reach_origin k _ y hy).1
  · rcases hres x hx with ⟨y, hy, hid, hy'⟩ | he
    · have := expand_passes auto _ _ (fun _ _ => Op.noConfusion) (fun _ => Op.noConfusion)
        ((reach_origin k _ y hy).2.1 (hy' hok))
      rw [hid] at this
      exact (List.mem_append.mp this).elim id fun h => nomatch List.mem_singleton.mp h
    · exact nomatch he.symm.trans hok
  · show (runScript k auto ops0).atClose.getD [] = []
    rw [hrun]
    refine (run_nostub _ _ (fun op hop => ?_) (inv_init k) ⟨(fun _ h => nomatch (h : _ ∈ [])), rfl⟩).atc
    rcases List.mem_append.mp hop with h | h
    · exact expand_nostub auto ops hns op h
    · obtain ⟨d, rfl⟩ := htail op h
      rfl

theorem model_meets_spec (k : Kind) (auto : Bool) (ops0 : List Op) :
    spec auto ops0
      (obsOf ((fullOps auto ops0).filter (· == .close)).length (runScript k auto ops0)) = true := by
  by_cases hcl : (fullOps auto ops0).contains .close = true
  · obtain ⟨hnone, hopen, hnew, hokf, hatc⟩ := script_facts k auto ops0 hcl
    unfold spec
    simp only [hcl, Bool.not_true, Bool.false_eq_true, if_false, obsOf, beq_self_eq_true, Bool.true_and,
      all_sortRes, List.all_map, Function.comp_def, hopen, List.length_nil, Bool.and_eq_true, List.all_eq_true,
      Bool.or_eq_true]
    -- the clauses of `spec`, in its order
    refine ⟨⟨⟨⟨?pend, ?afterClose⟩, ?inFlight⟩, ?openConns⟩, ?atClose⟩
    case pend =>
      exact fun x hx => (str_pend x.res).mpr (hnone x hx)
    case afterClose =>
      -- an id that was not started before the Close belongs to exchanges that failed
      refine fun e _ => Decidable.or_iff_not_imp_left.mpr fun hb x hx => ?_
      by_cases hid : x.id = e
      · have hne : x.id ∉ List.filterMap startId
            (List.takeWhile (fun x => x != Op.close) (fullOps auto ops0)) := by simpa [hid] using hb
        simp [str_err x.res ((hnew x hx).resolve_left hne)]
      · simp [hid]
    case inFlight =>
      -- an exchange without a reply before the Close has not succeeded
      refine fun e _ => Decidable.or_iff_not_imp_left.mpr fun hb x hx => ?_
      by_cases hid : x.id = e
      · exact Or.inr (str_ok _ fun hr => hb (by simpa [hid] using hokf x hx hr))
      · simp [hid]
    case openConns => trivial
    case atClose =>
      refine Decidable.or_iff_not_imp_left.mpr fun hs => ?_
      have hnil := hatc (by simpa using hs)
      simp [hnil, sortNat, sortRes]
  · have hcl' : (fullOps auto ops0).contains Op.close = false := by simpa using hcl
    unfold spec
    simp only [hcl', Bool.not_false, if_true, obsOf]
    simp

end MosVerif.Close
