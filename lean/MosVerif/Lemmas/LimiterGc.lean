/-
  C15: garbage collection of full idle buckets is unobservable.  A verdict depends on a bucket
  only through what it holds at the time of the arrival, and a bucket that gc may drop is full,
  as a new one is: the collected limiter and the uncollected one stay in simulation.
  Rests on `LimiterTable`.
-/
import MosVerif.Lemmas.LimiterTable
namespace MosVerif.Limiter

/-- from `τ` on the two buckets hold the same -/
def Bucket.Sim (L B : Nat) (b1 b2 : Bucket) (τ : Nat) : Prop :=
  ∀ t, τ ≤ t → b1.avail L B t = b2.avail L B t

theorem Bucket.Sim.mono {L B : Nat} {b1 b2 : Bucket} {τ τ' : Nat} (h : Bucket.Sim L B b1 b2 τ) (hτ : τ ≤ τ') :
    Bucket.Sim L B b1 b2 τ' :=
  fun t ht => h t (Nat.le_trans hτ ht)

theorem Bucket.Sim.allowN {L B : Nat} {b1 b2 : Bucket} {τ t : Nat} (h : Bucket.Sim L B b1 b2 τ) (ht : τ ≤ t) (n : Nat) :
    (b1.allowN L B t n).1 = (b2.allowN L B t n).1 ∧
    Bucket.Sim L B (b1.allowN L B t n).2 (b2.allowN L B t n).2 t := by
  have hc := Bucket.allowN_congr L B b1 b2 t n (h t ht)
  refine ⟨hc.1, fun t' ht' => ?_⟩
  cases hd : (b1.allowN L B t n).1 with
  | true => rw [hc.2 hd]
  | false =>
    rw [(Bucket.allowN_false hd).2, (Bucket.allowN_false (hc.1 ▸ hd)).2]
    exact h t' (Nat.le_trans ht ht')

/-- a bucket that is full at `now` can be replaced by a new one -/
theorem Bucket.Sim.fresh {L B : Nat} {b1 b2 : Bucket} {τ now : Nat} (h : Bucket.Sim L B b1 b2 τ) (hτ : τ ≤ now)
    (hs : B * nano ≤ L * maxDuration) (hfull : ((B * nano : Nat) : Int) ≤ b1.avail L B now) :
    Bucket.Sim L B Bucket.fresh b2 now := by
  intro t ht
  rw [Bucket.avail_fresh_full _ _ _ hs, ← h t (Nat.le_trans hτ ht)]
  exact Int.le_antisymm (Int.le_trans hfull (Bucket.avail_mono L B b1 ht)) (Bucket.avail_le_cap L B b1 t)

/-- the simulation between a limiter that is garbage collected (`c1`) and one that is not (`c2`) -/
def GcSim (c1 c2 : ClientLimiter) (τ : Nat) : Prop :=
  c1.opts = c2.opts ∧ ∀ k, Bucket.Sim c1.limit c1.burst (c1.bucketOf k) (c2.bucketOf k) τ

theorem GcSim.refl (c : ClientLimiter) (τ : Nat) : GcSim c c τ :=
  ⟨rfl, fun _ _ _ => rfl⟩

theorem gcSim_allow {c1 c2 : ClientLimiter} {τ : Nat} (h : GcSim c1 c2 τ) (e : Ev) (hte : τ ≤ e.t) :
    (c1.allowNAt e.addr e.t e.n).1 = (c2.allowNAt e.addr e.t e.n).1 ∧
    GcSim (c1.allowNAt e.addr e.t e.n).2 (c2.allowNAt e.addr e.t e.n).2 e.t := by
  obtain ⟨ho, hb⟩ := h
  have hk := (hb (mask c1.opts e.addr)).allowN hte e.n
  have h2 := c2.bucketOf_allowNAt_same e.addr e.t e.n
  rw [← ho, ← ClientLimiter.limit_congr ho, ← ClientLimiter.burst_congr ho] at h2
  refine ⟨?_, ho, fun k => ?_⟩
  · rw [c1.allowNAt_fst, c2.allowNAt_fst, ← ho, ← ClientLimiter.limit_congr ho, ← ClientLimiter.burst_congr ho]
    exact hk.1
  · by_cases hkk : mask c1.opts e.addr = k
    · subst hkk
      rw [c1.bucketOf_allowNAt_same, h2]
      exact hk.2
    · rw [c1.bucketOf_allowNAt_other _ _ _ _ hkk, c2.bucketOf_allowNAt_other _ _ _ _ (ho ▸ hkk)]
      exact (hb k).mono hte

theorem gcSim_gc {c1 c2 : ClientLimiter} {τ : Nat} (h : GcSim c1 c2 τ) (now : Nat) (only : Option Addr) (hte : τ ≤ now)
    (hs : c1.burst * nano ≤ c1.limit * maxDuration) :
    GcSim (c1.gcWith true now only) c2 now := by
  refine ⟨h.1, fun k => ?_⟩
  rcases c1.bucketOf_gcWith true now only k with h1 | ⟨h1, h2⟩
  · rw [h1]; exact (h.2 k).mono hte
  · rw [h1]; exact (h.2 k).fresh hte hs (h2 rfl)

/-- **gc is unobservable**: with the fullness requirement the verdicts of a time-ordered
    history do not depend on the gc passes in it. -/
theorem gc_transparent_gen :
    ∀ (os : List Op) (c1 c2 : ClientLimiter) (τ : Nat), GcSim c1 c2 τ → sortedFrom τ os →
      c1.burst * nano ≤ c1.limit * maxDuration →
      c1.runOpsAtWith true os = c2.runAt (Op.evs os) := by
  intro os
  induction os with
  | nil => intro _ _ _ _ _ _; rfl
  | cons o os ih =>
    intro c1 c2 τ hsim hsort hs
    cases o with
    | gc now only => exact ih _ _ now (gcSim_gc hsim now only hsort.1 hs) hsort.2 hs
    | allow e =>
      have h := gcSim_allow hsim e hsort.1
      simp only [ClientLimiter.runOpsAtWith, Op.evs, ClientLimiter.runAt]
      rw [h.1, ih _ _ e.t h.2 hsort.2 hs]

end MosVerif.Limiter
