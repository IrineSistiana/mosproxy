/-
  Tie by translation (C11): the integer / boolean logic of `internal/domain_matcher` (`sub_domain.go`, `mix.go`,
  `loader_helper.go`) and of the name helpers of `internal/dnsmsg` (`name.go`: `NameScanner.Scan`,
  `NameBuilder.AppendLabel` / `ParseReadable`, `ToReadable`, `appendEscapedLabel`; `utils.go`: `asciiToLower`,
  `isPrintableLabelChar`) is translated mechanically from the current Go source (`Generated/Translated.lean`,
  fragments `c11_…` of `extract/translate.d/C11.json`).  Each theorem below shows, for ALL arguments, that a
  definition of the model (`Model/Text.lean`, `Model/Trie.lean`) IS the function that branches on / computes
  exactly the translated fragment.  A changed bound, a flipped comparison or a dropped conjunct in the Go
  source changes the translated definition and breaks the corresponding equation; a harmless rewrite
  (`24 > l`, `l <= 23`, swapped conjuncts, a renamed local) does not.

  Offsets: the model's loops run over the remaining suffix `s[off:]`; the equations are stated for EVERY offset
  `off` with `len(s) = off + rest.length`.
-/
import MosVerif.Generated.Translated
import MosVerif.Lemmas.TranslatedTactics
import MosVerif.Model.Trie
namespace MosVerif.Trie
open MosVerif MosVerif.Text

/-! ### what each translated fragment computes (robust against harmless rewrites of the Go source) -/
theorem c11_add_rootCond_eq (r : Bool) : Translated.c11_add_rootCond r = r := by
  cases r <;> rfl

theorem c11_add_loopCond_eq (i : Int) : Translated.c11_add_loopCond i = decide (0 ≤ i) := by
  unfold Translated.c11_add_loopCond
  bool_arith

theorem c11_add_skipCond_eq (n : Nat) : Translated.c11_add_skipCond n = decide (n = 0) := by
  unfold Translated.c11_add_skipCond
  bool_arith

theorem c11_add_leafCond_eq (i : Int) : Translated.c11_add_leafCond i = decide (i = 0) := by
  unfold Translated.c11_add_leafCond
  bool_arith

theorem c11_add_noLabelCond_eq (b : Bool) : Translated.c11_add_noLabelCond b = !b := by
  cases b <;> rfl

theorem c11_match_loopCond_eq (i : Int) : Translated.c11_match_loopCond i = decide (0 ≤ i) := by
  unfold Translated.c11_match_loopCond
  bool_arith

theorem c11_mix_sepCond_eq (i : Int) : Translated.c11_mix_sepCond i = decide (0 ≤ i) := by
  unfold Translated.c11_mix_sepCond
  bool_arith

theorem c11_loader_commentCond_eq (i : Int) : Translated.c11_loader_commentCond i = decide (0 ≤ i) := by
  unfold Translated.c11_loader_commentCond
  bool_arith

theorem c11_loader_blankCond_eq (n : Nat) : Translated.c11_loader_blankCond n = decide (n = 0) := by
  unfold Translated.c11_loader_blankCond
  bool_arith

theorem c11_lowerCond_eq (c : Nat) : Translated.c11_lowerCond c = decide (65 ≤ c ∧ c ≤ 90) := by
  unfold Translated.c11_lowerCond
  bool_arith

theorem c11_lowerBody_eq (c s_i : Nat) : Translated.c11_lowerBody c s_i = c + 32 := by
  unfold Translated.c11_lowerBody
  tr_val

theorem c11_escape_bs_eq (b : Nat) : Translated.c11_escape_bs b = 92 := by
  unfold Translated.c11_escape_bs
  omega

theorem c11_escape_d2_eq (b : Nat) : Translated.c11_escape_d2 b = 48 + b / 100 := by
  unfold Translated.c11_escape_d2
  omega

theorem c11_escape_d1_eq (b : Nat) : Translated.c11_escape_d1 b = 48 + b / 10 % 10 := by
  unfold Translated.c11_escape_d1
  omega

theorem c11_escape_d0_eq (b : Nat) : Translated.c11_escape_d0 b = 48 + b % 10 := by
  unfold Translated.c11_escape_d0
  omega

theorem c11_readable_rootCond_eq (n : Nat) : Translated.c11_readable_rootCond n = decide (n = 0) := by
  unfold Translated.c11_readable_rootCond
  bool_arith

theorem c11_append_zeroCond_eq (l : Nat) : Translated.c11_append_zeroCond l = decide (l = 0) := by
  unfold Translated.c11_append_zeroCond
  bool_arith

theorem c11_append_longCond_eq (l : Nat) : Translated.c11_append_longCond l = decide (l > 63) := by
  unfold Translated.c11_append_longCond
  bool_arith

theorem c11_append_labelEnd_eq (l b_l : Nat) : Translated.c11_append_labelEnd l b_l = b_l + 1 + l := by
  unfold Translated.c11_append_labelEnd
  tr_val

theorem c11_append_endCond_eq (e : Nat) : Translated.c11_append_endCond e = decide (e > 253) := by
  unfold Translated.c11_append_endCond
  bool_arith

theorem c11_parse_trailCond_eq (n last : Nat) :
    Translated.c11_parse_trailCond n last = decide (n > 0 ∧ last = 46) := by
  unfold Translated.c11_parse_trailCond
  bool_arith

theorem c11_parse_rootCond_eq (n : Nat) : Translated.c11_parse_rootCond n = decide (n = 0) := by
  unfold Translated.c11_parse_rootCond
  bool_arith

theorem c11_parse_loopCond_eq (off n : Nat) : Translated.c11_parse_loopCond off n = decide (off < n) := by
  unfold Translated.c11_parse_loopCond
  bool_arith

theorem c11_parse_idxCond_eq (i : Int) : Translated.c11_parse_idxCond i = decide (i > 0) := by
  unfold Translated.c11_parse_idxCond
  bool_arith

theorem c11_parse_advance_eq (off n : Nat) : Translated.c11_parse_advance off n = off + n + 1 := by
  unfold Translated.c11_parse_advance
  tr_val

theorem c11_scan_tooLongCond_eq (n : Nat) : Translated.c11_scan_tooLongCond n = decide (n > 254) := by
  unfold Translated.c11_scan_tooLongCond
  bool_arith

theorem c11_scan_doneCond_eq (off n : Int) : Translated.c11_scan_doneCond off n = decide (off ≥ n) := by
  unfold Translated.c11_scan_doneCond
  bool_arith

theorem c11_scan_zeroCond_eq (n : Nat) : Translated.c11_scan_zeroCond n = decide (n = 0) := by
  unfold Translated.c11_scan_zeroCond
  bool_arith

theorem c11_scan_longCond_eq (n : Nat) : Translated.c11_scan_longCond n = decide (n > 63) := by
  unfold Translated.c11_scan_longCond
  bool_arith

theorem c11_scan_labelEnd_eq (off n : Nat) : Translated.c11_scan_labelEnd off n = off + 1 + n := by
  unfold Translated.c11_scan_labelEnd
  tr_val

theorem c11_scan_endCond_eq (e n : Nat) : Translated.c11_scan_endCond e n = decide (e > n) := by
  unfold Translated.c11_scan_endCond
  bool_arith

/-! ### utils.go -/

/-- `isPrintableLabelChar` is the translated function body. -/
theorem isPrintableLabelChar_translated (b : UInt8) :
    isPrintableLabelChar b = Translated.c11_isPrintable b.toNat := by
  unfold isPrintableLabelChar Translated.c11_isPrintable
  rw [Bool.eq_iff_iff]
  simp only [Id.run, pure, Bool.or_eq_true, Bool.and_eq_true, decide_eq_true_eq, beq_iff_eq,
    UInt8.le_iff_toNat_le, ← UInt8.toNat_inj, UInt8.toNat_ofNat] <;> omega

/-- one octet of `asciiToLower`: the translated test, then the translated body (`c += 'a' - 'A'; s[i] = c`);
    `s[i]` is `c` before the step (`for i, c := range s`). -/
theorem lowerByte_translated (c : UInt8) :
    lowerByte c =
      if Translated.c11_lowerCond c.toNat then UInt8.ofNat (Translated.c11_lowerBody c.toNat c.toNat) else c := by
  rw [c11_lowerCond_eq, c11_lowerBody_eq]
  unfold lowerByte
  simp only [UInt8.le_iff_toNat_le, decide_eq_true_eq]
  rfl

/-! ### ToReadable -/

/-- the `\DDD` escape appends the four translated arguments of `append(dst, '\\', '0'+b/100, '0'+b/10%10, '0'+b%10)`. -/
theorem escapeByte_translated (b : UInt8) :
    escapeByte b =
      if Translated.c11_isPrintable b.toNat then [b]
      else if b = 46 then [92, 46]
      else if b = 92 then [92, 92]
      else [UInt8.ofNat (Translated.c11_escape_bs b.toNat), UInt8.ofNat (Translated.c11_escape_d2 b.toNat),
        UInt8.ofNat (Translated.c11_escape_d1 b.toNat), UInt8.ofNat (Translated.c11_escape_d0 b.toNat)] := by
  unfold escapeByte
  rw [isPrintableLabelChar_translated, c11_escape_bs_eq, c11_escape_d2_eq, c11_escape_d1_eq,
    c11_escape_d0_eq]
  -- `UInt8.ofNat` of the ℕ expression and the model's `uint8` expression are the same number mod 256
  rfl

/-- `ToReadable`: the root test `len(n) == 0`. -/
theorem toReadable_translated (n : Bytes) :
    toReadable n =
      if Translated.c11_readable_rootCond n.length then some [46] else (scan n).map (readableLoop false []) := by
  rw [c11_readable_rootCond_eq]
  unfold toReadable
  simp

/-! ### NameBuilder -/

/-- `AppendLabel`: the three translated tests, on the translated `labelEnd`. -/
theorem appendLabel_translated (b : Builder) (s : Bytes) :
    b.appendLabel s =
      if Translated.c11_append_zeroCond s.length then none
      else if Translated.c11_append_longCond s.length then none
      else if Translated.c11_append_endCond (Translated.c11_append_labelEnd s.length b.data.length) then none
      else some ⟨b.data ++ UInt8.ofNat s.length :: s⟩ := by
  rw [c11_append_zeroCond_eq, c11_append_longCond_eq, c11_append_endCond_eq, c11_append_labelEnd_eq]
  unfold Builder.appendLabel
  simp [labelMax, builderMax]

/-- `bytes.IndexByte` as a Go `int` (`-1` = absent). -/
def idxInt : Option Nat → Int
  | some i => (i : Int)
  | none => -1

/-- the trailing-dot test of `ParseReadable`: `len(s) > 0 && s[len(s)-1] == '.'` (`s[len(s)-1]` is only read
    when `len(s) > 0`; any value stands for it otherwise). -/
theorem dropTrailingDot_translated (s : Bytes) (dflt : UInt8) :
    dropTrailingDot s =
      if Translated.c11_parse_trailCond s.length (s.getLast?.getD dflt).toNat then s.dropLast else s := by
  rw [c11_parse_trailCond_eq]
  unfold dropTrailingDot
  rcases List.eq_nil_or_concat s with rfl | ⟨l, x, rfl⟩
  · simp
  · simp only [List.concat_eq_append, List.getLast?_append, List.getLast?_singleton, Option.some_or,
      Option.some.injEq, List.length_append, List.length_cons, List.length_nil, Option.getD_some,
      ← UInt8.toNat_inj]
    have : (46 : UInt8).toNat = 46 := rfl
    simp [this]

/-- `ParseReadable`: trailing dot, then the root test `len(s) == 0`. -/
theorem parseReadable_translated (s : Bytes) :
    parseReadable s =
      let s := dropTrailingDot s
      if Translated.c11_parse_rootCond s.length then some {} else parseLoop s.length s {} := by
  simp only [c11_parse_rootCond_eq]
  unfold parseReadable
  simp

/-- one iteration of the `for off < len(s)` loop of `ParseReadable`, at ANY offset `off`
    (`rest = s[off:]`, so `len(s) = off + rest.length`): the loop test, the `i > 0` test on the index
    returned by `bytes.IndexByte`, and the advance `off += len(label) + 1`. -/
theorem parseLoop_translated (fuel off : Nat) (rest : Bytes) (b : Builder) :
    parseLoop (fuel + 1) rest b =
      if Translated.c11_parse_loopCond off (off + rest.length) then
        let i := idxInt (indexByte 46 rest)
        let label := if Translated.c11_parse_idxCond i then rest.take i.toNat else rest
        match b.appendLabel label with
        | none => none
        | some b' => parseLoop fuel (rest.drop (Translated.c11_parse_advance off label.length - off)) b'
      else some b := by
  rw [parseLoop]
  simp only [c11_parse_loopCond_eq, c11_parse_idxCond_eq, c11_parse_advance_eq]
  cases rest with
  | nil => simp
  | cons x xs =>
    have hadv : ∀ n : Nat, off + n + 1 - off = n + 1 := fun n => by omega
    simp only [List.isEmpty_cons, Bool.false_eq_true, ↓reduceIte, List.length_cons, hadv]
    have hlt : off < off + (xs.length + 1) := by omega
    simp only [hlt, decide_true, ↓reduceIte]
    cases hi : indexByte 46 (x :: xs) with
    | none => simp [idxInt]; rfl
    | some i =>
      cases i with
      | zero => simp [idxInt]; rfl
      | succ j => simp [idxInt]; rfl

/-! ### NameScanner -/

/-- `Scan`, first test: `len(s.n) > 254`. -/
theorem scan_translated (n : Bytes) :
    scan n = if Translated.c11_scan_tooLongCond n.length then none else scanLoop (n.length + 1) n := by
  rw [c11_scan_tooLongCond_eq]
  unfold scan
  simp [scanMax]

/-- `Scan` at the end of the name (`s.n[s.off:]` empty): `s.off > len(s.n)-1` holds (as Go `int`s:
    for the empty name `0 > -1`). -/
theorem scanLoop_nil_translated (fuel off : Nat) :
    scanLoop (fuel + 1) [] =
      if Translated.c11_scan_doneCond (off : Int) ((off + ([] : Bytes).length : Nat) : Int) then some []
      else none := by
  rw [c11_scan_doneCond_eq]
  simp [scanLoop]

/-- one `Scan()` step at offset `off`, on a label-length octet `c` with `r` octets after it (`len(s.n) = off + 1 + r`):
    the end test is false, the other three are the model's (`scanLoop` and `toLowerLoop` run the same scanner). -/
theorem scanTests {α : Sort _} (off c r : Nat) (done bad ok : α) :
    (if Translated.c11_scan_doneCond (off : Int) ((off + (r + 1) : Nat) : Int) then done
      else if Translated.c11_scan_zeroCond c then bad
      else if Translated.c11_scan_longCond c then bad
      else if Translated.c11_scan_endCond (Translated.c11_scan_labelEnd off c) (off + (r + 1)) then bad
      else ok) =
    if (c == 0) = true then bad else if c > labelMax then bad else if c > r then bad else ok := by
  simp only [c11_scan_doneCond_eq, c11_scan_zeroCond_eq, c11_scan_longCond_eq, c11_scan_endCond_eq,
    c11_scan_labelEnd_eq]
  have h : ¬ ((off : Int) ≥ ((off + (r + 1) : Nat) : Int)) := by omega
  have e : (off + 1 + c > off + (r + 1)) = (c > r) := by
    apply propext
    omega
  simp only [h, decide_false, Bool.false_eq_true, ↓reduceIte, e, labelMax, beq_iff_eq, decide_eq_true_eq]
  rfl

/-- `Scan` with `s.n[s.off:] = c :: rest`, at ANY offset `off` (`len(s.n) = off + 1 + rest.length`): the
    end test, `labelLen == 0`, `labelLen > 63`, and `labelEnd > len(s.n)` on the translated `labelEnd`. -/
theorem scanLoop_cons_translated (fuel off : Nat) (c : UInt8) (rest : Bytes) :
    scanLoop (fuel + 1) (c :: rest) =
      if Translated.c11_scan_doneCond (off : Int) ((off + (c :: rest).length : Nat) : Int) then some []
      else if Translated.c11_scan_zeroCond c.toNat then none
      else if Translated.c11_scan_longCond c.toNat then none
      else if Translated.c11_scan_endCond (Translated.c11_scan_labelEnd off c.toNat) (off + (c :: rest).length) then none
      else (scanLoop fuel (rest.drop c.toNat)).map (rest.take c.toNat :: ·) := by
  rw [scanLoop]
  exact (scanTests off c.toNat rest.length _ _ _).symm

/-- `ToLowerName` runs the same scanner: same tests. -/
theorem toLowerName_translated (n : Bytes) :
    toLowerName n = if Translated.c11_scan_tooLongCond n.length then n else toLowerLoop (n.length + 1) n := by
  rw [c11_scan_tooLongCond_eq]
  unfold toLowerName
  simp [scanMax]

theorem toLowerLoop_cons_translated (fuel off : Nat) (c : UInt8) (rest : Bytes) :
    toLowerLoop (fuel + 1) (c :: rest) =
      if Translated.c11_scan_doneCond (off : Int) ((off + (c :: rest).length : Nat) : Int) then c :: rest
      else if Translated.c11_scan_zeroCond c.toNat then c :: rest
      else if Translated.c11_scan_longCond c.toNat then c :: rest
      else if Translated.c11_scan_endCond (Translated.c11_scan_labelEnd off c.toNat) (off + (c :: rest).length) then c :: rest
      else c :: (lowerLabel (rest.take c.toNat) ++ toLowerLoop fuel (rest.drop c.toNat)) := by
  rw [toLowerLoop]
  exact (scanTests off c.toNat rest.length _ _ _).symm

/-! ### loader_helper.go -/

/-- `if i := bytes.IndexByte(b, '#'); i >= 0 { b = b[:i] }` -/
theorem stripComment_translated (b : Bytes) :
    stripComment b =
      let i := idxInt (indexByte 35 b)
      if Translated.c11_loader_commentCond i then b.take i.toNat else b := by
  simp only [c11_loader_commentCond_eq]
  unfold stripComment
  cases indexByte 35 b with
  | none => simp [idxInt]
  | some i => simp [idxInt]

/-- `if len(b) == 0 { continue }` -/
theorem loaderLine_translated (line : Bytes) :
    loaderLine line =
      let b := trimSpace (stripComment line)
      if Translated.c11_loader_blankCond b.length then none else some b := by
  simp only [c11_loader_blankCond_eq]
  unfold loaderLine
  simp

/-! ### sub_domain.go -/

/-- `keyOf` branches on any test that decides `l < 24` -/
theorem keyOf_eq (label : Label) (c : Bool) (h : c = decide (label.length < 24)) :
    keyOf label = if c then .short (shortLabelKey label) else .long label := by
  rw [h]
  unfold keyOf
  simp only [keyWidth, decide_eq_true_eq]
  rfl

/-- which map: the `l < 24` test of `AddLeaf`, of `GetOrAddChild` and of `GetChild` (three copies in the Go
    source, one `keyOf` in the model: all three must agree with it). -/
theorem keyOf_translated_addLeaf (label : Label) :
    keyOf label =
      if Translated.c11_keyLt_addLeaf label.length then .short (shortLabelKey label) else .long label := by
  apply keyOf_eq
  unfold Translated.c11_keyLt_addLeaf
  bool_arith

theorem keyOf_translated_getOrAdd (label : Label) :
    keyOf label =
      if Translated.c11_keyLt_getOrAdd label.length then .short (shortLabelKey label) else .long label := by
  apply keyOf_eq
  unfold Translated.c11_keyLt_getOrAdd
  bool_arith

theorem keyOf_translated_getChild (label : Label) :
    keyOf label =
      if Translated.c11_keyLt_getChild label.length then .short (shortLabelKey label) else .long label := by
  apply keyOf_eq
  unfold Translated.c11_keyLt_getChild
  bool_arith

/-- the loop of `DomainMatcher.Add`: the list holds `labels[i], …, labels[0]`, i.e. `i = length - 1`; the loop
    test `i >= 0`, the `continue` test `len(label) == 0` and the leaf test `i == 0`. -/
theorem addWalk_translated (ls : List Label) (n : Children) :
    addWalk ls n =
      if Translated.c11_add_loopCond ((ls.length : Int) - 1) then
        match ls with
        | [] => n
        | label :: rest =>
          if Translated.c11_add_skipCond label.length then addWalk rest n
          else if Translated.c11_add_leafCond (((label :: rest).length : Int) - 1) then addLeaf n label
          else
            match getChild n label with
            | some .leaf => n
            | _ =>
              let r := getOrAddChild n label
              store (keyOf label) (.node (addWalk rest r.2)) r.1
      else n := by
  simp only [c11_add_loopCond_eq, c11_add_skipCond_eq, c11_add_leafCond_eq]
  cases ls with
  | nil => simp [addWalk]
  | cons label rest =>
    rw [addWalk]
    have h : (0 ≤ (((label :: rest).length : Nat) : Int) - 1) := by simp
    have e : (((((label :: rest).length : Nat) : Int) - 1 = 0)) = (rest.isEmpty = true) := by
      apply propext
      cases rest <;> simp
      omega
    simp only [h, decide_true, ↓reduceIte, e, beq_iff_eq, decide_eq_true_eq, Bool.decide_eq_true]
    rfl

/-- `DomainMatcher.Add`: `if m.rootMatched { return }` … `if !hasLabel { … }`. -/
theorem add_translated (m : DM) (labels : List Label) :
    m.add labels =
      if Translated.c11_add_rootCond m.rootMatched then m
      else if Translated.c11_add_noLabelCond (labels.any (fun l => l.length != 0)) then
        { root := [], rootMatched := true }
      else { m with root := addWalk labels.reverse m.root } := by
  rw [c11_add_rootCond_eq, c11_add_noLabelCond_eq]
  rfl

/-- the second loop of `DomainMatcher.Match`: the test `i >= 0` with `i = length - 1`. -/
theorem matchWalk_translated (ls : List Label) (n : Children) :
    matchWalk ls n =
      if Translated.c11_match_loopCond ((ls.length : Int) - 1) then
        match ls with
        | [] => false
        | label :: rest =>
          match getChild n label with
          | none => false
          | some .leaf => true
          | some (.node c) => matchWalk rest c
      else false := by
  simp only [c11_match_loopCond_eq]
  cases ls with
  | nil => simp [matchWalk]
  | cons label rest =>
    rw [matchWalk]
    have h : (0 ≤ (((label :: rest).length : Nat) : Int) - 1) := by simp
    simp only [h, decide_true, ↓reduceIte]
    rfl

/-! ### mix.go -/

/-- `if i := bytes.IndexByte(rule, ':'); i >= 0 { typ = rule[:i]; exp = rule[i+1:] } else { exp = rule }` -/
def splitRule (rule : Bytes) : Bytes × Bytes :=
  let i := idxInt (indexByte 58 rule)
  if Translated.c11_mix_sepCond i then (rule.take i.toNat, rule.drop (i.toNat + 1)) else ([], rule)

theorem splitRule_eq (rule : Bytes) :
    splitRule rule =
      (match indexByte 58 rule with
      | some i => (rule.take i, rule.drop (i + 1))
      | none => ([], rule)) := by
  unfold splitRule
  simp only [c11_mix_sepCond_eq]
  cases indexByte 58 rule with
  | none => simp [idxInt]
  | some i => simp [idxInt]

/-- `MixMatcher.Add` splits the rule with the translated test. -/
theorem mixAdd_translated (re : Re) (m : Mix) (rule : Bytes) :
    m.add re rule =
      let (typ, exp) := splitRule rule
      if typ = [] ∨ typ = typDomain then
        match parseReadable exp with
        | none => none
        | some b =>
          let data := toLowerName b.data
          match scan data with
          | none => some m
          | some labels => some { m with domain := m.domain.add labels }
      else if typ = typFull then
        match parseReadable exp with
        | none => none
        | some b => some { m with full := fullAdd m.full (toLowerName b.data) }
      else if typ = typRegexp then
        match regexpAdd re m.regexp exp with
        | none => none
        | some r => some { m with regexp := r }
      else none := by
  rw [splitRule_eq]
  rfl

end MosVerif.Trie
