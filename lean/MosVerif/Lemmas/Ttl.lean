/-
  C08 (Model/Ttl.lean): GetMinimalTTL computes the smallest non-OPT TTL; SubtractTTL ages each record without
  wrap-around; the int64 multiplications do not wrap; and the lifetime `cacheCtl.Store` computes stays in whole
  seconds, which makes it the lifetime of the property text floored at 1 s and limited to ten years
  (`storeTtl_sane`). Every bound on lifetimes elsewhere is read off that equation.
-/
import MosVerif.Model.Ttl
namespace MosVerif.Ttl

/-! ### GetMinimalTTL -/

theorem isOPT_iff (rr : RR) : rr.isOPT = true ↔ rr.typ = typeOPT := by
  simp [RR.isOPT]

/-- the loop of GetMinimalTTL computes, from any accumulator, the minimum over the non-OPT records and whether
    there was one -/
theorem foldl_minStep (l : List RR) (acc : UInt32 × Bool) :
    (l.foldl minStep acc).1.toNat = ((realRRs l).map (·.ttl.toNat)).foldl Nat.min acc.1.toNat ∧
    (l.foldl minStep acc).2 = (acc.2 || !(realRRs l).isEmpty) := by
  induction l generalizing acc with
  | nil => simp [realRRs]
  | cons rr rest ih =>
    simp only [List.foldl_cons]
    by_cases h : rr.typ = typeOPT
    · have h' : rr.isOPT = true := (isOPT_iff rr).2 h
      have hs : minStep acc rr = acc := by simp [minStep, h]
      have hr : realRRs (rr :: rest) = realRRs rest := by simp [realRRs, h']
      rw [hs, hr]; exact ih acc
    · have h' : rr.isOPT = false := by
        cases hb : rr.isOPT with
        | false => rfl
        | true => exact absurd ((isOPT_iff rr).1 hb) h
      have hr : realRRs (rr :: rest) = rr :: realRRs rest := by simp [realRRs, h']
      have hs : minStep acc rr = (if rr.ttl < acc.1 then rr.ttl else acc.1, true) := by simp [minStep, h]
      rw [hs, hr]
      have := ih (if rr.ttl < acc.1 then rr.ttl else acc.1, true)
      refine ⟨?_, ?_⟩
      · rw [this.1]
        simp only [List.map_cons, List.foldl_cons]
        congr 1
        by_cases hlt : rr.ttl < acc.1
        · have := UInt32.lt_iff_toNat_lt.1 hlt
          simp only [hlt, if_true, Nat.min_def]; split <;> omega
        · have : ¬ rr.ttl.toNat < acc.1.toNat := fun c => hlt (UInt32.lt_iff_toNat_lt.2 c)
          simp only [hlt, if_false, Nat.min_def]; split <;> omega
      · rw [this.2]; simp

theorem foldl_min_le_init (l : List Nat) (a : Nat) : l.foldl Nat.min a ≤ a := by
  induction l generalizing a with
  | nil => simp
  | cons x xs ih => simp only [List.foldl_cons]; exact Nat.le_trans (ih _) (Nat.min_le_left _ _)

theorem foldl_min_le_mem (l : List Nat) (a x : Nat) (h : x ∈ l) : l.foldl Nat.min a ≤ x := by
  induction l generalizing a with
  | nil => cases h
  | cons y ys ih =>
    simp only [List.foldl_cons]
    cases h with
    | head => exact Nat.le_trans (foldl_min_le_init _ _) (Nat.min_le_right _ _)
    | tail _ h => exact ih _ h

theorem foldl_min_mono (l : List Nat) (a b : Nat) (h : a ≤ b) : l.foldl Nat.min a ≤ l.foldl Nat.min b := by
  induction l generalizing a b with
  | nil => simpa
  | cons x xs ih =>
    simp only [List.foldl_cons]
    apply ih
    simp only [Nat.min_def]; split <;> split <;> omega

/-- GetMinimalTTL meets its contract: (0,false) when there is no real record, else the smallest real TTL -/
theorem getMinimalTTL_spec (m : Msg) : specMin m (getMinimalTTL m) = true := by
  have h := foldl_minStep m.rrs (0xFFFFFFFF, false)
  unfold specMin specMinTtl getMinimalTTL
  have hreal : m.rrs.filter (fun rr => !rr.isOPT) = realRRs m.rrs := rfl
  rw [hreal]
  cases hl : realRRs m.rrs with
  | nil =>
    have h2 := h.2; rw [hl] at h2
    simp at h2
    simp [h2]
  | cons x xs =>
    have h1 := h.1; have h2 := h.2; rw [hl] at h1 h2
    simp at h2
    simp only [List.map_cons, List.foldl_cons] at h1
    have hx : Nat.min (4294967295 : UInt32).toNat x.ttl.toNat = x.ttl.toNat := by
      have := x.ttl.toNat_lt
      have h4 : (4294967295 : UInt32).toNat = 4294967295 := by decide
      rw [h4]; simp only [Nat.min_def]; split <;> omega
    rw [hx] at h1
    simp [h2, h1]

/-- the pair GetMinimalTTL returns, in terms of the specification's `specMinTtl` -/
theorem getMinimalTTL_eq (m : Msg) :
    (specMinTtl m = none ∧ getMinimalTTL m = (0, false)) ∨
    (∃ t, specMinTtl m = some t ∧ (getMinimalTTL m).2 = true ∧ (getMinimalTTL m).1.toNat = t) := by
  have h := getMinimalTTL_spec m
  unfold specMin at h
  cases hs : specMinTtl m with
  | none => rw [hs] at h; left; exact ⟨rfl, by simpa using h⟩
  | some t =>
    rw [hs] at h; right
    simp at h
    exact ⟨t, rfl, h.1, h.2⟩

/-! ### SubtractTTL -/

theorem subRR_opt (d : UInt32) (rr : RR) (h : rr.typ = typeOPT) : subRR d rr = rr := by
  simp [subRR, h]

/-- no wrap-around: the served TTL is exactly max 1 (orig − delta) on naturals -/
theorem subRR_real (d : UInt32) (rr : RR) (h : rr.typ ≠ typeOPT) :
    (subRR d rr).typ = rr.typ ∧ (subRR d rr).ttl.toNat = Nat.max 1 (rr.ttl.toNat - d.toNat) := by
  unfold subRR
  simp only [h, if_false]
  by_cases hgt : rr.ttl > d
  · have hlt : d.toNat < rr.ttl.toNat := UInt32.lt_iff_toNat_lt.1 hgt
    have hsub := UInt32.toNat_sub_of_le rr.ttl d (UInt32.le_of_lt hgt)
    simp only [hgt, if_true]
    refine ⟨trivial, ?_⟩
    rw [hsub]
    exact (Nat.max_eq_right (by omega)).symm
  · have hle : ¬ d.toNat < rr.ttl.toNat := fun c => hgt (UInt32.lt_iff_toNat_lt.2 c)
    simp only [hgt, if_false]
    refine ⟨trivial, ?_⟩
    exact (Nat.max_eq_left (by omega)).symm

/-- a served TTL is within the specification's bound for any claimed elapsed time not above the subtracted delta -/
theorem subRR_aged (d : UInt32) (el : Nat) (hel : el ≤ d.toNat) (rr : RR) (h : rr.typ ≠ typeOPT) :
    (subRR d rr).ttl.toNat ≤ Nat.max 1 (rr.ttl.toNat - el) := by
  rw [(subRR_real d rr h).2]
  simp only [Nat.max]
  omega

theorem subRR_isOPT (d : UInt32) (rr : RR) : (subRR d rr).isOPT = rr.isOPT := by
  by_cases h : rr.typ = typeOPT
  · rw [subRR_opt d rr h]
  · have := (subRR_real d rr h).1
    simp [RR.isOPT, this]

theorem realRRs_map_subRR (d : UInt32) (l : List RR) :
    realRRs (l.map (subRR d)) = (realRRs l).map (subRR d) := by
  induction l with
  | nil => rfl
  | cons rr rest ih =>
    simp only [realRRs, List.map_cons, List.filter_cons, subRR_isOPT] at *
    cases rr.isOPT <;> simp [ih]

theorem mem_realRRs (l : List RR) (rr : RR) (h : rr ∈ realRRs l) : rr.typ ≠ typeOPT := by
  simp [realRRs, RR.isOPT] at h
  exact h.2

/-- the aged list meets the specification for any claimed elapsed time not above the subtracted delta -/
theorem specServedRRs_sub (d : UInt32) (el : Nat) (hel : el ≤ d.toNat) (l : List RR)
    (hl : ∀ rr ∈ l, rr.typ ≠ typeOPT) :
    specServedRRs el l (l.map (subRR d)) = true := by
  induction l with
  | nil => rfl
  | cons rr rest ih =>
    have hreal := hl rr (by simp)
    simp only [List.map_cons, specServedRRs, Bool.and_eq_true, beq_iff_eq, decide_eq_true_eq]
    exact ⟨⟨(subRR_real d rr hreal).1.symm, subRR_aged d el hel rr hreal⟩, ih (fun x hx => hl x (by simp [hx]))⟩

theorem specServed_sub (m : Msg) (d : UInt32) (el : Nat) (hel : el ≤ d.toNat) :
    specServed el m (subtractTTL m d) = true := by
  unfold specServed subtractTTL
  simp only [realRRs_map_subRR, Bool.and_eq_true]
  exact ⟨⟨specServedRRs_sub d el hel _ (mem_realRRs _), specServedRRs_sub d el hel _ (mem_realRRs _)⟩,
    specServedRRs_sub d el hel _ (mem_realRRs _)⟩

/-! ### durations -/

theorem wrap64_id (x : Int) (h1 : -9223372036854775808 ≤ x) (h2 : x < 9223372036854775808) : wrap64 x = x := by
  unfold wrap64
  rw [Int.emod_eq_of_lt (by omega) (by omega)]; omega

/-- `time.Duration(u) * time.Second` cannot overflow int64: (2³²−1)·10⁹ < 2⁶³ -/
theorem durOfSeconds_eq (u : UInt32) : durOfSeconds u = (u.toNat : Int) * second := by
  have h := u.toNat_lt
  unfold durOfSeconds wrap64 second
  omega

theorem specCap_pos (c : Int) : 1 ≤ specCap c := by
  unfold specCap
  split <;> omega

/-- the configured maximum is, in whole seconds, what the specification takes it to be (what the operator wrote,
    6 h when that is ≤ 0) limited to ten years — as long as |seconds|·10⁹ fits int64 -/
theorem initMaxTtl_sec (c : Int) (h1 : -9223372037 < c) (h2 : c < 9223372037) :
    initMaxTtl c = (Nat.min (specCap c) tenYears : Nat) * second := by
  unfold initMaxTtl
  rw [wrap64_id _ (by unfold second; omega) (by unfold second; omega)]
  unfold specCap tenYears defaultMaxCacheTtl maxCacheTtlLimit second
  simp only [Nat.min]
  by_cases hc : c ≤ 0
  · have hc' : c * 1000000000 ≤ 0 := by omega
    rw [if_pos hc, if_pos hc']
    decide
  · have hc' : ¬ c * 1000000000 ≤ 0 := by omega
    rw [if_neg hc, if_neg hc']
    split <;> omega

theorem initMaxTtl_pos (c : Int) (h1 : -9223372037 < c) (h2 : c < 9223372037) : 0 < initMaxTtl c := by
  have : 1 ≤ Nat.min (specCap c) tenYears := Nat.le_min.2 ⟨specCap_pos c, by decide⟩
  rw [initMaxTtl_sec c h1 h2]
  unfold second
  omega

/-! ### the lifetime switch, the floor and the cap -/

/-- the default lifetime of a response class, in seconds -/
def classSec (rcode : Nat) : Nat := if rcode = 3 then 30 else if rcode = 2 then 1 else if rcode ≠ 0 then 5 else 30

/-- the lifetime switch alone (before floor and cap), in seconds; `t` is the smallest record TTL, if there is a
    record: a positive answer lives that long, any other response at most as long as its class says -/
def policySec (rcode : Nat) : Option Nat → Nat
  | none => classSec rcode
  | some t => if rcode = 0 then t else Nat.min (classSec rcode) t

/-- the floor and the cap -/
def clampTtl (ttl cap : Int) : Int :=
  let ttl := if ttl ≤ 0 then second else ttl
  if ttl > cap then cap else ttl

/-- Go's `min(defaultTtl, msgRrMinTtl)` with `defaultTtl = second * a` and `msgRrMinTtl = u * second` -/
theorem min_sec (a u : Nat) :
    min (second * (a : Int)) ((u : Int) * second) = ((Nat.min a u : Nat) : Int) * second := by
  simp only [Nat.min]
  unfold second
  omega

/-- `Store`'s switch works in nanoseconds on what GetMinimalTTL returned; it never leaves the whole seconds -/
theorem storeTtl_eq (m : Msg) (cap : Int) :
    storeTtl m cap = clampTtl ((policySec m.rcode (specMinTtl m) : Nat) * second) cap := by
  unfold storeTtl
  -- each branch is brought to the literal shape of `clampTtl _ cap`: the kernel must not be left to compare
  -- `x * 1000000000` with anything by evaluation
  rcases getMinimalTTL_eq m with ⟨hs, hg⟩ | ⟨t, hs, hg2, hg1⟩
  · rw [hs, hg]
    generalize m.rcode = rc
    simp only [Bool.false_eq_true, if_false]
    -- the branches of Go's switch: NXDOMAIN, SERVFAIL, success, any other rcode
    split
    next => rfl
    next => rfl
    next => rfl
    next h3 h2 h0 =>
      simp only [policySec, classSec, if_neg h3, if_neg h2, if_pos h0]
      rfl
  · rw [hs]
    generalize getMinimalTTL m = r at hg1 hg2
    obtain ⟨u, has⟩ := r
    simp only at hg1 hg2
    subst hg1 hg2
    simp only [durOfSeconds_eq, if_true]
    generalize m.rcode = rc
    split
    next => exact congrArg (clampTtl · cap) (min_sec 30 u.toNat)
    next => exact congrArg (clampTtl · cap) (min_sec 1 u.toNat)
    next => rfl
    next h3 h2 h0 =>
      simp only [policySec, classSec, if_neg h3, if_neg h2, if_pos h0, if_neg h0]
      exact congrArg (clampTtl · cap) (min_sec 5 u.toNat)

theorem storeTtl_pos (m : Msg) (cap : Int) (hc : 0 < cap) : 0 < storeTtl m cap ∧ storeTtl m cap ≤ cap := by
  rw [storeTtl_eq]
  generalize ((policySec m.rcode (specMinTtl m) : Nat) : Int) * second = B
  unfold clampTtl second
  simp only
  split <;> split <;> omega

/-- under a cap of whole seconds every lifetime is a whole number of seconds -/
theorem storeTtl_sec (m : Msg) (k : Nat) :
    storeTtl m ((k : Nat) * second) = (Nat.min (Nat.max 1 (policySec m.rcode (specMinTtl m))) k : Nat) * second := by
  rw [storeTtl_eq]
  generalize policySec m.rcode (specMinTtl m) = b
  unfold clampTtl second
  simp only [Nat.min, Nat.max]
  split <;> split <;> omega

/-! ### the lifetime of the property text -/

theorem specLifetime_eq (m : Msg) (c : Int) :
    specLifetime m c = Nat.min (policySec m.rcode (specMinTtl m)) (specCap c) := by
  unfold specLifetime policySec
  cases specMinTtl m with
  | none =>
    simp only [Option.isNone_none, if_true]
    exact Nat.min_comm _ _
  | some t =>
    simp only [Option.isNone_some, Bool.false_eq_true, if_false]
    by_cases r0 : m.rcode = 0
    · rw [r0]; exact Nat.min_self _
    · simp only [classSec, if_pos r0, if_neg r0, Nat.min]
      ac_rfl

theorem specLifetime_le (m : Msg) (c : Int) :
    specLifetime m c ≤ specCap c ∧ (m.rcode = 3 → specLifetime m c ≤ 30) ∧ (m.rcode = 2 → specLifetime m c ≤ 1) ∧
    (m.rcode ≠ 0 → m.rcode ≠ 2 → m.rcode ≠ 3 → specLifetime m c ≤ 5) ∧
    (specMinTtl m = none → specLifetime m c ≤ 30) ∧ (∀ t, specMinTtl m = some t → specLifetime m c ≤ t) := by
  unfold specLifetime
  simp only
  refine ⟨?_, fun h => ?_, fun h => ?_, fun h0 h2 h3 => ?_, fun h => ?_, fun t h => ?_⟩
  · refine Nat.le_trans (Nat.min_le_left _ _) ?_
    cases specMinTtl m
    · exact Nat.le_refl _
    · exact Nat.min_le_right _ _
  · rw [if_pos h]; exact Nat.min_le_right _ _
  · rw [if_neg (by omega), if_pos h]; exact Nat.min_le_right _ _
  · rw [if_neg h3, if_neg h2, if_pos h0]; exact Nat.min_le_right _ _
  · rw [h]
    refine Nat.le_trans (Nat.min_le_right _ _) ?_
    simp only [Option.isNone_none, if_true]
    split
    · decide
    · split
      · decide
      · split <;> decide
  · rw [h]; exact Nat.le_trans (Nat.min_le_left _ _) (Nat.min_le_left _ _)

/-- the lifetime of the property text as a cache keeps it: at least one second, at most ten years -/
def lifeSec (m : Msg) (c : Int) : Nat := Nat.min (Nat.max 1 (specLifetime m c)) tenYears

theorem lifeSec_pos (m : Msg) (c : Int) : 1 ≤ lifeSec m c := Nat.le_min.2 ⟨Nat.le_max_left _ _, by decide⟩

theorem lifeSec_le_tenYears (m : Msg) (c : Int) : lifeSec m c ≤ tenYears := Nat.min_le_right _ _

theorem lifeSec_le (m : Msg) (c : Int) (x : Nat) (h : specLifetime m c ≤ x) (hx : 1 ≤ x) : lifeSec m c ≤ x :=
  Nat.le_trans (Nat.min_le_left _ _) (Nat.max_le.2 ⟨hx, h⟩)

theorem lifeSec_le_succ (m : Msg) (c : Int) : lifeSec m c ≤ specLifetime m c + 1 :=
  lifeSec_le m c _ (Nat.le_succ _) (Nat.le_add_left _ _)

theorem le_lifeSec (m : Msg) (c : Int) : Nat.min (specLifetime m c) tenYears ≤ lifeSec m c :=
  Nat.le_min.2 ⟨Nat.le_trans (Nat.min_le_left _ _) (Nat.le_max_right _ _), Nat.min_le_right _ _⟩

/-- The lifetime `cacheCtl.Store` gives to a response is exactly the lifetime of the property text, floored at one
    second and limited to ten years — for every message and every configured maximum whose seconds·10⁹ fit int64. -/
theorem storeTtl_sane (m : Msg) (c : Int) (h1 : -9223372037 < c) (h2 : c < 9223372037) :
    storeTtl m (initMaxTtl c) = (lifeSec m c : Nat) * second := by
  have hc := specCap_pos c
  rw [initMaxTtl_sec c h1 h2, storeTtl_sec, lifeSec, specLifetime_eq]
  simp only [Nat.min, Nat.max]
  rw [Nat.max_min_distrib_left, Nat.max_eq_right hc, Nat.min_assoc]

theorem storeTtl_le (m : Msg) (c : Int) (h1 : -9223372037 < c) (h2 : c < 9223372037) (x : Nat)
    (h : specLifetime m c ≤ x) (hx : 1 ≤ x) : storeTtl m (initMaxTtl c) ≤ (x : Nat) * second := by
  rw [storeTtl_sane m c h1 h2]
  exact Int.mul_le_mul_of_nonneg_right (Int.ofNat_le.2 (lifeSec_le m c x h hx)) (by decide)

theorem second_le_storeTtl (m : Msg) (c : Int) (h1 : -9223372037 < c) (h2 : c < 9223372037) :
    second ≤ storeTtl m (initMaxTtl c) := by
  have := lifeSec_pos m c
  rw [storeTtl_sane m c h1 h2]
  unfold second
  omega

end MosVerif.Ttl
