/-
  C11 — lemmas about the trie model (`Model/Trie.lean`): association lists,
  injectivity of the map key, and the one-step refinement of `addWalk`/`matchWalk`.
-/
import MosVerif.Model.Trie
import MosVerif.Lemmas.TextLemmas
namespace MosVerif.Trie
open MosVerif.Text

theorem lookup_store {κ α : Type} [DecidableEq κ] (k k' : κ) (v : α) (m : List (κ × α)) :
    lookup k' (store k v m) = if k = k' then some v else lookup k' m := by
  induction m with
  | nil => simp [store, lookup]
  | cons p rest ih =>
    obtain ⟨a, b⟩ := p
    simp only [store]
    by_cases h : a = k
    · subst h
      by_cases h' : a = k' <;> simp [lookup, h']
    · simp only [h, if_false, lookup, ih]
      by_cases h'' : a = k'
      · subst h''
        simp [Ne.symm h]
      · simp [h'']

/-- the last octet gives the length, and the first `length` octets the label. -/
theorem shortLabelKey_injective (a b : Label) (ha : a.length < keyWidth) (hb : b.length < keyWidth)
    (h : shortLabelKey a = shortLabelKey b) : a = b := by
  unfold keyWidth at ha hb
  simp only [shortLabelKey, keyWidth, List.take_of_length_le (Nat.le_of_lt_succ ha),
    List.take_of_length_le (Nat.le_of_lt_succ hb)] at h
  obtain ⟨hpad, hlast⟩ := List.append_inj' h rfl
  have hlen := congrArg UInt8.toNat (List.cons.inj hlast).1
  rw [toNat_ofNat_small (by omega), toNat_ofNat_small (by omega)] at hlen
  exact (List.append_inj hpad hlen).1

/-- ★ the map key (which of the two maps, and the key inside it) determines the label. -/
theorem keyOf_injective (a b : Label) (h : keyOf a = keyOf b) : a = b := by
  unfold keyOf at h
  by_cases ha : a.length < keyWidth
  · by_cases hb : b.length < keyWidth
    · rw [if_pos ha, if_pos hb] at h
      exact shortLabelKey_injective a b ha hb (Key.short.inj h)
    · -- a short key is never a long one: the two maps are disjoint
      rw [if_pos ha, if_neg hb] at h
      cases h
  · by_cases hb : b.length < keyWidth
    · rw [if_neg ha, if_pos hb] at h
      cases h
    · rw [if_neg ha, if_neg hb] at h
      exact Key.long.inj h

theorem keyOf_eq_iff (a b : Label) : keyOf a = keyOf b ↔ a = b :=
  ⟨keyOf_injective a b, fun h => h ▸ rfl⟩

theorem getChild_store (n : Children) (a b : Label) (v : T) :
    getChild (store (keyOf a) v n) b = if a = b then some v else getChild n b := by
  rw [getChild, getChild, lookup_store]
  simp only [keyOf_eq_iff]

/-- entries the `MixMatcher` can produce: no empty label. -/
def WF (e : List Label) : Prop := ∀ l ∈ e, l ≠ []

theorem matchWalk_cons (m : Label) (ms : List Label) (n : Children) :
    matchWalk (m :: ms) n = (match getChild n m with
      | none => false
      | some .leaf => true
      | some (.node c) => matchWalk ms c) := rfl

theorem matchWalk_empty (q : List Label) : matchWalk q [] = false := by
  cases q <;> simp [matchWalk, getChild, lookup]

theorem matchWalk_addLeaf (l : Label) (n : Children) (q : List Label) :
    matchWalk q (addLeaf n l) = true ↔ (matchWalk q n = true ∨ [l] <+: q) := by
  cases q with
  | nil => simp [matchWalk]
  | cons m ms =>
    rw [matchWalk_cons, matchWalk_cons, addLeaf, getChild_store]
    by_cases hm : l = m
    · subst hm
      simp [List.cons_prefix_cons]
    · simp [hm, List.cons_prefix_cons]

theorem matchWalk_addWalk (e : List Label) (hwf : WF e) (hne : e ≠ []) (n : Children) (q : List Label) :
    matchWalk q (addWalk e n) = true ↔ (matchWalk q n = true ∨ e <+: q) := by
  induction e generalizing n q with
  | nil => exact absurd rfl hne
  | cons l rest ih =>
    have hl0 : (l.length == 0) = false := by simp [hwf l List.mem_cons_self]
    have hwf' : WF rest := fun x hx => hwf x (List.mem_cons_of_mem l hx)
    by_cases hr : rest = []
    · subst hr
      simp only [addWalk, hl0, List.isEmpty_nil, Bool.false_eq_true, ↓reduceIte]
      exact matchWalk_addLeaf l n q
    · simp only [addWalk, hl0, List.isEmpty_iff, hr, Bool.false_eq_true, ↓reduceIte]
      cases q with
      | nil => cases getChild n l <;> simp [matchWalk]
      | cons m ms =>
        -- `l` now leads to `addWalk rest c`, where `c` is what lay below `l` before (nothing: `[]`);
        -- every other label keeps its child
        have step : ∀ c, (∀ ms, matchWalk (l :: ms) n = matchWalk ms c) →
            ∀ n', (∀ m, getChild n' m = getChild n m ∨ l = m) →
            (matchWalk (m :: ms) (store (keyOf l) (.node (addWalk rest c)) n') = true ↔
              (matchWalk (m :: ms) n = true ∨ l :: rest <+: m :: ms)) := by
          intro c hc n' hn'
          rw [matchWalk_cons, getChild_store, List.cons_prefix_cons]
          by_cases hm : l = m
          · subst hm
            simp only [↓reduceIte, ih hwf' hr, hc, true_and]
          · rw [if_neg hm, matchWalk_cons, (hn' m).resolve_right hm]
            simp only [hm, false_and, or_false]
        cases hc : getChild n l with
        | none =>
          simp only [getOrAddChild, show lookup (keyOf l) n = none from hc]
          exact step [] (fun ms => by rw [matchWalk_cons, hc, matchWalk_empty]) _
            (fun m => by
              rw [getChild_store]
              by_cases hm : l = m
              · exact Or.inr hm
              · exact Or.inl (if_neg hm))
        | some t =>
          cases t with
          | leaf =>
            -- a parent domain is already an entry: nothing changes, and `q` matched before
            simp only [matchWalk_cons, List.cons_prefix_cons]
            by_cases hm : l = m
            · subst hm
              simp [hc]
            · simp [hm]
          | node c =>
            simp only [getOrAddChild, show lookup (keyOf l) n = some (.node c) from hc]
            exact step c (fun ms => by rw [matchWalk_cons, hc]) n (fun m => Or.inl rfl)

/-- one `DomainMatcher.Add`, on label lists. -/
theorem matchLabels_add (m : DM) (e : List Label) (hwf : WF e) (q : List Label) :
    (m.add e).matchLabels q = true ↔ (m.matchLabels q = true ∨ e <:+ q) := by
  unfold DM.add
  by_cases hrm : m.rootMatched = true
  · simp [hrm, DM.matchLabels]
  · have hrm' : m.rootMatched = false := by simpa using hrm
    cases e with
    | nil => simp [hrm', DM.matchLabels, List.nil_suffix]
    | cons l rest =>
      have hl : l ≠ [] := hwf l (by simp)
      have hany : (l :: rest).any (fun l => l.length != 0) = true := by
        simp [hl]
      have hwf' : WF (l :: rest).reverse := fun x hx => hwf x (List.mem_reverse.mp hx)
      have hne : (l :: rest).reverse ≠ [] := by simp
      simp only [hrm', hany, DM.matchLabels, Bool.false_eq_true, ↓reduceIte, Bool.not_true,
        Bool.false_or]
      rw [matchWalk_addWalk _ hwf' hne, List.reverse_prefix]

end MosVerif.Trie
