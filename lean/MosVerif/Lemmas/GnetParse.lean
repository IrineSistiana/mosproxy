/-
  C13 — the reference stream parser `parse` and the admission function `admission`.
-/
import MosVerif.Lemmas.GnetBasic
namespace MosVerif.Gnet

theorem parse_complete (a b : UInt8) (t : Bytes) (h : rd16 a b ≤ t.length) :
    parse (a :: b :: t) =
      (t.take (rd16 a b) :: (parse (t.drop (rd16 a b))).1, (parse (t.drop (rd16 a b))).2) := by
  rw [parse, if_pos h]

theorem parse_incomplete (a b : UInt8) (t : Bytes) (h : t.length < rd16 a b) :
    parse (a :: b :: t) = ([], a :: b :: t) := by
  rw [parse, if_neg (Nat.not_le.mpr h)]

theorem parse_short (s : Bytes) (h : s.length < 2) : parse s = ([], s) := by
  match s, h with
  | [], _ => rw [parse]; simp
  | [_], _ => rw [parse]; simp
  | _ :: _ :: _, h => simp at h; omega

/-- `u` is the beginning of a frame that is not complete yet. -/
def Incomplete (u : Bytes) : Prop :=
  u.length < 2 ∨ ∃ a b t, u = a :: b :: t ∧ t.length < rd16 a b

theorem incomplete_or_frame (s : Bytes) :
    Incomplete s ∨ ∃ a b t, s = a :: b :: t ∧ rd16 a b ≤ t.length := by
  match s with
  | [] => exact .inl (.inl (by decide))
  | [_] => exact .inl (.inl (Nat.lt_succ_self 1))
  | a :: b :: t =>
    by_cases h : rd16 a b ≤ t.length
    · exact .inr ⟨a, b, t, rfl, h⟩
    · exact .inl (.inr ⟨a, b, t, rfl, Nat.not_le.mp h⟩)

theorem parse_of_incomplete {u : Bytes} (h : Incomplete u) : parse u = ([], u) := by
  rcases h with h | ⟨a, b, t, rfl, h⟩
  · exact parse_short u h
  · exact parse_incomplete a b t h

/-- induction along the frames `parse` cuts off -/
theorem parse_ind {motive : Bytes → Prop} (inc : ∀ s, Incomplete s → motive s)
    (frame : ∀ a b t, rd16 a b ≤ t.length → motive (t.drop (rd16 a b)) → motive (a :: b :: t))
    (s : Bytes) : motive s := by
  induction s using parse.induct with
  | case1 a b t h ih => exact frame a b t h ih
  | case2 a b t h => exact inc _ (.inr ⟨a, b, t, rfl, Nat.not_le.mp h⟩)
  | case3 s h =>
    rcases incomplete_or_frame s with hi | ⟨a, b, t, rfl, _⟩
    · exact inc s hi
    · exact absurd rfl (h a b t)

theorem parse_rest_incomplete (s : Bytes) : Incomplete (parse s).2 := by
  induction s using parse_ind with
  | inc s h => rw [parse_of_incomplete h]; exact h
  | frame a b t h ih => rw [parse_complete a b t h]; exact ih

/-- Parsing is compositional: what was received earlier can be parsed first, only the
    incomplete tail has to be kept. -/
theorem parse_append (s t : Bytes) :
    parse (s ++ t) =
      ((parse s).1 ++ (parse ((parse s).2 ++ t)).1, (parse ((parse s).2 ++ t)).2) := by
  induction s using parse_ind with
  | inc s h => rw [parse_of_incomplete h]; rfl
  | frame a b t' h ih =>
    rw [parse_complete a b t' h, List.cons_append, List.cons_append,
      parse_complete a b (t' ++ t) (by rw [List.length_append]; omega),
      List.take_append_of_le_length h, List.drop_append_of_le_length h, ih]
    rfl

theorem parse_frame_append (f s : Bytes) (hf : f.length < 65536) :
    parse (frame f ++ s) = (f :: (parse s).1, (parse s).2) := by
  have hr : rd16 (UInt8.ofNat (f.length / 256)) (UInt8.ofNat f.length) = f.length := rd16_be16 _ hf
  show parse (UInt8.ofNat (f.length / 256) :: UInt8.ofNat f.length :: (f ++ s)) = _
  rw [parse_complete _ _ _ (by rw [hr]; simp), hr, List.take_left, List.drop_left]

/-- ★ reference parser on a well-formed stream: the frames come back, the incomplete tail is left. -/
theorem parse_frames (frames : List Bytes) (tail : Bytes)
    (hf : ∀ f ∈ frames, f.length < 65536) (ht : Incomplete tail) :
    parse (frames.flatMap frame ++ tail) = (frames, tail) := by
  induction frames with
  | nil => exact parse_of_incomplete ht
  | cons f fs ih =>
    rw [List.flatMap_cons, List.append_assoc, parse_frame_append f _ (hf f (List.mem_cons_self ..)),
      ih fun g hg => hf g (List.mem_cons_of_mem _ hg)]

/-- one decision of the admission counter, with the very tests `OnTraffic` makes -/
theorem admission_cons (max c : Nat) (f : Bytes) (fs : List Bytes) :
    admission max c (f :: fs) =
      ((if c + 1 > max then Event.refused f else Event.query f) ::
          (admission max (if c + 1 > max then c else c + 1) fs).1,
        (admission max (if c + 1 > max then c else c + 1) fs).2) := by
  rw [admission]
  split <;> rfl

theorem admission_bodies (max : Nat) (fs : List Bytes) (c : Nat) :
    (admission max c fs).1.map Event.body = fs := by
  induction fs generalizing c with
  | nil => rfl
  | cons f fs ih =>
    rw [admission_cons, List.map_cons, ih]
    split <;> rfl

theorem admission_length (max : Nat) (fs : List Bytes) (c : Nat) : (admission max c fs).1.length = fs.length := by
  rw [← List.length_map Event.body, admission_bodies]

theorem admission_append (max : Nat) (xs ys : List Bytes) (c : Nat) :
    admission max c (xs ++ ys) =
      ((admission max c xs).1 ++ (admission max (admission max c xs).2 ys).1, (admission max (admission max c xs).2 ys).2) := by
  induction xs generalizing c with
  | nil => rfl
  | cons f fs ih => rw [List.cons_append, admission_cons, admission_cons, ih]; rfl

theorem admission_over (max : Nat) (fs : List Bytes) (c : Nat) (h : max ≤ c) :
    admission max c fs = (fs.map Event.refused, c) := by
  induction fs with
  | nil => rfl
  | cons f fs ih => rw [admission_cons, if_pos (Nat.lt_succ_of_le h), if_pos (Nat.lt_succ_of_le h), ih]; rfl

end MosVerif.Gnet
