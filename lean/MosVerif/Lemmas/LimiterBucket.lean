/-
  C15: one `rate.Limiter` bucket.

  What a bucket holds at time `t` (`avail`) is the potential behind every bound of C15: it never
  exceeds the burst, it grows by at most the rate, on a reachable bucket it is never more than
  the truncation slack below zero, and an `AllowN` at `t` lowers it by exactly what it admits.
-/
import MosVerif.Model.Limiter
namespace MosVerif.Limiter

/-- `last ≤ τ` (vacuous for a brand-new bucket) -/
def Bucket.lastLe (b : Bucket) (τ : Nat) : Prop := ∀ l, b.last = some l → l ≤ τ

/-- reachable buckets: never more than the truncation slack below zero, `last` in the past -/
def Bucket.Inv (L : Nat) (b : Bucket) (τ : Nat) : Prop := -((L : Int) - 1) ≤ b.tokens ∧ b.lastLe τ

theorem Bucket.lastLe.mono {b : Bucket} {τ τ' : Nat} (h : b.lastLe τ) (hτ : τ ≤ τ') : b.lastLe τ' :=
  fun l hl => Nat.le_trans (h l hl) hτ

theorem Bucket.inv_fresh (L : Nat) (hL : 0 < L) (τ : Nat) : Bucket.fresh.Inv L τ :=
  ⟨by show -((L : Int) - 1) ≤ 0; omega, fun _ h => nomatch h⟩

theorem Bucket.Inv.mono {L : Nat} {b : Bucket} {τ τ' : Nat} (h : b.Inv L τ) (hτ : τ ≤ τ') : b.Inv L τ' :=
  ⟨h.1, h.2.mono hτ⟩

theorem mul_sub_split (L : Nat) {x y z : Nat} (h1 : x ≤ y) (h2 : y ≤ z) : L * (z - x) = L * (y - x) + L * (z - y) := by
  rw [← Nat.mul_add, Nat.add_comm, Nat.sub_add_sub_cancel h2 h1]

theorem Bucket.elapsed_mono (b : Bucket) {t t' : Nat} (h : t ≤ t') : b.elapsed t ≤ b.elapsed t' := by
  unfold Bucket.elapsed
  cases b.last with
  | none => exact Nat.le_refl _
  | some l =>
    simp only
    split <;> split <;> omega

theorem Bucket.elapsed_step (b : Bucket) {τ t t' : Nat} (h : b.lastLe τ) (h1 : τ ≤ t) (h2 : t ≤ t') :
    b.elapsed t' ≤ b.elapsed t + (t' - t) := by
  unfold Bucket.elapsed
  cases hl : b.last with
  | none => exact Nat.le_add_right _ _
  | some l =>
    have := h l hl
    simp only
    split <;> split <;> omega

theorem Bucket.avail_le_cap (L B : Nat) (b : Bucket) (t : Nat) :
    b.avail L B t ≤ ((B * nano : Nat) : Int) :=
  Int.min_le_left _ _

theorem Bucket.avail_mono (L B : Nat) (b : Bucket) {t t' : Nat} (h : t ≤ t') :
    b.avail L B t ≤ b.avail L B t' := by
  have he := Nat.mul_le_mul_left L (b.elapsed_mono h)
  unfold Bucket.avail
  omega

theorem Bucket.avail_step (L B : Nat) (b : Bucket) {τ t t' : Nat} (h : b.lastLe τ) (h1 : τ ≤ t) (h2 : t ≤ t') :
    b.avail L B t' ≤ b.avail L B t + ((L * (t' - t) : Nat) : Int) := by
  have he := Nat.mul_le_mul_left L (b.elapsed_step h h1 h2)
  rw [Nat.mul_add] at he
  unfold Bucket.avail
  omega

theorem Bucket.avail_ge (L B : Nat) (hL : 0 < L) (b : Bucket) (τ t : Nat) (h : b.Inv L τ) :
    -((L : Int) - 1) ≤ b.avail L B t := by
  have := h.1
  unfold Bucket.avail
  omega

/-- a brand-new bucket is full (for configurations within the dependency's range) -/
theorem Bucket.avail_fresh_full (L B t : Nat) (hs : B * nano ≤ L * maxDuration) :
    Bucket.fresh.avail L B t = ((B * nano : Nat) : Int) := by
  have : ((B * nano : Nat) : Int) ≤ ((L * maxDuration : Nat) : Int) := Int.ofNat_le.mpr hs
  simp only [Bucket.avail, Bucket.fresh, Bucket.elapsed]
  omega

theorem Bucket.avail_mk (L B : Nat) (x : Int) (te t : Nat) (h : te ≤ t) (hM : t - te ≤ maxDuration) :
    (Bucket.mk x (some te)).avail L B t = min ((B * nano : Nat) : Int) (x + ((L * (t - te) : Nat) : Int)) := by
  simp only [Bucket.avail, Bucket.elapsed]
  rw [if_neg (Nat.not_lt.mpr h), Nat.min_eq_left hM]

theorem Bucket.allowN_true {L B : Nat} {b : Bucket} {t n : Nat} (h : (b.allowN L B t n).1 = true) :
    n ≤ B ∧ -(b.avail L B t - ((n * nano : Nat) : Int)) < (L : Int) ∧
    (b.allowN L B t n).2 = ⟨b.avail L B t - ((n * nano : Nat) : Int), some t⟩ := by
  unfold Bucket.allowN at h ⊢
  simp only at h ⊢
  split at h
  · rename_i hc; rw [if_pos hc]; exact ⟨hc.1, hc.2, rfl⟩
  · cases h

theorem Bucket.allowN_false {L B : Nat} {b : Bucket} {t n : Nat} (h : (b.allowN L B t n).1 = false) :
    ¬ (n ≤ B ∧ -(b.avail L B t - ((n * nano : Nat) : Int)) < (L : Int)) ∧ (b.allowN L B t n).2 = b := by
  unfold Bucket.allowN at h ⊢
  simp only at h ⊢
  split at h
  · cases h
  · rename_i hc; rw [if_neg hc]; exact ⟨hc, rfl⟩

theorem Bucket.allowN_fst_iff (L B : Nat) (b : Bucket) (t n : Nat) :
    (b.allowN L B t n).1 = true ↔ n ≤ B ∧ -(b.avail L B t - ((n * nano : Nat) : Int)) < (L : Int) := by
  refine ⟨fun h => ⟨(Bucket.allowN_true h).1, (Bucket.allowN_true h).2.1⟩, fun h => ?_⟩
  cases hd : (b.allowN L B t n).1 with
  | true => rfl
  | false => exact absurd h (Bucket.allowN_false hd).1

/-- an `AllowN` at `t` takes what it admits, and nothing else, out of what the bucket holds at `t` -/
theorem Bucket.avail_allowN (L B : Nat) (b : Bucket) (t n : Nat) :
    (b.allowN L B t n).2.avail L B t + (((if (b.allowN L B t n).1 = true then n else 0) * nano : Nat) : Int)
      = b.avail L B t := by
  cases hd : (b.allowN L B t n).1 with
  | true =>
    have hcap := b.avail_le_cap L B t
    rw [(Bucket.allowN_true hd).2.2, Bucket.avail_mk _ _ _ _ _ (Nat.le_refl t) (by omega), if_pos rfl, Nat.sub_self, Nat.mul_zero]
    omega
  | false =>
    rw [(Bucket.allowN_false hd).2, if_neg Bool.false_ne_true, Nat.zero_mul]
    exact Int.add_zero _

theorem Bucket.allowN_inv {L B : Nat} {b : Bucket} {τ t n : Nat} (h : b.Inv L τ) (ht : τ ≤ t) :
    (b.allowN L B t n).2.Inv L t := by
  cases hd : (b.allowN L B t n).1 with
  | true =>
    obtain ⟨_, h2, h3⟩ := Bucket.allowN_true hd
    rw [h3]
    constructor
    · show -((L : Int) - 1) ≤ b.avail L B t - ((n * nano : Nat) : Int)
      omega
    · intro l hl
      cases hl
      exact Nat.le_refl _
  | false =>
    rw [(Bucket.allowN_false hd).2]
    exact h.mono ht

/-- the verdict depends on the bucket only through what it holds at the time of the arrival -/
theorem Bucket.allowN_congr (L B : Nat) (b1 b2 : Bucket) (t n : Nat) (h : b1.avail L B t = b2.avail L B t) :
    (b1.allowN L B t n).1 = (b2.allowN L B t n).1 ∧
    ((b1.allowN L B t n).1 = true → (b1.allowN L B t n).2 = (b2.allowN L B t n).2) := by
  unfold Bucket.allowN
  simp only [h]
  split <;> simp

end MosVerif.Limiter
