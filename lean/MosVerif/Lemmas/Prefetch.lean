/-
  C19 — the prefetch model (Model/Prefetch.lean) over arbitrary interleavings: the single-flight invariant `SF`,
  what one own step of a client thread does (`clientStep_own`), a refresh goroutine run to its end
  (`refresh_run`), the reserve/done model against its specification.
-/
import MosVerif.Model.Prefetch
import MosVerif.Lemmas.TtlHist
namespace MosVerif.Prefetch
open MosVerif.Ttl

theorem countP_set_add {α : Type} (p : α → Bool) (l : List α) (i : Nat) (a : α) (h : i < l.length) :
    (l.set i a).countP p + (if p l[i] then 1 else 0) = l.countP p + (if p a then 1 else 0) := by
  induction l generalizing i with
  | nil => simp at h
  | cons x xs ih =>
    cases i with
    | zero =>
      simp only [List.set_cons_zero, List.countP_cons, List.getElem_cons_zero]
      omega
    | succ i =>
      have h' : i < xs.length := by simpa using h
      have := ih i h'
      simp only [List.set_cons_succ, List.countP_cons, List.getElem_cons_succ]
      omega

theorem reserve_held (q : Queue) (k : Nat) (h : q k = true) : reserve q k = (q, false) := by
  simp [reserve, h]

theorem reserve_free (q : Queue) (k : Nat) (h : q k = false) :
    reserve q k = (fun k' => if k' = k then true else q k', true) := by
  simp [reserve, h]

theorem reserve_fst_self (q : Queue) (k : Nat) (h : q k = false) : (reserve q k).1 k = true := by
  simp [reserve_free _ _ h]

/-! ### single flight -/

/-- per prefetch key: (clients that reserved it and have not yet spawned) + (refresh goroutines that have not yet
    called done) is 1 if the key is in prefetchCtl's queue and 0 otherwise -/
def SF (P : Params) (s : State) : Prop :=
  ∀ pk, s.clients.countP (Client.spawningOn P pk) + s.refreshers.countP (Refresher.inflightOn pk)
    = if s.queue pk then 1 else 0

theorem sf_init (P : Params) (mem : Mem) (keys : List Nat) (n : Nat) : SF P (init mem keys n) := by
  intro pk
  simp only [init, Queue.empty, List.countP_nil, Nat.add_zero]
  induction keys with
  | nil => simp
  | cons k ks ih => simpa [List.countP_cons, Client.spawningOn] using ih

/-- a client's state change that neither enters nor leaves `spawning` keeps the counts -/
theorem sf_client_neutral (P : Params) (s : State) (i : Nat) (c c' : Client) (h : s.clients[i]? = some c)
    (hc : ∀ pk, Client.spawningOn P pk c = false) (hc' : ∀ pk, Client.spawningOn P pk c' = false) (hsf : SF P s) :
    SF P { s with clients := s.clients.set i c' } := by
  intro pk
  obtain ⟨hi, he⟩ := List.getElem?_eq_some_iff.1 h
  have := countP_set_add (Client.spawningOn P pk) s.clients i c' hi
  rw [he, hc pk, hc' pk] at this
  have h2 := hsf pk
  simp only at this ⊢
  omega

theorem sf_clientStep (P : Params) (s : State) (i now : Nat) (hsf : SF P s) : SF P (clientStep P s i now) := by
  unfold clientStep
  cases hc : s.clients[i]? with
  | none => exact hsf
  | some c =>
    obtain ⟨hi, he⟩ := List.getElem?_eq_some_iff.1 hc
    -- a step from a pc that is not `spawning` to one that is not `spawning`
    have neutral : ∀ c' : Client, (∀ pk, Client.spawningOn P pk c = false) → (∀ pk, Client.spawningOn P pk c' = false) →
        SF P { s with clients := s.clients.set i c' } := fun c' h h' => sf_client_neutral P s i c c' hc h h' hsf
    simp only
    cases hpc : c.pc with
    | start =>
      simp only
      cases cacheGet P.clock s.mem c.key now with
      | none => exact neutral _ (by simp [Client.spawningOn, hpc]) (by simp [Client.spawningOn])
      | some p =>
        exact neutral _ (by simp [Client.spawningOn, hpc]) (by simp [Client.spawningOn])
    | looked h =>
      simp only
      by_cases hn : needPrefetch h.stored h.expire now = true
      · simp only [hn, if_true]
        by_cases hq : s.queue (P.pkey c.key) = true
        · simp only [reserve_held _ _ hq, Bool.false_eq_true, if_false]
          exact neutral _ (by simp [Client.spawningOn, hpc]) (by simp [Client.spawningOn])
        · have hqf : s.queue (P.pkey c.key) = false := by simpa using hq
          simp only [reserve_free _ _ hqf, if_true]
          intro pk
          have hset := countP_set_add (Client.spawningOn P pk) s.clients i { c with pc := .spawning h } hi
          have hold : Client.spawningOn P pk s.clients[i] = false := by rw [he]; simp [Client.spawningOn, hpc]
          rw [hold] at hset
          have h2 := hsf pk
          simp only [Client.spawningOn] at hset ⊢
          by_cases hpk : P.pkey c.key = pk
          · subst hpk
            simp only [beq_self_eq_true, if_true] at hset ⊢
            rw [hqf] at h2
            simp only [Bool.false_eq_true, if_false] at h2 hset ⊢
            omega
          · have hne : (P.pkey c.key == pk) = false := by simpa using hpk
            have hne' : ¬ pk = P.pkey c.key := fun h => hpk h.symm
            simp only [hne, Bool.false_eq_true, if_false, hne'] at hset ⊢
            omega
      · simp only [hn, if_false, Bool.false_eq_true]
        exact neutral _ (by simp [Client.spawningOn, hpc]) (by simp [Client.spawningOn])
    | spawning h =>
      simp only
      intro pk
      have hset := countP_set_add (Client.spawningOn P pk) s.clients i { c with pc := .ready h } hi
      have hold : Client.spawningOn P pk s.clients[i] = (P.pkey c.key == pk) := by rw [he]; simp [Client.spawningOn, hpc]
      rw [hold] at hset
      have h2 := hsf pk
      simp only [Client.spawningOn, List.countP_append, List.countP_cons, List.countP_nil, Refresher.inflightOn] at hset ⊢
      by_cases hpk : (P.pkey c.key == pk) = true
      · simp only [hpk, if_true, Bool.true_and] at hset ⊢
        simp only [Bool.false_eq_true, if_false] at hset
        omega
      · have hpk' : (P.pkey c.key == pk) = false := by simpa using hpk
        simp only [hpk', Bool.false_eq_true, if_false, Bool.false_and] at hset ⊢
        omega
    | ready h =>
      exact neutral _ (by simp [Client.spawningOn, hpc]) (by simp [Client.spawningOn])
    | responded h => exact hsf
    | missed => exact hsf

/-- a refresher's state change between not-finished states keeps the counts (`mem` and `n` are free so that the
    lemma serves `forwardStep`, which keeps them, and `storeStep`, which does not) -/
theorem sf_refresher_neutral (P : Params) (s : State) (j : Nat) (r r' : Refresher) (h : s.refreshers[j]? = some r)
    (hr : ∀ pk, Refresher.inflightOn pk r' = Refresher.inflightOn pk r) (mem : Mem) (n : Nat) (hsf : SF P s) :
    SF P { s with mem := mem, nextId := n, refreshers := s.refreshers.set j r' } := by
  intro pk
  obtain ⟨hj, he⟩ := List.getElem?_eq_some_iff.1 h
  have := countP_set_add (Refresher.inflightOn pk) s.refreshers j r' hj
  rw [he, hr pk] at this
  have h2 := hsf pk
  simp only at this ⊢
  omega

theorem sf_step (P : Params) (s : State) (l : Label) (hsf : SF P s) : SF P (step P s l) := by
  cases l with
  | client i now => exact sf_clientStep P s i now hsf
  | forward j out =>
    show SF P (forwardStep s j out)
    unfold forwardStep
    cases hr : s.refreshers[j]? with
    | none => exact hsf
    | some r =>
      simp only
      cases hpc : r.pc with
      | spawned =>
        cases out with
        | err => exact sf_refresher_neutral P s j r _ hr (by intro pk; simp [Refresher.inflightOn, hpc]) s.mem s.nextId hsf
        | reply m =>
          exact sf_refresher_neutral P s j r _ hr (by intro pk; simp [Refresher.inflightOn, hpc]) s.mem s.nextId hsf
      | fetched m => cases out <;> exact hsf
      | finishing => cases out <;> exact hsf
      | finished => cases out <;> exact hsf
  | store j now delay =>
    show SF P (storeStep P s j now delay)
    unfold storeStep
    cases hr : s.refreshers[j]? with
    | none => exact hsf
    | some r =>
      simp only
      cases hpc : r.pc with
      | fetched m => exact sf_refresher_neutral P s j r _ hr (by intro pk; simp [Refresher.inflightOn, hpc]) _ _ hsf
      | spawned | finishing | finished => exact hsf
  | done j =>
    show SF P (doneStep s j)
    unfold doneStep
    cases hr : s.refreshers[j]? with
    | none => exact hsf
    | some r =>
      simp only
      cases hpc : r.pc with
      | spawned | finished => exact hsf
      | fetched m => exact hsf
      | finishing =>
        -- the goroutine leaves the in-flight count and its key leaves the queue
        intro pk
        obtain ⟨hj, he⟩ := List.getElem?_eq_some_iff.1 hr
        have hset := countP_set_add (Refresher.inflightOn pk) s.refreshers j { r with pc := .finished } hj
        have hold : Refresher.inflightOn pk s.refreshers[j] = (r.pk == pk) := by rw [he]; simp [Refresher.inflightOn, hpc]
        rw [hold] at hset
        have h2 := hsf pk
        simp only [Refresher.inflightOn, done] at hset ⊢
        by_cases hpk : r.pk = pk
        · subst hpk
          simp only [beq_self_eq_true, if_true, Bool.and_false, Bool.false_eq_true, if_false] at hset ⊢
          cases hq : s.queue r.pk <;> simp only [hq, Bool.false_eq_true, if_false, if_true] at h2 <;> omega
        · have hne : (r.pk == pk) = false := by simpa using hpk
          have hne' : ¬ pk = r.pk := fun h => hpk h.symm
          simp only [hne, Bool.false_eq_true, if_false, Bool.false_and, hne'] at hset ⊢
          omega

theorem sf_run (P : Params) (labels : List Label) : ∀ s, SF P s → SF P (run P s labels) := by
  induction labels with
  | nil => intro s h; exact h
  | cons l ls ih => intro s h; exact ih _ (sf_step P s l h)

/-! ### the client threads' own progress -/

def clientPc (s : State) (i : Nat) : Option CPc := (s.clients[i]?).map (·.pc)

/-- number of own steps a client thread still has to take -/
def CPc.rank : CPc → Nat
  | .start => 4
  | .looked _ => 3
  | .spawning _ => 2
  | .ready _ => 1
  | .responded _ => 0
  | .missed => 0

/-- the hit a client thread holds -/
def CPc.hit : CPc → Option Hit
  | .looked h => some h
  | .spawning h => some h
  | .ready h => some h
  | .responded h => some h
  | _ => none

/-- One own step of a client thread that exists: only its program counter changes, to one of rank at least one
    lower (until 0), and a held hit is kept. Every fact about a client thread's own progress comes from here. -/
theorem clientStep_own (P : Params) (s : State) (i now : Nat) (c : Client) (hc : s.clients[i]? = some c) :
    ∃ pc', (clientStep P s i now).clients = s.clients.set i { c with pc := pc' } ∧ pc'.rank ≤ c.pc.rank - 1 ∧
      (∀ hit, c.pc.hit = some hit → pc'.hit = some hit) := by
  obtain ⟨hi, he⟩ := List.getElem?_eq_some_iff.1 hc
  have hsame : ∀ pc, c.pc = pc → s.clients = s.clients.set i { c with pc := pc } := by
    intro pc h; subst h he; exact (List.set_getElem_self hi).symm
  unfold clientStep
  simp only [hc]
  -- the ranks are numerals once the pc's constructor is known, but the terms mention the hit: `Nat.ble` by `rfl`
  -- where `decide` would refuse the free variable
  cases hpc : c.pc with
  | start =>
    simp only
    cases cacheGet P.clock s.mem c.key now with
    | none => exact ⟨.missed, rfl, Nat.le_of_ble_eq_true rfl, nofun⟩
    | some p => exact ⟨.looked ⟨p.1, p.2.stored, p.2.expire, p.2.id⟩, rfl, Nat.le_of_ble_eq_true rfl, nofun⟩
  | looked h =>
    simp only
    split
    · split
      · exact ⟨.spawning h, rfl, Nat.le_of_ble_eq_true rfl, fun _ e => e⟩
      · exact ⟨.ready h, rfl, Nat.le_of_ble_eq_true rfl, fun _ e => e⟩
    · exact ⟨.ready h, rfl, Nat.le_of_ble_eq_true rfl, fun _ e => e⟩
  | spawning h => exact ⟨.ready h, rfl, Nat.le_of_ble_eq_true rfl, fun _ e => e⟩
  | ready h => exact ⟨.responded h, rfl, Nat.le_of_ble_eq_true rfl, fun _ e => e⟩
  | responded h => exact ⟨.responded h, hsame _ hpc, Nat.le_of_ble_eq_true rfl, fun _ e => e⟩
  | missed => exact ⟨.missed, hsame _ hpc, Nat.le_of_ble_eq_true rfl, nofun⟩

theorem clientStep_absent (P : Params) (s : State) (i now : Nat) (hc : s.clients[i]? = none) :
    clientStep P s i now = s := by
  unfold clientStep
  rw [hc]

theorem clientStep_length (P : Params) (s : State) (i now : Nat) :
    (clientStep P s i now).clients.length = s.clients.length := by
  cases hc : s.clients[i]? with
  | none => rw [clientStep_absent P s i now hc]
  | some c =>
    obtain ⟨pc', h, -, -⟩ := clientStep_own P s i now c hc
    rw [h, List.length_set]

theorem clientStep_other (P : Params) (s : State) (i i' now : Nat) (h : i' ≠ i) :
    clientPc (clientStep P s i' now) i = clientPc s i := by
  cases hc : s.clients[i']? with
  | none => rw [clientStep_absent P s i' now hc]
  | some c =>
    obtain ⟨pc', h', -, -⟩ := clientStep_own P s i' now c hc
    unfold clientPc
    rw [h', List.getElem?_set_ne h]

theorem clientStep_self (P : Params) (s : State) (i now : Nat) (pc : CPc) (h : clientPc s i = some pc) :
    ∃ pc', clientPc (clientStep P s i now) i = some pc' ∧ pc'.rank ≤ pc.rank - 1 ∧
      (∀ hit, pc.hit = some hit → pc'.hit = some hit) := by
  unfold clientPc at h
  cases hc : s.clients[i]? with
  | none => rw [hc] at h; cases h
  | some c =>
    rw [hc] at h
    cases h
    obtain ⟨hi, -⟩ := List.getElem?_eq_some_iff.1 hc
    obtain ⟨pc', h', hr, hh⟩ := clientStep_own P s i now c hc
    refine ⟨pc', ?_, hr, hh⟩
    unfold clientPc
    rw [h', List.getElem?_set_self hi]
    rfl

/-- steps of refresh goroutines never touch a client thread -/
theorem step_refresher_clients (P : Params) (s : State) (l : Label) (hl : ∀ i now, l ≠ .client i now) :
    (step P s l).clients = s.clients := by
  cases l with
  | client i now => exact absurd rfl (hl i now)
  | forward j out =>
    show (forwardStep s j out).clients = s.clients
    unfold forwardStep
    cases s.refreshers[j]? with
    | none => rfl
    | some r => simp only; cases r.pc <;> cases out <;> rfl
  | store j now delay =>
    show (storeStep P s j now delay).clients = s.clients
    unfold storeStep
    cases s.refreshers[j]? with
    | none => rfl
    | some r => simp only; cases r.pc <;> rfl
  | done j =>
    show (doneStep s j).clients = s.clients
    unfold doneStep
    cases s.refreshers[j]? with
    | none => rfl
    | some r => simp only; cases r.pc <;> rfl

/-- a refresh goroutine run to its end on its own: the exchange returns `out`, a reply is stored, the
    reservation is released -/
theorem refresh_run (P : Params) (s : State) (j : Nat) (r : Refresher) (out : Upstream) (t d : Nat)
    (hr : s.refreshers[j]? = some r) (hpc : r.pc = .spawned) :
    run P s [.forward j out, .store j t d, .done j] =
      { s with
        mem := match out with
          | .err => s.mem
          | .reply m => cacheStore P.clock P.cfg s.mem r.key (some (removeEDNS0 m)) t d s.nextId
        nextId := match out with
          | .err => s.nextId
          | .reply _ => s.nextId + 1
        queue := done s.queue r.pk
        refreshers := s.refreshers.set j { r with pc := .finished } } := by
  obtain ⟨hj, -⟩ := List.getElem?_eq_some_iff.1 hr
  cases out with
  | err =>
    -- `return` before Store (`spawned → finishing`), the Store step stutters, `done`
    simp only [run, step, forwardStep, hr, hpc]
    simp [storeStep, doneStep, hj]
  | reply m =>
    -- `spawned → fetched → finishing → finished`
    simp only [run, step, forwardStep, hr, hpc]
    simp [storeStep, doneStep, hj]

/-! ### the reserve/done model against its specification -/

/-- the model's answers are accepted from any queue, by any list of held keys that agrees with the queue -/
theorem specCtl_model (ops : List CtlOp) : ∀ (q : Queue) (held : List Nat), (∀ k, held.contains k = q k) →
    specCtl held ops (modelCtl q ops) = true := by
  induction ops with
  | nil => intro q held _; rfl
  | cons op rest ih =>
    intro q held hq
    have hres : ∀ k, specCtl held (.reserve k :: rest) ((if (reserve q k).2 then 1 else 0) :: modelCtl (reserve q k).1 rest) = true := by
      intro k
      by_cases hk : q k = true
      · have hc : held.contains k = true := by rw [hq]; exact hk
        rw [reserve_held _ _ hk]
        simp only [specCtl, hc, if_true, Bool.false_eq_true, if_false, Bool.and_eq_true]
        exact ⟨by decide, by simpa using ih q held hq⟩
      · have hkf : q k = false := by simpa using hk
        have hc : held.contains k = false := by rw [hq]; exact hkf
        rw [reserve_free _ _ hkf]
        simp only [specCtl, hc, if_true, Bool.false_eq_true, if_false, Bool.and_eq_true]
        refine ⟨by decide, ?_⟩
        have : ((1 : Nat) == 1) = true := rfl
        simp only [this, if_true]
        apply ih
        intro k'
        by_cases hkk : k' = k
        · subst hkk; simp
        · simp only [hkk, if_false]
          rw [← hq k']
          simp [List.contains_cons, hkk]
    cases op with
    | reserve k => simpa [modelCtl] using hres k
    | done k =>
      simp only [modelCtl, specCtl]
      apply ih
      intro k'
      simp only [done]
      by_cases hkk : k' = k
      · subst hkk; simp [List.contains_eq_any_beq]
      · simp only [hkk, if_false]
        rw [← hq k']
        simp only [List.contains_eq_any_beq, List.any_filter]
        congr 1
        funext x
        by_cases hx : x = k
        · subst hx; simp [hkk]
        · simp [hx]
    | par k n =>
      simp only [modelCtl]
      by_cases hn : n = 0
      · subst hn
        simp only [if_true, specCtl]
        have : ((0 : Nat) == 1) = false := rfl
        simp only [this, Bool.false_eq_true, if_false, Bool.and_eq_true]
        refine ⟨?_, ih q held hq⟩
        split <;> decide
      · simp only [hn, if_false]
        have := hres k
        simpa [specCtl] using this

end MosVerif.Prefetch
