/-
  Wire codec (C09), on Lemmas/CodecWF: the size-limited section loops of `Msg.Pack`, then what `PopEDNS0` returns
  (swap-remove of the last OPT record) and how the TC bit is or-ed into the packed flag word.
  Everything about the loops is proved once, of a `SectionLoop` (Lemmas/CodecMsg.lean): a limited loop that succeeds is the unlimited loop on the sub-list it retained
  (`ok_kept`); on well-formed elements the running offset never passes the budget and nothing is
  skipped when all that is left fits (`within_budget`).
-/
import MosVerif.Lemmas.CodecWF
namespace MosVerif.Wire

variable {α : Type} {len : α → Nat} {pack : Nat → Option Table → α → Res (Bytes × Option Table)}
  {loop : Option Nat → List α → PState → Res (PState × Nat)} {kept : Option Nat → List α → PState → List α}

theorem SectionLoop.kept_sublist (h : SectionLoop len pack loop kept) (limit : Option Nat) (xs : List α) :
    ∀ s, (kept limit xs s).Sublist xs := by
  induction xs with
  | nil =>
    intro s
    rw [h.kept_nil]
    exact .slnil
  | cons x xs ih =>
    intro s
    rw [h.kept_cons]
    split
    · exact (ih s).cons x
    · split
      · exact (ih _).cons_cons x
      · exact (List.nil_sublist _).cons_cons x

theorem SectionLoop.kept_singleton (h : SectionLoop len pack loop kept) {limit : Option Nat} {x : α} {s : PState}
    (hs : skips limit (12 + s.body.length) (len x) = false) : kept limit [x] s = [x] := by
  rw [h.kept_cons, hs, if_neg Bool.false_ne_true]
  split
  · rw [h.kept_nil]
  · rfl

/-- A limited loop that succeeds is the unlimited loop on what it kept; the number of skipped
    elements is the difference of the lengths. No well-formedness needed. -/
theorem SectionLoop.ok_kept (h : SectionLoop len pack loop kept) {limit : Option Nat} {xs : List α} :
    ∀ {s s' : PState} {k : Nat}, loop limit xs s = .ok (s', k) →
      loop none (kept limit xs s) s = .ok (s', 0) ∧ k + (kept limit xs s).length = xs.length := by
  induction xs with
  | nil =>
    intro s s' k hl
    rw [h.loop_nil] at hl
    cases hl
    rw [h.kept_nil]
    exact ⟨h.loop_nil _ _, rfl⟩
  | cons x xs ih =>
    intro s s' k hl
    rw [h.loop_cons] at hl
    rw [h.kept_cons]
    split at hl
    · rename_i hs
      obtain ⟨⟨s1, k1⟩, h1, h2⟩ := Res.bind_eq_ok hl
      cases h2
      obtain ⟨e1, e2⟩ := ih h1
      rw [if_pos hs]
      exact ⟨e1, by rw [List.length_cons]; omega⟩
    · rename_i hs
      obtain ⟨⟨bs, tbl⟩, h1, h2⟩ := Res.bind_eq_ok hl
      obtain ⟨e1, e2⟩ := ih (show loop limit xs ⟨s.body ++ bs, tbl⟩ = _ from h2)
      rw [if_neg hs, h1]
      refine ⟨?_, by simp only [List.length_cons]; omega⟩
      rw [h.loop_cons_none, h1]
      exact e1

theorem SectionLoop.kept_eq_of_none_skipped (h : SectionLoop len pack loop kept) {limit : Option Nat} {xs : List α}
    {s s' : PState} (hl : loop limit xs s = .ok (s', 0)) : kept limit xs s = xs :=
  (h.kept_sublist limit xs s).eq_of_length (by rw [← (h.ok_kept hl).2, Nat.zero_add])

theorem SectionLoop.none_append (h : SectionLoop len pack loop kept) (a b : List α) :
    ∀ s, loop none (a ++ b) s = loop none a s >>= fun p => loop none b p.1 := by
  induction a with
  | nil =>
    intro s
    rw [h.loop_nil]
    rfl
  | cons x a ih =>
    intro s
    rw [List.cons_append, h.loop_cons_none, h.loop_cons_none]
    cases pack (12 + s.body.length) s.tbl x with
    | ok p => exact ih _
    | err => rfl
    | panic => rfl

theorem SectionLoop.none_skips_nothing (h : SectionLoop len pack loop kept) {xs : List α} :
    ∀ {s s' : PState} {k : Nat}, loop none xs s = .ok (s', k) → k = 0 := by
  induction xs with
  | nil =>
    intro s s' k hl
    rw [h.loop_nil] at hl
    cases hl
    rfl
  | cons x xs ih =>
    intro s s' k hl
    rw [h.loop_cons_none] at hl
    obtain ⟨p, _, h2⟩ := Res.bind_eq_ok hl
    exact ih h2

/-- A loop with budget `L` over well-formed elements, whose packer is as `packQuestion_enc` and
    `packResource_enc` say (`hpack`; `H` stands for the 12 header octets written last).  Two invariants,
    each in the form in which it passes from one section to the next: the offset stays within
    `max 12 L`; and while the offset plus all that is still to come (this section and `rest`) is within
    `L`, nothing is skipped. -/
theorem SectionLoop.within_budget (h : SectionLoop len pack loop kept) {wf : α → Bool}
    {dec : Bytes → Nat → Res (α × Nat)} (H : Bytes) (hH : H.length = 12)
    (hpack : ∀ buf off, off = buf.length → ∀ tbl x, wf x = true → TableOK' buf tbl →
      ∃ bs tbl', pack off tbl x = .ok (bs, tbl') ∧ Enc dec buf tbl x (len x) bs tbl')
    (L : Nat) (xs : List α) :
    ∀ {s s' : PState} {k : Nat}, (∀ x ∈ xs, wf x = true) → TableOK' (H ++ s.body) s.tbl →
      loop (some L) xs s = .ok (s', k) →
      TableOK' (H ++ s'.body) s'.tbl ∧
      (12 + s.body.length ≤ max 12 L → 12 + s'.body.length ≤ max 12 L) ∧
      (∀ rest, 12 + s.body.length + ((xs.map len).sum + rest) ≤ L → k = 0 ∧ 12 + s'.body.length + rest ≤ L) := by
  induction xs with
  | nil =>
    intro s s' k _ hT hl
    rw [h.loop_nil] at hl
    cases hl
    exact ⟨hT, id, fun rest hfit => ⟨rfl, by rw [List.map_nil, List.sum_nil, Nat.zero_add] at hfit; exact hfit⟩⟩
  | cons x xs ih =>
    intro s s' k hwf hT hl
    rw [h.loop_cons] at hl
    rw [List.map_cons, List.sum_cons]
    split at hl
    · rename_i hs
      obtain ⟨⟨s1, k1⟩, h1, h2⟩ := Res.bind_eq_ok hl
      cases h2
      obtain ⟨c1, c2, _⟩ := ih (fun y hy => hwf y (List.mem_cons_of_mem x hy)) hT h1
      rw [skips_some] at hs
      exact ⟨c1, c2, fun rest hfit => by omega⟩
    · rename_i hs
      obtain ⟨bs, tbl, hp, hE⟩ := hpack (H ++ s.body) (12 + s.body.length) (by rw [List.length_append, hH]) s.tbl x
        (hwf x List.mem_cons_self) hT
      rw [hp] at hl
      obtain ⟨c1, c2, c3⟩ := ih (s := ⟨s.body ++ bs, tbl⟩) (fun y hy => hwf y (List.mem_cons_of_mem x hy))
        (List.append_assoc H s.body bs ▸ hE.table) hl
      have hle := hE.le
      rw [skips_some] at hs
      rw [List.length_append] at c2 c3
      exact ⟨c1, fun _ => c2 (by omega), fun rest hfit => c3 rest (by omega)⟩

/-! ### PopEDNS0 (swap-remove of the last OPT record) -/

theorem lastOptIdx_some {rs : List Resource} {i : Nat} (h : lastOptIdx rs = some i) :
    ∃ o, rs[i]? = some o ∧ o.rtype = typeOPT := by
  obtain ⟨ys, hys⟩ := List.getLast?_eq_some_iff.1 h
  have hmem := List.mem_filter.1 (hys ▸ List.mem_append_right ys (List.mem_singleton_self i))
  cases hr : rs[i]? with
  | none =>
    rw [hr] at hmem
    cases hmem.2
  | some o => rw [hr] at hmem; exact ⟨o, rfl, beq_iff_eq.1 hmem.2⟩

/-- swap-remove (the last element moves into slot `i`, the list loses its last place) is a
    permutation: the element taken out, then what is left -/
theorem swapRemove_perm {α : Type} {last : α} : ∀ {ys : List α} {i : Nat} {o : α}, (ys ++ [last])[i]? = some o →
    (o :: ((ys ++ [last]).set i last).dropLast).Perm (ys ++ [last])
  | [], 0, o, ho => by cases ho; exact .refl _
  | [], j + 1, o, ho => by cases ho
  | a :: ys, 0, o, ho => by
    cases ho
    show (a :: ((last :: ys) ++ [last]).dropLast).Perm _
    rw [List.dropLast_concat]
    exact (List.perm_append_comm (l₁ := [last])).cons a
  | a :: ys, j + 1, o, ho => by
    show (o :: (a :: (ys ++ [last]).set j last).dropLast).Perm (a :: (ys ++ [last]))
    rw [List.dropLast_cons_of_ne_nil (by simp)]
    exact (List.Perm.swap a o _).trans ((swapRemove_perm (ys := ys) (i := j) ho).cons a)

theorem popEDNS0_spec (rs : List Resource) :
    popEDNS0 rs = (none, rs) ∨
    ∃ o rs', popEDNS0 rs = (some o, rs') ∧ o.rtype = typeOPT ∧ (o :: rs').Perm rs := by
  unfold popEDNS0
  cases hi : lastOptIdx rs with
  | none => exact .inl rfl
  | some i =>
    obtain ⟨o, ho, hopt⟩ := lastOptIdx_some hi
    cases hl : rs.getLast? with
    | none => exact .inl (by simp only [ho])
    | some last =>
      obtain ⟨ys, rfl⟩ := List.getLast?_eq_some_iff.1 hl
      simp only [ho]
      exact .inr ⟨o, _, rfl, hopt, swapRemove_perm ho⟩

theorem popEDNS0_none_eq {rs rs' : List Resource} (h : popEDNS0 rs = (none, rs')) : rs' = rs := by
  rcases popEDNS0_spec rs with h' | ⟨o, rs'', h', _⟩
  · exact (Prod.mk.inj (h.symm.trans h')).2
  · cases (Prod.mk.inj (h.symm.trans h')).1

/-! ### the TC bit -/

theorem orIf_or (b : Bool) (m x k : Nat) : (orIf b m x) ||| k = orIf b m (x ||| k) := by
  cases b
  · simp [orIf]
  · simp only [orIf, if_true, lor_eq]
    rw [Nat.or_assoc, Nat.or_comm m k, ← Nat.or_assoc]

/-- or-ing `headerBitTC` into the packed flag word = packing the header with `Truncated` set -/
theorem bitsOfHeader_tc (h : Header) :
    Nat.lor (bitsOfHeader h) headerBitTC = bitsOfHeader { h with truncated := true } := by
  rw [lor_eq, bitsOfHeader_orIf, bitsOfHeader_orIf, headerBitTC, orIf_or, orIf_or, orIf_or, orIf_or, orIf_or]
  congr 5
  cases h.truncated
  · simp [orIf]
  · simp only [orIf, if_true, lor_eq]
    rw [Nat.or_assoc, Nat.or_self]

theorem bitsOfHeader_or_tc (h : Header) (p : Prop) [Decidable p] :
    bitsOfHeader { h with truncated := h.truncated || decide p } =
      if p then Nat.lor (bitsOfHeader h) headerBitTC else bitsOfHeader h := by
  split
  · rename_i hp
    rw [bitsOfHeader_tc, decide_eq_true hp, Bool.or_true]
  · rename_i hp
    rw [decide_eq_false hp, Bool.or_false]

end MosVerif.Wire
