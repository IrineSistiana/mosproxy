/-
  Tie by translation (C10): the reject test of the rule scan (`rejectRCode := matchedRule.reject; rejectRCode > 0`,
  router.go `handleReq`) and the range check of a rule's `reject` value (`cfg.Reject < 0 || cfg.Reject > 15`, rule.go
  `loadRule`, fix 871570a), translated mechanically from the current Go source, equal the tests `Router.handleReq`
  and `LoadCfg.acceptsFull` branch on.
-/
import MosVerif.Generated.Translated
import MosVerif.Lemmas.TranslatedTactics
import MosVerif.Model.Router
import MosVerif.Model.LoadCfg
namespace MosVerif.Router
open MosVerif

/-- `rejectRCode > 0`: the matched rule is a reject rule -/
theorem rejectCond_translated (rc : Nat) : isReject rc = Translated.c10_rejectCond rc := by
  unfold isReject Translated.c10_rejectCond
  bool_arith

/-- a rule is loaded iff NOT `cfg.Reject < 0 || cfg.Reject > 15` (the model's configuration values are naturals:
    the negative half of the test is never taken) -/
theorem rejectRange_translated (r : Nat) :
    LoadCfg.rejectInRange r = !Translated.c10_rejectRange (r : Int) := by
  unfold LoadCfg.rejectInRange Translated.c10_rejectRange
  bool_arith

/-- … and a negative value is refused by the source's test -/
theorem rejectRange_negative (r : Int) (h : r < 0) : Translated.c10_rejectRange r = true := by
  unfold Translated.c10_rejectRange
  simp only [Bool.or_eq_true, decide_eq_true_eq]
  omega

end MosVerif.Router
