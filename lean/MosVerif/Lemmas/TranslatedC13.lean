/-
  Tie by translation (C13): the integer / boolean tests of the framing state machine of
  `gnetServer.OnTraffic` (app/router/server_tcp_gnet_linux.go) — `cc.readingHdr`, `hdrRemains` / `bodyRemains`,
  `cc.readN < 2`, `cc.readN < len(cc.buffer)`, `len(hdr) < 2`, `len(body) < l`, the admission test
  `ccr > e.maxConcurrent || limiter != nil`, the re-loop test `c.InboundBuffered() > 0` — the admission
  test of `tcpServer.handleConn` (app/router/server_tcp.go) and the idle-deadline tests of both listeners
  (`idleLoopB`, `gnetIdleB`) are translated mechanically from the current Go
  source (`Generated/Translated.lean`, fragments `c13_…` of `extract/translate.d/C13.json`).  Each theorem shows,
  for ALL arguments, that the model function (`Model/Gnet.lean`, `Model/Framing.lean`) IS the function that
  branches on / computes exactly the translated fragments (Go `int`s are `Int`; the model's `Nat`s are cast).
  The gnet model takes the client limiter to allow every query (`limited = false`, see Model/Gnet.lean).
-/
import MosVerif.Generated.Translated
import MosVerif.Lemmas.TranslatedTactics
import MosVerif.Model.Framing
namespace MosVerif.Gnet
open MosVerif

/-! ### what each translated fragment computes (robust against harmless rewrites of the Go source) -/
theorem c13_gnet_readingHdrCond_eq (b : Bool) : Translated.c13_gnet_readingHdrCond b = b := by
  cases b <;> rfl

theorem c13_gnet_hdrRemains_eq (n r : Int) : Translated.c13_gnet_hdrRemains n r = n - r := by
  unfold Translated.c13_gnet_hdrRemains
  tr_val

theorem c13_gnet_hdrDoneCond_eq (r : Int) : Translated.c13_gnet_hdrDoneCond r = decide (r < 2) := by
  unfold Translated.c13_gnet_hdrDoneCond
  bool_arith

theorem c13_gnet_bodyRemains_eq (n r : Int) : Translated.c13_gnet_bodyRemains n r = n - r := by
  unfold Translated.c13_gnet_bodyRemains
  tr_val

theorem c13_gnet_bodyDoneCond_eq (r n : Int) : Translated.c13_gnet_bodyDoneCond r n = decide (r < n) := by
  unfold Translated.c13_gnet_bodyDoneCond
  bool_arith

theorem c13_gnet_hdrShortCond_eq (n : Int) : Translated.c13_gnet_hdrShortCond n = decide (n < 2) := by
  unfold Translated.c13_gnet_hdrShortCond
  bool_arith

theorem c13_gnet_bodyShortCond_eq (n l : Int) : Translated.c13_gnet_bodyShortCond n l = decide (n < l) := by
  unfold Translated.c13_gnet_bodyShortCond
  bool_arith

theorem c13_gnet_limitCond_eq (ccr m : Int) (limited : Bool) :
    Translated.c13_gnet_limitCond ccr m limited = (decide (ccr > m) || limited) := by
  unfold Translated.c13_gnet_limitCond
  cases limited <;> bool_arith

theorem c13_gnet_reloopCond_eq (n : Int) : Translated.c13_gnet_reloopCond n = decide (n > 0) := by
  unfold Translated.c13_gnet_reloopCond
  bool_arith

theorem c13_tcp_limitCond_eq (cc m : Int) (limited : Bool) :
    Translated.c13_tcp_limitCond cc m limited = (decide (cc > m) || limited) := by
  unfold Translated.c13_tcp_limitCond
  cases limited <;> bool_arith

theorem c13_tcp_busyCond_eq (n load : Int) (deadline : Bool) :
    Translated.c13_tcp_busyCond n load deadline = (decide (n = 0) && decide (load > 0) && deadline) := by
  unfold Translated.c13_tcp_busyCond
  cases deadline <;> bool_arith

theorem c13_gnet_timerBusyCond_eq (load : Int) :
    Translated.c13_gnet_timerBusyCond load = decide (load > 0) := by
  unfold Translated.c13_gnet_timerBusyCond
  bool_arith

/-- the body phase: `bodyRemains := len(cc.buffer) - cc.readN` and `cc.readN < len(cc.buffer)`. -/
theorem readBody_translated (cc : ConnCtx) (buf inb : Bytes) :
    readBody cc buf inb =
      (let nx := next inb (Translated.c13_gnet_bodyRemains (buf.length : Int) (cc.readN : Int))
       if cc.readN > buf.length then .panic else
       let cp := goCopy buf cc.readN nx.1
       let cc := { cc with buffer := some cp.1, readN := cc.readN + cp.2 }
       if Translated.c13_gnet_bodyDoneCond (cc.readN : Int) (cp.1.length : Int) then .ret cc nx.2
       else .msg { cc with buffer := none } nx.2 cp.1) := by
  simp only [c13_gnet_bodyRemains_eq, c13_gnet_bodyDoneCond_eq]
  unfold readBody
  simp only [Int.ofNat_lt, decide_eq_true_eq]

/-- one pass from `read:` to the decode step: every integer / boolean test is the translated one. -/
theorem readOne_translated (cc : ConnCtx) (inb : Bytes) :
    readOne cc inb =
      match cc.buffer with
      | some buf =>
        if Translated.c13_gnet_readingHdrCond cc.readingHdr then
          let nx := next inb (Translated.c13_gnet_hdrRemains (buf.length : Int) (cc.readN : Int))
          if cc.readN > buf.length then .panic else
          let cp := goCopy buf cc.readN nx.1
          let cc := { cc with buffer := some cp.1, readN := cc.readN + cp.2 }
          if Translated.c13_gnet_hdrDoneCond (cc.readN : Int) then .ret cc nx.2
          else
            match cp.1 with
            | a :: b :: _ =>
              let buf := getBuf (rd16 a b)
              readBody { cc with buffer := some buf, readN := 0, readingHdr := false } buf nx.2
            | _ => .panic
        else readBody cc buf inb
      | none =>
        let nx := next inb 2
        if Translated.c13_gnet_hdrShortCond (nx.1.length : Int) then
          let cp := goCopy (getBuf 2) 0 nx.1
          .ret { cc with buffer := some cp.1, readN := cp.2, readingHdr := true } nx.2
        else
          match nx.1 with
          | a :: b :: _ =>
            let l := rd16 a b
            let nb := next nx.2 (l : Int)
            if Translated.c13_gnet_bodyShortCond (nb.1.length : Int) (l : Int) then
              let cp := goCopy (getBuf l) 0 nb.1
              .ret { cc with buffer := some cp.1, readN := cp.2, readingHdr := false } nb.2
            else .msg cc nb.2 nb.1
          | _ => .panic := by
  simp only [c13_gnet_readingHdrCond_eq, c13_gnet_hdrRemains_eq, c13_gnet_hdrDoneCond_eq,
    c13_gnet_hdrShortCond_eq, c13_gnet_bodyShortCond_eq]
  unfold readOne
  have h2 : ∀ n : Nat, ((n : Int) < 2) = (n < 2) := fun n => by apply propext; omega
  simp only [Int.ofNat_lt, decide_eq_true_eq, h2]
  rfl

/-- one pass of the `read:` loop of `OnTraffic`: the admission test (`limited = false`: the limiter allows the
    query) and the re-loop test are the translated ones. -/
theorem onTraffic_translated (dec : Bytes → Bool) (max fuel : Nat) (cc : ConnCtx) (inb : Bytes) :
    onTraffic dec max (fuel + 1) cc inb =
      match readOne cc inb with
      | .panic => ⟨cc, inb, [], .panic⟩
      | .ret cc inb => ⟨cc, inb, [], .none⟩
      | .msg cc inb body =>
        if dec body = false then ⟨cc, inb, [], .close⟩
        else
          let ccr := cc.concurrent + 1
          let refuse := Translated.c13_gnet_limitCond (ccr : Int) (max : Int) false
          let ev := if refuse then Event.refused body else Event.query body
          let cc := if refuse then cc else { cc with concurrent := ccr }
          if Translated.c13_gnet_reloopCond (inboundBuffered inb : Int) then
            let r := onTraffic dec max fuel cc inb
            { r with evs := ev :: r.evs }
          else ⟨cc, inb, [ev], .none⟩ := by
  rw [onTraffic]
  simp only [c13_gnet_limitCond_eq, c13_gnet_reloopCond_eq]
  have h0 : ∀ n : Nat, ((n : Int) > 0) = (n > 0) := fun n => by apply propext; omega
  have hm : ∀ a b : Nat, ((a : Int) > (b : Int)) = (a > b) := fun a b => by apply propext; omega
  simp only [Bool.or_false, decide_eq_true_eq, h0, hm]
  rfl

/-- the loop of `tcpServer.handleConn`: the admission test `cc > s.maxConcurrent || limiter != nil`. -/
theorem handleConn_translated (dec : Bytes → Bool) (max : Nat) (done : Nat → Nat) (lim : Nat → Bool)
    (fuel i : Nat) (cs : Framing.Chunks) (running : Nat) :
    Framing.handleConn dec max done lim (fuel + 1) i cs running =
      match Framing.readMsgFromTCP dec cs with
      | .panic => ([], .panic)
      | .err n => ([], .closed n)
      | .invalid _ => ([], .invalid)
      | .msg body rest =>
        let running := running - done i
        let cc := running + 1
        if Translated.c13_tcp_limitCond (cc : Int) (max : Int) (lim i) then
          let r := Framing.handleConn dec max done lim fuel (i + 1) rest running
          (.refused body :: r.1, r.2)
        else
          let r := Framing.handleConn dec max done lim fuel (i + 1) rest cc
          (.query body :: r.1, r.2) := by
  rw [Framing.handleConn]
  simp only [c13_tcp_limitCond_eq]
  have hm : ∀ a b : Nat, decide ((a : Int) > (b : Int)) = decide (a > b) := fun a b => by
    congr 1; apply propext; omega
  simp only [hm]
  rfl

/-- the idle deadline of `tcpServer.handleConn` firing before the message is whole: the `continue` test
    `n == 0 && concurrent.Load() > 0 && errors.Is(err, os.ErrDeadlineExceeded)` — for every `n` / counter value
    that mean what the model's abstractions say (`n = 0` iff nothing of the message had arrived at the deadline,
    i.e. `p > now + idle`; the counter is positive iff `busy` at the deadline; the error IS the deadline). -/
theorem idleLoopB_translated (idle : Nat) (busy : Nat → Bool) (lag : Nat → Nat) (fuel j now p a : Nat)
    (as : List (Nat × Nat)) (n load : Int)
    (hn : n = 0 ↔ p > now + idle) (hl : load > 0 ↔ busy (now + idle) = true) :
    Framing.idleLoopB idle busy lag (fuel + 1) j now ((p, a) :: as) =
      if a ≤ now + idle then 1 + Framing.idleLoopB idle busy lag fuel (j + 1) (Nat.max now a + lag j) as
      else if Translated.c13_tcp_busyCond n load true then
        Framing.idleLoopB idle busy lag fuel j (now + idle) ((p, a) :: as)
      else 0 := by
  rw [Framing.idleLoopB, c13_tcp_busyCond_eq]
  have e : (decide (n = 0) && decide (load > 0) && true) = (decide (p > now + idle) && busy (now + idle)) := by
    rw [Bool.eq_iff_iff]; simp [hn, hl]
  rw [e]

/-- the gnet idle timer's callback: `if cc.concurrentRequests.Load() > 0 { re-arm } else { c.Close() }`, for
    every counter value that is positive iff the model's `busy` holds when the timer fires. -/
theorem gnetIdleB_translated (idle : Nat) (busy : Nat → Bool) (fuel last t : Nat) (ts : List Nat) (load : Int)
    (hl : load > 0 ↔ busy (last + idle) = true) :
    Framing.gnetIdleB idle busy (fuel + 1) last (t :: ts) =
      if t < last + idle then 1 + Framing.gnetIdleB idle busy fuel (Nat.max last t) ts
      else if Translated.c13_gnet_timerBusyCond load then Framing.gnetIdleB idle busy fuel (last + idle) (t :: ts)
      else 0 := by
  rw [Framing.gnetIdleB, c13_gnet_timerBusyCond_eq]
  have e : decide (load > 0) = busy (last + idle) := by
    rw [Bool.eq_iff_iff]; simp [hl]
  rw [e]

end MosVerif.Gnet
