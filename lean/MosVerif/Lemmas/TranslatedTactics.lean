/-
  Tie by translation, the common part. `Generated/Translated.lean` is regenerated from the Go source on every run, so
  a proof about a translated fragment that contains a comparison or arithmetic must not depend on how it is spelt
  there (`24 > l`, `l <= 23`, swapped conjuncts): such a fragment is brought, by propositional reasoning and linear
  arithmetic only, to the form in which the model has it (the `…_eq` lemmas of the `TranslatedCxx` files, or directly
  inside the tie), and the model is compared with that. The two tactics below do this step: one for Boolean tests,
  one for the `Id.run do` blocks of the integer computations. A fragment without arithmetic (a Boolean variable, a
  conjunction of Boolean variables, a constant) has nothing to respell and is tied by `rfl` / `cases … <;> rfl`.
-/
/-- two Boolean tests built from `decide`s of linear (in)equalities with `&&`, `||`, `!` (possibly inside an
    `Id.run do` block) are equal: read both as propositions, compare by linear arithmetic. Boolean variables are
    to be eliminated by `cases` before (hence the lemmas on `true` and `false`). With the spelling of the model
    the first or the second step already closes the goal: each later step acts on what is left, if anything. -/
macro "bool_arith" : tactic =>
  `(tactic| (rw [Bool.eq_iff_iff] <;>
      simp only [Id.run, pure, Bool.and_eq_true, Bool.or_eq_true, Bool.not_eq_true', Bool.not_eq_eq_eq_not,
        Bool.not_true, Bool.not_false, Bool.or_eq_false_iff, Bool.and_eq_false_imp, bne_iff_ne, beq_iff_eq, ne_eq,
        decide_eq_true_eq, decide_eq_false_iff_not, Bool.true_eq_false, Bool.false_eq_true, eq_self, true_and,
        and_true, false_and, and_false, true_or, or_true, false_or, or_false, iff_self] <;> omega))

/-- a translated integer computation (`Id.run do` with `let mut` variables and `if`s without `else`) against its
    closed form: run the block — every `if` then stands in front of both continuations, and those that do not
    touch the returned variable merge again by `ite_self` —, then compare branch by branch by linear arithmetic. -/
macro "tr_val" : tactic =>
  `(tactic| (simp only [Id.run, pure, ite_self, ↓reduceIte, Bool.false_eq_true, true_and, false_and,
        Bool.and_eq_true, Bool.or_eq_true, decide_eq_true_eq] <;> (repeat' split) <;> omega))
