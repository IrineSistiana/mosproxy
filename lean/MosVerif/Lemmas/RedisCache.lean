/-
  C08 — invariants of the cache model with the redis backend (Model/RedisCache.lean) over arbitrary histories,
  including SETs that redis applies late or never.
-/
import MosVerif.Model.RedisCache
import MosVerif.Lemmas.TtlHist
namespace MosVerif.RedisCache
open MosVerif.Ttl

/-- every lifetime is a whole number of seconds when the maximum is -/
theorem storeTtl_whole (m : Msg) (cap : Int) (hc : cap % second = 0) (hpos : 0 < cap) :
    ∃ l : Nat, storeTtl m cap = (l : Nat) * second := by
  obtain ⟨k, rfl⟩ : ∃ k : Nat, cap = (k : Nat) * second := ⟨(cap / second).toNat, by unfold second at *; omega⟩
  exact ⟨_, storeTtl_sec m k⟩

/-- truncating both ends of a whole-second lifetime to Unix seconds keeps the lifetime -/
theorem floorSec_add (now l : Nat) :
    ((floorSec ((now : Int) + (l : Nat) * second).toNat : Nat) : Int) = (floorSec now : Nat) + (l : Nat) * second := by
  have h : ((now : Int) + (l : Nat) * second).toNat = now + l * G := by unfold second G; omega
  rw [h]
  unfold floorSec G second
  omega

structure RCfgOK (cfg : RCfg) : Prop where
  pos : 0 < cfg.maximumTtl
  whole : cfg.maximumTtl % second = 0

theorem rcfgOK_init (mem red : Bool) (c : Int) (h1 : -9223372037 < c) (h2 : c < 9223372037) :
    RCfgOK ⟨mem, red, initMaxTtl c⟩ := by
  refine ⟨initMaxTtl_pos c h1 h2, ?_⟩
  rw [initMaxTtl_sec c h1 h2]
  exact Int.mul_emod_left _ _

/-- what is true of every redis value and of every waiting SET: the Unix seconds it carries are a lifetime of the
    policy apart, and the message is not truncated -/
structure ValOK (max : Int) (stored expire : Nat) (msg : Msg) : Prop where
  life : (expire : Int) = stored + storeTtl msg max
  notTC : msg.tc = false

structure RInv (cfg : RCfg) (off : Nat) (st : RState) : Prop where
  mem : Inv ⟨true, cfg.maximumTtl⟩ off st.mem
  redis : ∀ k v, st.redis k = some v → ValOK cfg.maximumTtl v.stored v.expire v.msg
  pending : ∀ op ∈ st.pending, ValOK cfg.maximumTtl op.stored op.expire op.msg

theorem rinv_empty (cfg : RCfg) (off : Nat) : RInv cfg off RState.empty :=
  ⟨inv_empty _ _, by intro k v h; simp [RState.empty] at h, by intro op h; simp [RState.empty] at h⟩

theorem rStore_inv (clock : Nat → Nat) (off : Nat) (cfg : RCfg) (hcfg : RCfgOK cfg) (st : RState) (k : Nat)
    (resp : Option Msg) (now delay id : Nat) (hclk : ClockOK clock off) (hd : delay < G) (h : RInv cfg off st) :
    RInv cfg off (rStore clock cfg st k resp now delay id) := by
  unfold rStore
  cases hs : store (cfg.hasMem || cfg.hasRedis) resp cfg.maximumTtl with
  | none => exact h
  | some c =>
    cases resp with
    | none => cases hb : (cfg.hasMem || cfg.hasRedis) <;> simp [store, hb] at hs
    | some m =>
      obtain ⟨-, htc, hmsg, httl, -⟩ := store_some _ _ _ _ hs
      obtain ⟨l, hl⟩ := storeTtl_whole m cfg.maximumTtl hcfg.whole hcfg.pos
      have hmem : Inv ⟨true, cfg.maximumTtl⟩ off
          (if cfg.hasMem = true then cacheStore clock ⟨true, cfg.maximumTtl⟩ st.mem k (some m) now delay id else st.mem) := by
        split
        · exact cacheStore_inv clock off ⟨true, cfg.maximumTtl⟩ st.mem k (some m) now delay id hclk hcfg.pos hd h.mem
        · exact h.mem
      have hnewop : ValOK cfg.maximumTtl (floorSec now) (floorSec ((now : Int) + c.ttl).toNat) c.msg := by
        refine ⟨?_, by rw [hmsg]; exact htc⟩
        rw [hmsg, httl, hl]
        exact floorSec_add now l
      refine ⟨hmem, h.redis, ?_⟩
      intro op hop
      dsimp only at hop
      split at hop
      · rcases List.mem_append.1 hop with h1 | h1
        · exact h.pending op h1
        · simp only [List.mem_singleton] at h1
          subst h1
          exact hnewop
      · exact h.pending op hop

/-- stated apart because a bare `split` in `rApply_inv` picks the `match st.redis op.key` inside the condition -/
theorem rinv_ite (cfg : RCfg) (off : Nat) (c : Prop) [Decidable c] (a b : RState) (ha : RInv cfg off a)
    (hb : RInv cfg off b) : RInv cfg off (if c then a else b) := by
  split <;> assumption

theorem rApply_inv (cfg : RCfg) (off : Nat) (st : RState) (t : Nat) (h : RInv cfg off st) :
    RInv cfg off (rApply st t) := by
  unfold rApply
  cases hp : st.pending with
  | nil => exact h
  | cons op rest =>
    have hop := h.pending op (by rw [hp]; simp)
    have hrest : ∀ o ∈ rest, ValOK cfg.maximumTtl o.stored o.expire o.msg :=
      fun o ho => h.pending o (by rw [hp]; simp [ho])
    dsimp only
    apply rinv_ite
    · exact ⟨h.mem, h.redis, hrest⟩
    · refine ⟨h.mem, ?_, hrest⟩
      intro k v hv
      dsimp only at hv
      split at hv
      · cases hv; exact hop
      · exact h.redis k v hv

theorem rDrop_inv (cfg : RCfg) (off : Nat) (st : RState) (h : RInv cfg off st) : RInv cfg off (rDrop st) :=
  ⟨h.mem, h.redis, fun op hop => h.pending op (List.mem_of_mem_tail hop)⟩

/-- what a hit guarantees, whichever backend it came from -/
structure HitOK (max : Int) (t : Nat) (e : Entry) (served : Msg) : Prop where
  val : ValOK max e.stored e.expire e.msg
  fresh : t < e.expire + 2 * G
  aged : served = subtractTTL e.msg (elapsedDelta (t - e.stored))

theorem rGet_sound (clock : Nat → Nat) (off : Nat) (cfg : RCfg) (st : RState) (k now : Nat)
    (hclk : ClockOK clock off) (h : RInv cfg off st) :
    RInv cfg off (rGet clock cfg st k now).1 ∧
    ∀ served e, (rGet clock cfg st k now).2 = some (served, e) → HitOK cfg.maximumTtl now e served := by
  unfold rGet
  cases hm : (if cfg.hasMem = true then cacheGet clock st.mem k now else none) with
  | some hit =>
    obtain ⟨served, e⟩ := hit
    refine ⟨h, ?_⟩
    intro s' e' heq
    simp only [Option.some.injEq, Prod.mk.injEq] at heq
    obtain ⟨rfl, rfl⟩ := heq
    have hg : cacheGet clock st.mem k now = some (served, e) := by
      cases hb : cfg.hasMem with
      | false => simp [hb] at hm
      | true => simpa [hb] using hm
    obtain ⟨hmk, hl, hs⟩ := cacheGet_some _ _ _ _ _ _ hg
    have he := h.mem k e hmk
    exact ⟨⟨he.life, he.notTC⟩, hit_before_expiry clock off _ e now hclk he hl, hs⟩
  | none =>
    simp only
    cases hr : cfg.hasRedis with
    | false => exact ⟨h, by intro _ _ heq; simp at heq⟩
    | true =>
      simp only [if_true]
      cases hv : st.redis k with
      | none => exact ⟨h, by intro _ _ heq; simp at heq⟩
      | some v =>
        simp only
        have hval := h.redis k v hv
        by_cases hc : now < v.gone ∧ now < v.expire
        · simp only [hc, and_self, if_true]
          refine ⟨⟨?_, h.redis, h.pending⟩, ?_⟩
          · -- the copy in the memory cache
            dsimp only
            split
            · exact otterSet_inv clock off ⟨true, cfg.maximumTtl⟩ st.mem k ⟨v.stored, v.expire, 0, v.msg, v.id⟩ now true
                hclk h.mem hval.life hval.notTC (Nat.lt_add_right _ hc.2)
            · exact h.mem
          · intro s' e' heq
            simp only [Option.some.injEq, Prod.mk.injEq] at heq
            obtain ⟨rfl, rfl⟩ := heq
            exact ⟨hval, by simp only [G]; omega, rfl⟩
        · simp only [hc, if_false]
          exact ⟨h, by intro _ _ heq; simp at heq⟩

/-- as `Ttl.Step.prompt`; redis' own steps (`apply`, `drop`, `revict`) have no delay to bound -/
def RStep.prompt : RStep → Prop
  | .store _ _ _ d => d < G
  | .query _ _ _ d => d < G
  | _ => True

/-- as `Ttl.ObsOK`, with `HitOK` for a hit from either backend; redis' own steps show nothing -/
def RObsOK (max : Int) : RStep → Obs → Prop
  | .get _ t, .hit e served => HitOK max t e served
  | .get _ _, .miss => True
  | .query _ _ t _, .q (.cached id served) => ∃ e sv, e.id = id ∧ HitOK max t e sv ∧ served = popEDNS0 sv
  | .query _ (.reply m) _ _, .q (.upstream _ m') => m' = removeEDNS0 m
  | .query _ .err _ _, .q .failed => True
  | .store _ _ _ _, .none => True
  | .apply _, .none => True
  | .drop, .none => True
  | .evict _, .none => True
  | .revict _, .none => True
  | _, _ => False

theorem rStep_sound (clock : Nat → Nat) (off : Nat) (cfg : RCfg) (hcfg : RCfgOK cfg) (st : RState) (id : Nat)
    (s : RStep) (hclk : ClockOK clock off) (hp : s.prompt) (h : RInv cfg off st) :
    RInv cfg off (rStep clock cfg st id s).1 ∧ RObsOK cfg.maximumTtl s (rStep clock cfg st id s).2 := by
  cases s with
  | store k resp t delay => exact ⟨rStore_inv clock off cfg hcfg st k resp t delay id hclk hp h, trivial⟩
  | get k t =>
    obtain ⟨hi, ho⟩ := rGet_sound clock off cfg st k t hclk h
    show RInv cfg off (match rGet clock cfg st k t with
        | (st', none) => (st', Obs.miss) | (st', some (served, e)) => (st', Obs.hit e served)).1 ∧
      RObsOK cfg.maximumTtl (.get k t) (match rGet clock cfg st k t with
        | (st', none) => (st', Obs.miss) | (st', some (served, e)) => (st', Obs.hit e served)).2
    cases hg : rGet clock cfg st k t with
    | mk st' r =>
      rw [hg] at hi ho
      cases r with
      | none => exact ⟨hi, trivial⟩
      | some p => obtain ⟨served, e⟩ := p; exact ⟨hi, ho served e rfl⟩
  | query k up t delay =>
    obtain ⟨hi, ho⟩ := rGet_sound clock off cfg st k t hclk h
    show RInv cfg off (rQuery clock cfg st k up t delay id).1 ∧
      RObsOK cfg.maximumTtl (.query k up t delay) (.q (rQuery clock cfg st k up t delay id).2)
    unfold rQuery
    cases hg : rGet clock cfg st k t with
    | mk st' r =>
      rw [hg] at hi ho
      cases r with
      | some p =>
        obtain ⟨served, e⟩ := p
        exact ⟨hi, e, served, rfl, ho served e rfl, rfl⟩
      | none =>
        cases up with
        | err => exact ⟨hi, trivial⟩
        | reply m => exact ⟨rStore_inv clock off cfg hcfg st' k _ t delay id hclk hp hi, rfl⟩
  | apply t => exact ⟨rApply_inv cfg off st t h, trivial⟩
  | drop => exact ⟨rDrop_inv cfg off st h, trivial⟩
  | evict k => exact ⟨⟨inv_del _ _ _ _ h.mem, h.redis, h.pending⟩, trivial⟩
  | revict k =>
    refine ⟨⟨h.mem, ?_, h.pending⟩, trivial⟩
    intro k' v hv
    dsimp only [rStep] at hv
    split at hv
    · cases hv
    · exact h.redis k' v hv

def RAllObsOK (max : Int) : List RStep → List Obs → Prop
  | [], [] => True
  | s :: ss, o :: os => RObsOK max s o ∧ RAllObsOK max ss os
  | _, _ => False

theorem rRun_sound (clock : Nat → Nat) (off : Nat) (cfg : RCfg) (hcfg : RCfgOK cfg) (hclk : ClockOK clock off)
    (steps : List RStep) : ∀ (st : RState) (id : Nat), (∀ s ∈ steps, s.prompt) → RInv cfg off st →
    RInv cfg off (rRunFrom clock cfg st id steps).1 ∧ RAllObsOK cfg.maximumTtl steps (rRunFrom clock cfg st id steps).2 := by
  induction steps with
  | nil => intro st id _ h; exact ⟨h, trivial⟩
  | cons s rest ih =>
    intro st id hp h
    obtain ⟨hs, ho⟩ := rStep_sound clock off cfg hcfg st id s hclk (hp s (by simp)) h
    have := ih (rStep clock cfg st id s).1 (id + 1) (fun x hx => hp x (by simp [hx])) hs
    simp only [rRunFrom]
    exact ⟨this.1, ho, this.2⟩

end MosVerif.RedisCache
