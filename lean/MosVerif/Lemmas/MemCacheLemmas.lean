/-
  Invariant of the concurrent memory-cache model (C07) and its preservation by every step.

  A statement changes the program counter of one thread `t` and at most one entry `e`, and the locks
  `t` holds before and after are locks of `e`.  So the lock part of the invariant is checked at the
  pair `(e, t)`, between `e` and the other threads, and between `t` and the other entries
  (`upd_upd`).  Statements that touch an entry either belong to a write section (taking the lock,
  writing a field, releasing: `inv_wstep`, where `t` is alone on `e`) or move a read lock
  (`inv_rstep`, where only the reader field changes); the others only move `t` (`inv_setPc`).
-/
import MosVerif.Model.MemCache
namespace MosVerif.MemCache

variable {K V : Type}

theorem upd_same {α : Type} (f : Nat → α) (i : Nat) (x : α) : upd f i x i = x := if_pos rfl
theorem upd_ne {α : Type} (f : Nat → α) {i j : Nat} (x : α) (h : j ≠ i) : upd f i x j = f j := if_neg h

theorem upd_forall {α : Type} {P : Nat → α → Prop} {f : Nat → α} (h : ∀ i, P i (f i)) {a : Nat} {x : α}
    (hx : P a x) (i : Nat) : P i (upd f a x i) := by
  by_cases hi : i = a
  · subst hi; rw [upd_same]; exact hx
  · rw [upd_ne _ _ hi]; exact h i

/-- a relation between every entry and every thread survives the update of one entry `a` and one
    thread `b` if it holds between the two new values, between the new `a` and the other threads, and
    between the other entries and the new `b` -/
theorem upd_upd {α β : Type} {P : Nat → Nat → α → β → Prop} {f : Nat → α} {g : Nat → β}
    (h : ∀ i j, P i j (f i) (g j)) {a b : Nat} {x : α} {y : β} (hab : P a b x y)
    (ha : ∀ j, j ≠ b → P a j x (g j)) (hb : ∀ i, i ≠ a → P i b (f i) y) (i j : Nat) :
    P i j (upd f a x i) (upd g b y j) := by
  by_cases hj : j = b
  · subst hj
    rw [upd_same]
    by_cases hi : i = a
    · subst hi; rw [upd_same]; exact hab
    · rw [upd_ne _ _ hi]; exact hb i hi
  · rw [upd_ne _ _ hj]
    exact upd_forall (P := fun i x => P i j x (g j)) (h · j) (ha j hj) i

/-- what a thread at program counter `p` knows about the shared state -/
def PcOk (s : State K V) : Pc K V → Prop
  | .sNew k v _ | .sLock _ k v _ | .sFillK _ k v _ | .sSet _ k v _ => (k, v) ∈ s.hist
  | .sFillV e k v _ => (k, v) ∈ s.hist ∧ (s.ent e).k = k
  | .sUnlock e k v _ => (k, v) ∈ s.hist ∧ (s.ent e).k = k ∧ (s.ent e).v = some v
  | .rUnlock e => (s.ent e).v = none
  | .gCopy e k _ _ => (s.ent e).k = k ∧ (s.ent e).v ≠ none
  | .gUnlockHit _ k v => (k, v) ∈ s.hist
  | .gDone k (some v) => (k, v) ∈ s.hist
  | .gBad => False
  | _ => True

/-- The invariant.
    * `wr_iff` / `rd_iff`: the mutex state is exactly the set of threads inside a write / read section;
    * `excl`: a writer excludes readers;
    * `data` ★: whenever the entry is not write-locked, a non-nil value is paired with the key it
      was stored under — the value and its key were written inside one write section;
    * `pcok`: the local knowledge of every thread. -/
structure Inv (s : State K V) : Prop where
  wr_iff : ∀ e t, (s.ent e).wr = some t ↔ (s.pc t).wsec = some e
  rd_iff : ∀ e t, t ∈ (s.ent e).rd ↔ (s.pc t).rsec = some e
  excl : ∀ e t, (s.ent e).wr = some t → (s.ent e).rd = []
  data : ∀ e, (s.ent e).wr = none → ∀ v, (s.ent e).v = some v → ((s.ent e).k, v) ∈ s.hist
  pcok : ∀ t, PcOk s (s.pc t)

/-- the shapes of the first four clauses, as relations between an entry `x` with number `e` and a
    thread `t` at `p` -/
abbrev WrOk (e t : Nat) (x : Entry K V) (p : Pc K V) : Prop := x.wr = some t ↔ p.wsec = some e
abbrev RdOk (e t : Nat) (x : Entry K V) (p : Pc K V) : Prop := t ∈ x.rd ↔ p.rsec = some e
abbrev Excl (x : Entry K V) : Prop := ∀ t, x.wr = some t → x.rd = []
abbrev Paired (hist : List (K × V)) (x : Entry K V) : Prop :=
  x.wr = none → ∀ v, x.v = some v → (x.k, v) ∈ hist

/-- `PcOk` only looks at the history, which only grows, and at the `k`/`v` fields of the entry the
    thread holds a lock of -/
theorem PcOk.mono {s s' : State K V} {p : Pc K V}
    (he : ∀ e, p.wsec = some e ∨ p.rsec = some e →
      (s'.ent e).k = (s.ent e).k ∧ (s'.ent e).v = (s.ent e).v)
    (hh : ∀ x, x ∈ s.hist → x ∈ s'.hist) (h : PcOk s p) : PcOk s' p := by
  cases p with
  | sFillV e k v nx => exact ⟨hh _ h.1, (he e (.inl rfl)).1.trans h.2⟩
  | sUnlock e k v nx =>
    exact ⟨hh _ h.1, (he e (.inl rfl)).1.trans h.2.1, (he e (.inl rfl)).2.trans h.2.2⟩
  | rUnlock e => exact (he e (.inl rfl)).2.trans h
  | gCopy e k n m =>
    exact ⟨(he e (.inr rfl)).1.trans h.1, fun hn => h.2 ((he e (.inr rfl)).2.symm.trans hn)⟩
  | gDone k res =>
    cases res with
    | none => trivial
    | some v => exact hh _ h
  | sNew | sLock | sFillK | sSet | gUnlockHit => exact hh _ h
  | _ => exact h

theorem wr_of_wsec {s : State K V} (h : Inv s) {t e : Nat} {p : Pc K V} (hpc : s.pc t = p)
    (hw : p.wsec = some e) : (s.ent e).wr = some t := (h.wr_iff e t).mpr (hpc ▸ hw)

theorem pcok_at {s : State K V} (h : Inv s) {t : Nat} {p : Pc K V} (hpc : s.pc t = p) : PcOk s p :=
  hpc ▸ h.pcok t

/-- the other threads hold no lock on an entry that `t` holds for writing -/
theorem other_no_lock {s : State K V} (h : Inv s) {t t' e : Nat} (hw : (s.pc t).wsec = some e)
    (hne : t' ≠ t) : (s.pc t').wsec ≠ some e ∧ (s.pc t').rsec ≠ some e := by
  have hwr := (h.wr_iff e t).mpr hw
  constructor
  · intro h'
    have := (h.wr_iff e t').mpr h'
    rw [hwr] at this
    exact hne (Option.some.inj this).symm
  · intro h'
    have := (h.rd_iff e t').mpr h'
    rw [h.excl e t hwr] at this
    cases this

/-- the statements that write (read) a data field stand inside a write (read) section -/
theorem wsec_of_writes {p : Pc K V} {e : Nat} : p.writes = some e → p.wsec = some e := by
  cases p with
  | sFillK | sFillV | rWipeK | rWipeV => exact id
  | _ => exact nofun

theorem rsec_of_reads {p : Pc K V} {e : Nat} : p.reads = some e → p.rsec = some e := by
  cases p with
  | gCheck | gCopy => exact id
  | _ => exact nofun

/-- a step that only moves `t`'s program counter between two points with the same lock holdings -/
theorem inv_setPc {s : State K V} (h : Inv s) {t : Nat} {p p' : Pc K V} (hpc : s.pc t = p)
    (hw : p'.wsec = p.wsec) (hr : p'.rsec = p.rsec) (hp : PcOk s p') : Inv (s.setPc t p') where
  -- at `t` itself: the old clause for `s.pc t = p`, with `p.wsec` replaced by the equal `p'.wsec`
  wr_iff e := upd_forall (P := (WrOk e · (s.ent e))) (h.wr_iff e)
    (hw ▸ hpc ▸ h.wr_iff e t : _ ↔ p'.wsec = some e)
  rd_iff e := upd_forall (P := (RdOk e · (s.ent e))) (h.rd_iff e)
    (hr ▸ hpc ▸ h.rd_iff e t : _ ↔ p'.rsec = some e)
  excl := h.excl
  data := h.data
  pcok := upd_forall (P := fun _ p => PcOk (s.setPc t p') p)
    (fun t' => (h.pcok t').mono (fun _ _ => ⟨rfl, rfl⟩) fun _ => id)
    (hp.mono (fun _ _ => ⟨rfl, rfl⟩) fun _ => id)

theorem ent_setEnt (s : State K V) (e : Nat) (x : Entry K V) (t : Nat) (p : Pc K V) :
    ((s.setEnt e x).setPc t p).ent e = x := if_pos rfl

/-- a thread whose only lock, if any, is one of `e` holds none of another entry `i` -/
theorem ne_some_of_only {a : Option Nat} {e i : Nat} (ha : a = none ∨ a = some e) (hi : i ≠ e) :
    a ≠ some i := by
  intro c
  rcases ha with ha | ha
  · exact nomatch ha.symm.trans c
  · exact hi (Option.some.inj (ha.symm.trans c)).symm

/-- a thread in a read section of `e` keeps writers out -/
theorem wr_none_of_reader {s : State K V} (h : Inv s) {t e : Nat} (hr : (s.pc t).rsec = some e) :
    (s.ent e).wr = none := by
  cases hh : (s.ent e).wr with
  | none => rfl
  | some j => exact nomatch h.excl e j hh ▸ (h.rd_iff e t).mpr hr

/-- `t` takes, holds or releases the write lock of `e`, and may write the data fields of `e`.
    Before the step `t` holds that lock or `e` is free (`hfree`), so no other thread holds a lock of
    `e`; after it `x.wr` says whether `t` still holds it, and if not, what `e` holds is paired (`hxw`). -/
theorem inv_wstep {s : State K V} (h : Inv s) {t e : Nat} {x : Entry K V} {p p' : Pc K V}
    (hpc : s.pc t = p) (hr : p.rsec = none) (hr' : p'.rsec = none)
    (hfree : p.wsec = some e ∨ p.wsec = none ∧ (s.ent e).wr = none ∧ (s.ent e).rd = [])
    (hxr : x.rd = (s.ent e).rd)
    (hxw : x.wr = some t ∧ p'.wsec = some e ∨
      x.wr = none ∧ p'.wsec = none ∧ ∀ v, x.v = some v → (x.k, v) ∈ s.hist)
    (hp : PcOk ((s.setEnt e x).setPc t p') p') : Inv ((s.setEnt e x).setPc t p') := by
  subst hpc
  have alone j (hj : j ≠ t) : (s.pc j).wsec ≠ some e ∧ (s.pc j).rsec ≠ some e := by
    rcases hfree with hw | ⟨_, hwr, hrd⟩
    · exact other_no_lock h hw hj
    · exact ⟨fun a => (nomatch hwr ▸ (h.wr_iff e j).mpr a), fun a => (nomatch hrd ▸ (h.rd_iff e j).mpr a)⟩
  have hrd : x.rd = [] := by
    rcases hfree with hw | ⟨_, _, hrd⟩
    · exact hxr.trans (h.excl e t ((h.wr_iff e t).mpr hw))
    · exact hxr.trans hrd
  have only i (hi : i ≠ e) : (s.pc t).wsec ≠ some i :=
    ne_some_of_only (hfree.elim .inr fun a => .inl a.1) hi
  have only' i (hi : i ≠ e) : p'.wsec ≠ some i :=
    ne_some_of_only (hxw.elim (fun a => .inr a.2) fun a => .inl a.2.1) hi
  -- `wr_iff` and `rd_iff`: `e` against `t`, `e` against another thread `j`, another entry `i` against `t`
  refine ⟨upd_upd (P := WrOk) h.wr_iff ?wr_et ?wr_ej ?wr_it, upd_upd (P := RdOk) h.rd_iff ?rd_et ?rd_ej ?rd_it,
    upd_forall (P := fun _ => Excl) h.excl fun _ _ => hrd,
    upd_forall (P := fun _ => Paired s.hist) h.data ?data, fun t' => ?pcok⟩
  case wr_et =>
    rcases hxw with ⟨a, b⟩ | ⟨a, b, _⟩
    · exact ⟨fun _ => b, fun _ => a⟩
    · exact ⟨fun c => (nomatch a.symm.trans c), fun c => (nomatch b.symm.trans c)⟩
  case wr_ej =>
    refine fun j hj => ⟨fun a => ?_, fun a => absurd a (alone j hj).1⟩
    rcases hxw with ⟨b, _⟩ | ⟨b, _⟩
    · exact absurd (Option.some.inj (b.symm.trans a)).symm hj
    · exact nomatch b.symm.trans a
  case wr_it =>
    exact fun i hi => ⟨fun a => absurd ((h.wr_iff i t).mp a) (only i hi), fun a => absurd a (only' i hi)⟩
  case rd_et => exact ⟨fun a => (nomatch hrd ▸ a), fun a => (nomatch hr'.symm.trans a)⟩
  case rd_ej => exact fun j hj => ⟨fun a => (nomatch hrd ▸ a), fun a => absurd a (alone j hj).2⟩
  case rd_it => exact fun i _ => (h.rd_iff i t).trans (by rw [hr, hr'])
  case data =>
    rcases hxw with ⟨a, _⟩ | ⟨_, _, hd⟩
    · exact fun b => nomatch a.symm.trans b
    · exact fun _ => hd
  case pcok =>
    -- `t` knows `hp`; the others hold no lock of `e`, the only entry that changed
    show PcOk _ (upd s.pc t p' t')
    by_cases ht : t' = t
    · subst ht
      rw [upd_same]
      exact hp
    · rw [upd_ne _ _ ht]
      refine (h.pcok t').mono (s := s) (fun e' he' => ?_) fun _ => id
      rw [show ((s.setEnt e x).setPc t p').ent e' = s.ent e' from
        upd_ne _ _ fun ee => he'.elim (fun a => (alone t' ht).1 (ee ▸ a)) fun a => (alone t' ht).2 (ee ▸ a)]
      exact ⟨rfl, rfl⟩

/-- `t`, outside write sections, takes or releases a read lock of `e`, which is not write-locked:
    only the reader field of `e` changes -/
theorem inv_rstep {s : State K V} (h : Inv s) {t e : Nat} {x : Entry K V} {p p' : Pc K V}
    (hpc : s.pc t = p) (hw : p.wsec = none) (hw' : p'.wsec = none) (hwr : (s.ent e).wr = none)
    (hr : p.rsec = none ∨ p.rsec = some e) (hr' : p'.rsec = none ∨ p'.rsec = some e)
    (hk : x.k = (s.ent e).k) (hv : x.v = (s.ent e).v) (hxw : x.wr = (s.ent e).wr)
    (hrt : t ∈ x.rd ↔ p'.rsec = some e) (hro : ∀ j, j ≠ t → (j ∈ x.rd ↔ j ∈ (s.ent e).rd))
    (hp : PcOk s p') : Inv ((s.setEnt e x).setPc t p') := by
  subst hpc
  have he e' : (upd s.ent e x e').k = (s.ent e').k ∧ (upd s.ent e x e').v = (s.ent e').v :=
    upd_forall (P := fun e' (x : Entry K V) => x.k = (s.ent e').k ∧ x.v = (s.ent e').v)
      (fun _ => ⟨rfl, rfl⟩) ⟨hk, hv⟩ e'
  rw [← hxw] at hwr
  refine ⟨upd_upd (P := WrOk) h.wr_iff ?wr_et (fun j _ => (hxw ▸ h.wr_iff e j : x.wr = some j ↔ _)) ?wr_it,
    upd_upd (P := RdOk) h.rd_iff hrt (fun j hj => (hro j hj).trans (h.rd_iff e j)) ?rd_it,
    upd_forall (P := fun _ => Excl) h.excl fun j a => (nomatch hwr.symm.trans a),
    upd_forall (P := fun _ => Paired s.hist) h.data fun a v b => hk ▸ h.data e (hxw ▸ a) v (hv ▸ b),
    upd_forall (P := fun _ q => PcOk ((s.setEnt e x).setPc t p') q)
      (fun t' => (h.pcok t').mono (fun e' _ => he e') fun _ => id) (hp.mono (fun e' _ => he e') fun _ => id)⟩
  case wr_et => exact ⟨fun a => (nomatch hwr.symm.trans a), fun a => (nomatch hw'.symm.trans a)⟩
  case wr_it => exact fun i _ => (h.wr_iff i t).trans (by rw [hw, hw'])
  case rd_it =>
    exact fun i hi => ⟨fun a => absurd ((h.rd_iff i t).mp a) (ne_some_of_only hr hi),
      fun a => absurd a (ne_some_of_only hr' hi)⟩

/-- `t` releases its read lock of `e` -/
theorem inv_runlock {s : State K V} (h : Inv s) {t e : Nat} {p p' : Pc K V} (hpc : s.pc t = p)
    (hr : p.rsec = some e) (hw : p.wsec = none) (hw' : p'.wsec = none) (hr' : p'.rsec = none)
    (hp : PcOk s p') :
    Inv ((s.setEnt e { s.ent e with rd := (s.ent e).rd.filter (· ≠ t) }).setPc t p') := by
  refine inv_rstep h hpc hw hw' (hwr := wr_none_of_reader h ((congrArg Pc.rsec hpc).trans hr))
    (hr := .inr hr) (hr' := .inl hr') (hk := rfl) (hv := rfl) (hxw := rfl) (hrt := ?_) (hro := fun j hj => ?_) hp
  · rw [hr', List.mem_filter]
    exact ⟨fun a => absurd rfl (of_decide_eq_true a.2), nofun⟩
  · rw [List.mem_filter]
    exact ⟨And.left, fun a => ⟨a, decide_eq_true hj⟩⟩

theorem inv_hist {s : State K V} (h : Inv s) (l : List (K × V)) (hl : ∀ x, x ∈ s.hist → x ∈ l) :
    Inv { s with hist := l } :=
  ⟨h.wr_iff, h.rd_iff, h.excl, fun e hw v hv => hl _ (h.data e hw v hv),
    fun t => (h.pcok t).mono (s := s) (fun _ _ => ⟨rfl, rfl⟩) hl⟩

theorem again_wsec (k : K) (n m : Nat) : (Pc.again k n m : Pc K V).wsec = none := by
  unfold Pc.again; split <;> rfl
theorem again_rsec (k : K) (n m : Nat) : (Pc.again k n m : Pc K V).rsec = none := by
  unfold Pc.again; split <;> rfl
theorem again_ok (s : State K V) (k : K) (n m : Nat) : PcOk s (Pc.again k n m) := by
  unfold Pc.again; split <;> trivial

theorem inv_init [Inhabited K] : Inv (init : State K V) :=
  ⟨fun _ _ => ⟨nofun, nofun⟩, fun _ _ => ⟨nofun, nofun⟩, nofun, nofun, fun _ => trivial⟩

section
variable [Inhabited K] [DecidableEq K]

/-- ★ every statement of every thread preserves the invariant -/
theorem step_inv {s s' : State K V} (h : Inv s) (st : Step s s') : Inv s' := by
  cases st with
  | callStore t k v nx hpc =>
    exact inv_setPc (inv_hist h ((k, v) :: s.hist) fun _ => List.mem_cons_of_mem _) hpc rfl rfl
      List.mem_cons_self
  | storeNew t k v nx e hpc => exact inv_setPc h hpc rfl rfl (pcok_at h hpc :)
  | storeLock t e k v nx hpc hwr hrd =>
    exact inv_wstep h hpc (hr := rfl) (hr' := rfl) (hfree := .inr ⟨rfl, hwr, hrd⟩) (hxr := rfl)
      (hxw := .inl ⟨rfl, rfl⟩) (hp := (pcok_at h hpc :))
  | storeFillK t e k v nx hpc =>
    exact inv_wstep h hpc (hr := rfl) (hr' := rfl) (hfree := .inl rfl) (hxr := rfl)
      (hxw := .inl ⟨wr_of_wsec h hpc rfl, rfl⟩)
      (hp := ⟨(pcok_at h hpc :), congrArg Entry.k (ent_setEnt ..)⟩)
  | storeFillV t e k v nx hpc =>
    have hp : PcOk s (.sFillV e k v nx) := pcok_at h hpc
    exact inv_wstep h hpc (hr := rfl) (hr' := rfl) (hfree := .inl rfl) (hxr := rfl)
      (hxw := .inl ⟨wr_of_wsec h hpc rfl, rfl⟩)
      (hp := ⟨hp.1, (congrArg Entry.k (ent_setEnt ..)).trans hp.2, congrArg Entry.v (ent_setEnt ..)⟩)
  | storeUnlock t e k v nx hpc =>
    have hp : PcOk s (.sUnlock e k v nx) := pcok_at h hpc
    refine inv_wstep h hpc (hr := rfl) (hr' := rfl) (hfree := .inl rfl) (hxr := rfl)
      (hxw := .inr ⟨rfl, rfl, fun v' hv' => ?_⟩) (hp := hp.1)
    rw [show (s.ent e).k = k from hp.2.1, show v' = v from Option.some.inj (hv'.symm.trans hp.2.2)]
    exact hp.1
  | getLookupMiss t k n m hpc =>
    split
    · exact inv_setPc h hpc (again_wsec ..) (again_rsec ..) (again_ok ..)
    · exact inv_setPc h hpc rfl rfl trivial
  | getTryOk t e k n m hpc hwr =>
    exact inv_rstep h hpc (hw := rfl) (hw' := rfl) hwr (hr := .inl rfl) (hr' := .inr rfl)
      (hk := rfl) (hv := rfl) (hxw := rfl) (hrt := ⟨fun _ => rfl, fun _ => List.mem_cons_self⟩)
      (hro := fun j hj => ⟨fun a => (List.mem_cons.mp a).resolve_left hj, List.mem_cons_of_mem _⟩)
      (hp := trivial)
  | getTryFail t e k n m hpc => exact inv_setPc h hpc (again_wsec ..) (again_rsec ..) (again_ok ..)
  | getCheck t e k n m hpc =>
    split
    · exact inv_setPc h hpc rfl rfl trivial
    · next hc =>
      rw [Bool.or_eq_true, Option.isNone_iff_eq_none, decide_eq_true_eq, not_or, Decidable.not_not] at hc
      exact inv_setPc h hpc rfl rfl ⟨hc.2, hc.1⟩
  | getCopy t e k n m hpc =>
    have hp : PcOk s (.gCopy e k n m) := pcok_at h hpc
    split
    · next v0 hv0 =>
      exact inv_setPc h hpc rfl rfl (hp.1 ▸ h.data e (wr_none_of_reader h (congrArg Pc.rsec hpc)) v0 hv0 :)
    · next hv0 => exact absurd hv0 hp.2
  | getUnlockHit t e k v hpc =>
    exact inv_runlock h hpc (hr := rfl) (hw := rfl) (hw' := rfl) (hr' := rfl) (hp := (pcok_at h hpc :))
  | getUnlockMiss t e k n m hpc =>
    exact inv_runlock h hpc (hr := rfl) (hw := rfl) (hw' := again_wsec ..) (hr' := again_rsec ..)
      (hp := again_ok ..)
  | storeSet _ _ _ _ _ hpc | storeRefused _ _ _ _ _ hpc | callGet _ _ hpc | getLookupHit _ _ _ _ _ hpc
  | getRet _ _ _ hpc | callRelease _ _ hpc =>
    exact inv_setPc h hpc rfl rfl trivial
  | relLock t e hpc hwr hrd =>
    exact inv_wstep h hpc (hr := rfl) (hr' := rfl) (hfree := .inr ⟨rfl, hwr, hrd⟩) (hxr := rfl)
      (hxw := .inl ⟨rfl, rfl⟩) (hp := trivial)
  | relWipeK t e hpc =>
    exact inv_wstep h hpc (hr := rfl) (hr' := rfl) (hfree := .inl rfl) (hxr := rfl)
      (hxw := .inl ⟨wr_of_wsec h hpc rfl, rfl⟩) (hp := trivial)
  | relWipeV t e hpc =>
    exact inv_wstep h hpc (hr := rfl) (hr' := rfl) (hfree := .inl rfl) (hxr := rfl)
      (hxw := .inl ⟨wr_of_wsec h hpc rfl, rfl⟩) (hp := congrArg Entry.v (ent_setEnt ..))
  | relUnlock t e hpc =>
    have hp : PcOk s (.rUnlock e) := pcok_at h hpc
    exact inv_wstep h hpc (hr := rfl) (hr' := rfl) (hfree := .inl rfl) (hxr := rfl)
      (hxw := .inr ⟨rfl, rfl, fun v hv => nomatch hp.symm.trans hv⟩) (hp := trivial)

theorem reachable_inv {s : State K V} (h : Reachable s) : Inv s := by
  induction h with
  | init => exact inv_init
  | step _ st ih => exact step_inv ih st

end

end MosVerif.MemCache
