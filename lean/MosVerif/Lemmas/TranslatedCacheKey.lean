/-
  Tie by translation (C07): `cacheKey` (app/router/cache.go).  `Translated.c07_cacheKey` is regenerated from the
  current Go source by the byte-slice mode of /verif/extract/gotolean (the recycled buffer of `pool.GetBuf` is the
  parameter `dirty`; every slice / index expression panics as in Go); the hand-written statement-by-statement model
  `CacheKey.cacheKey` (`none` = panic) is EQUAL to it for all names, classes, types, marks and buffer contents.
-/
import MosVerif.Lemmas.TranslatedEnc
import MosVerif.Model.CacheKey
namespace MosVerif.CacheKey
open MosVerif
open MosVerif.Wire (Res)

/-- the model's `Option` (none = panic) as a `Res` -/
def resOfOpt {α : Type} : Option α → Res α
  | some a => .ok a
  | none => .panic

theorem resOfOpt_bind {α β : Type} (x : Option α) (f : α → Option β) :
    resOfOpt (x >>= f) = (resOfOpt x >>= fun a => resOfOpt (f a)) := by
  cases x <;> rfl

theorem split2 (b : Bytes) (off : Nat) (h : off ≤ b.length) : ∃ p r, b = p ++ r ∧ p.length = off :=
  ⟨b.take off, b.drop off, by simp, by simp; omega⟩

theorem copy_length (d s : Bytes) : (GoSem.copy d s).length = d.length := by
  unfold GoSem.copy; simp; omega

/-- `copy(b[off:], src)` -/
theorem copyAt_eq (b : Bytes) (off : Nat) (src : Bytes) :
    resOfOpt ((copyAt b off src).map (·.1)) =
      (GoSem.sliceFrom b off >>= fun t => pure (GoSem.splice b off (GoSem.copy t src))) := by
  unfold copyAt GoSem.sliceFrom
  by_cases h : off > b.length
  · have : ¬ off ≤ b.length := by omega
    simp [h, this, resOfOpt]
  · have h' : off ≤ b.length := by omega
    obtain ⟨p, r, rfl, rfl⟩ := split2 b off h'
    have hl := copy_length r src
    simp only [h, h', if_false, if_true, Option.map_some, resOfOpt, GoSem.splice]
    show Res.ok _ = Res.ok _
    congr 1
    simp only [List.drop_left, List.take_left, hl]
    have : List.drop (p.length + r.length) (p ++ r) = [] := by simp
    rw [this]
    simp only [List.length_append, Nat.add_sub_cancel_left, List.append_nil, List.append_assoc, List.append_cancel_left_eq]
    unfold GoSem.copy
    rcases Nat.le_total r.length src.length with hle | hle
    · rw [Nat.min_eq_left hle, List.drop_eq_nil_of_le hle]
      simp
    · rw [Nat.min_eq_right hle, List.take_of_length_le (Nat.le_refl _), List.take_of_length_le hle]
      simp

/-- `off := copy(b, src)` -/
theorem copyAt_zero (b src : Bytes) : copyAt b 0 src = some (GoSem.copy b src, min b.length src.length) := by
  unfold copyAt GoSem.copy
  simp only [Nat.not_lt_zero, if_false, Nat.sub_zero, List.take_zero, List.nil_append, Nat.zero_add]
  rcases Nat.le_total b.length src.length with hle | hle
  · rw [Nat.min_eq_left hle, List.drop_eq_nil_of_le hle, List.drop_eq_nil_of_le (Nat.le_refl _)]
  · rw [Nat.min_eq_right hle, List.take_of_length_le (Nat.le_refl _), List.take_of_length_le hle]

/-- `b[off] = v` -/
theorem setAt_eq (b : Bytes) (off : Nat) : resOfOpt (setAt b off 0) = GoSem.setIndex b off 0 := by
  unfold setAt GoSem.setIndex
  by_cases h : off < b.length <;> simp [h, resOfOpt] <;> rfl

/-- `binary.BigEndian.PutUint16(b[off:], v)` -/
theorem putU16_eq (b : Bytes) (off : Nat) (v : UInt16) :
    resOfOpt (putU16 b off v) =
      (GoSem.sliceFrom b off >>= fun t => GoSem.putUint16 t v.toNat >>= fun t' => pure (GoSem.splice b off t')) := by
  unfold putU16 GoSem.sliceFrom
  by_cases h : off + 2 ≤ b.length
  · obtain ⟨p, m, r, rfl, rfl, hm⟩ := Wire.split3 b off 2 h
    match m, hm with
    | [m0, m1], _ =>
      have h1 : p.length ≤ (p ++ ([m0, m1] ++ r)).length := by simp
      simp [resOfOpt, GoSem.putUint16, GoSem.splice, hi8, lo8, Wire.u8_ofNat_mod]
  · simp only [h, if_false, resOfOpt]
    by_cases h1 : off ≤ b.length
    · simp only [h1, if_true]
      have : (b.drop off).length < 2 := by simp; omega
      match hd : b.drop off, this with
      | [], _ => rfl
      | [_], _ => rfl
    · simp [h1]

theorem bind_ok {α β} (a : α) (f : α → Res β) : (Res.ok a >>= f) = f a := rfl
theorem pure_eq {α} (a : α) : (pure a : Res α) = .ok a := rfl

theorem copyAt_eq' (b : Bytes) (off : Nat) (src : Bytes) :
    (resOfOpt (copyAt b off src) >>= fun a => resOfOpt (pure a.fst)) =
      (GoSem.sliceFrom b off >>= fun t => pure (GoSem.splice b off (GoSem.copy t src))) := by
  rw [← copyAt_eq]
  cases copyAt b off src <;> rfl

/-- ★ `cacheKey`: the statement-by-statement model IS the translation of the current source. -/
theorem cacheKey_translated (dirty : Bytes) (q : Question) (mark : Bytes) :
    resOfOpt (cacheKey dirty q mark) = Translated.c07_cacheKey q.name q.cls.toNat q.typ.toNat mark dirty := by
  unfold cacheKey Translated.c07_cacheKey
  simp only [resOfOpt_bind, copyAt_zero, copyAt_eq', setAt_eq, putU16_eq]
  simp only [resOfOpt, Wire.Res.bind_assoc', bind_ok, pure_eq]
  rfl

end MosVerif.CacheKey
