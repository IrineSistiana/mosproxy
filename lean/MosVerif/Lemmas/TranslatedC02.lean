/-
  Tie by translation (C02/C09): fragments of internal/dnsmsg translated mechanically from the current Go source by
  /verif/extract/gotolean (MosVerif/Generated/Translated.lean) are EQUAL to the hand-written model.
  The translation works on unbounded integers; where Go's fixed-width arithmetic could wrap, the statement
  carries the explicit range hypothesis.
-/
import MosVerif.Generated.Translated
import MosVerif.Model.Pack
import MosVerif.Lemmas.TranslatedTactics
namespace MosVerif.Wire
open MosVerif

/-- `Name.PackLen` -/
theorem Name_PackLen_translated (n : Name) : Translated.Name_PackLen n.length = namePackLen n := by
  unfold Translated.Name_PackLen namePackLen
  tr_val

theorem ite_app {α β : Type} (c : Prop) [Decidable c] (k : α → β) (a b : α) :
    (if c then k a else k b) = k (if c then a else b) := (apply_ite k c a b).symm

/-- `Header.Pack` (bits), for an opcode in its 4-bit range (`hr` is not used: both sides keep `rcode % 65536`) -/
theorem Header_Pack_translated (h : Header) (ho : h.opcode < 16) (hr : h.rcode < 16) :
    Translated.Header_Pack_bits h.id h.opcode h.rcode h.ra h.rd h.truncated h.authoritative h.response h.z h.ad h.cd
      = bitsOfHeader h := by
  have e : (h.opcode % 65536) <<< 11 = h.opcode * 2048 % 65536 := by
    rw [Nat.shiftLeft_eq]; omega
  unfold Translated.Header_Pack_bits
  rw [e]
  -- the translation runs what follows an `if c { bits |= m }` as a continuation `k` in both branches,
  -- `if c then k (x ||| m) else k x`; with each `if` pushed into the argument the chain is the model's
  extract_lets _ _ b0 k8 k7 k6 k5 k4 k3 k2 k1 b1
  rw [ite_app]
  dsimp only [k1]
  rw [ite_app]
  dsimp only [k2]
  rw [ite_app]
  dsimp only [k3]
  rw [ite_app]
  dsimp only [k4]
  rw [ite_app]
  dsimp only [k5]
  rw [ite_app]
  dsimp only [k6]
  rw [ite_app]
  dsimp only [k7]
  rw [ite_app]
  rfl

/-- the "minimum 512" clamp at the top of `Msg.Pack` -/
theorem Pack_sizeClamp_translated (size : Nat) :
    Translated.Pack_sizeClamp size = (if size > 0 ∧ size < 512 then 512 else size) := by
  unfold Translated.Pack_sizeClamp
  tr_val

/-- the 14-bit guard `newPtr <= int(^uint16(0)>>2)` of `Name.pack` is the model's `pos ≤ ptrLimit` -/
theorem ptrFits_translated (pos : Nat) : decide (pos ≤ ptrLimit) = Translated.c02_ptrFits pos := by
  unfold Translated.c02_ptrFits ptrLimit
  bool_arith

/-! ### `Question.Len`, `ResourceHdr.packLen` and the per-type `packLen` (the lengths `Msg.Len` and the size limit of
    `Msg.Pack` add up) -/

theorem Id_pure_nat (x : Nat) : (pure x : Id Nat) = x := rfl

theorem Question_Len_eq (nameLen : Nat) : Translated.c02_Question_Len nameLen = nameLen + 4 := by
  unfold Translated.c02_Question_Len
  tr_val

theorem RHdr_packLen_eq (nameLen : Nat) : Translated.c02_RHdr_packLen nameLen = nameLen + 10 := by
  unfold Translated.c02_RHdr_packLen
  tr_val

theorem Raw_packLen_eq (hdrLen n : Nat) :
    Translated.c02_Raw_packLen hdrLen n = hdrLen + (if n > 65535 then 65535 else n) := by
  unfold Translated.c02_Raw_packLen
  tr_val

/-- `Question.Len` -/
theorem Question_Len_translated (q : Question) :
    questionLen q = Translated.c02_Question_Len (namePackLen q.name) := by
  rw [Question_Len_eq]
  rfl

/-- every `packLen` of rr.go: the model's `resourcePackLen`, type by type -/
theorem packLen_translated (name : Name) (ty cls ttl : Nat) :
    let hdr := Translated.c02_RHdr_packLen (namePackLen name)
    (∀ b, resourcePackLen ⟨name, ty, cls, ttl, .a b⟩ = Translated.c02_A_packLen hdr) ∧
    (∀ b, resourcePackLen ⟨name, ty, cls, ttl, .aaaa b⟩ = Translated.c02_AAAA_packLen hdr) ∧
    (∀ n, resourcePackLen ⟨name, ty, cls, ttl, .name n⟩ = Translated.c02_NAME_packLen hdr (namePackLen n)) ∧
    (∀ p n, resourcePackLen ⟨name, ty, cls, ttl, .mx p n⟩ = Translated.c02_MX_packLen hdr (namePackLen n)) ∧
    (∀ ns mb a b c d e, resourcePackLen ⟨name, ty, cls, ttl, .soa ns mb a b c d e⟩ =
      Translated.c02_SOA_packLen hdr (namePackLen ns) (namePackLen mb)) ∧
    (∀ p w port t, resourcePackLen ⟨name, ty, cls, ttl, .srv p w port t⟩ = Translated.c02_SRV_packLen hdr (namePackLen t)) ∧
    (∀ d, resourcePackLen ⟨name, ty, cls, ttl, .raw d⟩ = Translated.c02_Raw_packLen hdr d.length) := by
  simp only [RHdr_packLen_eq, Raw_packLen_eq]
  refine ⟨?a, ?aaaa, ?name, ?mx, ?soa, ?srv, ?raw⟩
  all_goals intros
  all_goals unfold resourcePackLen rdataPackLen
  case a =>
    unfold Translated.c02_A_packLen
    tr_val
  case aaaa =>
    unfold Translated.c02_AAAA_packLen
    tr_val
  case name =>
    unfold Translated.c02_NAME_packLen
    tr_val
  case mx =>
    unfold Translated.c02_MX_packLen
    tr_val
  case soa =>
    unfold Translated.c02_SOA_packLen
    tr_val
  case srv =>
    unfold Translated.c02_SRV_packLen
    tr_val
  case raw => rfl

end MosVerif.Wire
