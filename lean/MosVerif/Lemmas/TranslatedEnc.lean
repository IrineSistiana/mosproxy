/-
  Tie by translation (C02/C09): the DNS wire ENCODER, leaf writers of utils.go.
  `Translated.packByte/packUint16/packUint32/packBytes/packNamePtr` (regenerated from the current Go source; the
  pre-sized buffer is threaded through as a value) are EQUAL to `Wire.writeAt` of the model's encoders (`enc16`,
  `enc32`, the octets themselves), for all buffers, offsets and values.
  Facts about the model's `writeAt` alone that only the tie needs are proved here: `writeAt_split`, `writeAt_err`,
  `writeAt_ne_panic`, `writeAt_ok_length`, `writeAt_nil` and `writeAt_append` (the one `Model/Pack.lean` cites).
-/
import MosVerif.Lemmas.TranslatedCodec
import MosVerif.Model.Pack
namespace MosVerif.Wire
open MosVerif

theorem u8_ofNat_mod (n : Nat) : UInt8.ofNat (n % 256) = UInt8.ofNat n := by
  apply UInt8.toNat_inj.1
  simp [UInt8.toNat_ofNat']

/-- a buffer with room for `n` octets at `off` is `prefix ++ window ++ rest` -/
theorem split3 (b : Bytes) (off n : Nat) (h : off + n ≤ b.length) :
    ∃ p m r, b = p ++ (m ++ r) ∧ p.length = off ∧ m.length = n := by
  refine ⟨b.take off, (b.drop off).take n, b.drop (off + n), ?_, by simp; omega, by simp; omega⟩
  rw [← List.drop_drop, List.take_append_drop, List.take_append_drop]

theorem take_len_add (p x r : Bytes) : List.take (p.length + x.length) (p ++ (x ++ r)) = p ++ x := by
  rw [← List.append_assoc, ← List.length_append]
  exact List.take_left' rfl

/-- `b[lo:hi]` of a buffer that is split around the window -/
theorem slice_window (p m r : Bytes) : GoSem.slice (p ++ (m ++ r)) p.length (p.length + m.length) = .ok m := by
  unfold GoSem.slice
  rw [if_pos ⟨Nat.le_add_right .., by simp⟩, take_len_add, List.drop_left]

/-- `b[lo:]` of a buffer that is split at `lo` -/
theorem sliceFrom_window (p t : Bytes) : GoSem.sliceFrom (p ++ t) p.length = .ok t := by
  unfold GoSem.sliceFrom
  rw [if_pos (by simp), List.drop_left]

/-- an `int` difference that stays in ℕ, used as an index -/
theorem natOfInt_sub (a b : Nat) (h : b ≤ a) : GoSem.natOfInt ((a : Int) - (b : Int)) = .ok (a - b) := by
  unfold GoSem.natOfInt
  rw [if_pos (by omega)]
  congr 1
  omega

/-- the write-back of the window's new contents `w` -/
theorem splice_window (p m r w : Bytes) (h : w.length = m.length) :
    GoSem.splice (p ++ (m ++ r)) p.length w = p ++ (w ++ r) := by
  unfold GoSem.splice
  rw [List.take_left, h, ← List.append_assoc p m r, ← List.length_append, List.drop_left, List.append_assoc]

/-- canonical form of a write that fits -/
theorem writeAt_split (p m r bs : Bytes) (h : bs.length = m.length) :
    writeAt (p ++ (m ++ r)) p.length bs = .ok (p ++ (bs ++ r), p.length + bs.length) := by
  unfold writeAt
  have : p.length + bs.length ≤ (p ++ (m ++ r)).length := by simp; omega
  simp [h]

theorem writeAt_err (b : Bytes) (off : Nat) (bs : Bytes) (h : ¬ off + bs.length ≤ b.length) :
    writeAt b off bs = .err := by
  unfold writeAt
  simp [h]

theorem writeAt_ne_panic (b : Bytes) (off : Nat) (bs : Bytes) : writeAt b off bs ≠ .panic := by
  unfold writeAt
  split <;> simp

theorem writeAt_ok_length (b : Bytes) (off : Nat) (bs b' : Bytes) (o : Nat) (h : writeAt b off bs = .ok (b', o)) :
    b'.length = b.length ∧ o = off + bs.length ∧ off + bs.length ≤ b.length := by
  unfold writeAt at h
  by_cases hf : off + bs.length ≤ b.length
  · simp only [hf, if_true, Res.ok.injEq, Prod.mk.injEq] at h
    obtain ⟨rfl, rfl⟩ := h
    refine ⟨?_, rfl, hf⟩
    simp
    omega
  · simp [hf] at h

/-- sequential writes are ONE write of the concatenation -/
theorem writeAt_append (b : Bytes) (off : Nat) (x y : Bytes) :
    writeAt b off (x ++ y) = (writeAt b off x >>= fun r => writeAt r.1 r.2 y) := by
  by_cases h : off + (x ++ y).length ≤ b.length
  · obtain ⟨p, m, r, rfl, rfl, hm⟩ := split3 b off (x ++ y).length h
    have hm' : m.length = x.length + y.length := by simpa using hm
    obtain ⟨m1, m2, rfl, h1, h2⟩ : ∃ m1 m2, m = m1 ++ m2 ∧ m1.length = x.length ∧ m2.length = y.length :=
      ⟨m.take x.length, m.drop x.length, by simp, by simp; omega, by simp; omega⟩
    rw [writeAt_split p (m1 ++ m2) r (x ++ y) (by simp [h1, h2])]
    have e1 : p ++ (m1 ++ m2 ++ r) = p ++ (m1 ++ (m2 ++ r)) := by simp
    rw [e1, writeAt_split p m1 (m2 ++ r) x h1.symm]
    simp only [Res.bind_ok']
    have e2 : p ++ (x ++ (m2 ++ r)) = (p ++ x) ++ (m2 ++ r) := by simp
    have e3 : p.length + x.length = (p ++ x).length := by simp
    rw [e2, e3, writeAt_split (p ++ x) m2 r y h2.symm]
    simp [Nat.add_assoc]
  · rw [writeAt_err b off (x ++ y) h]
    by_cases hx : off + x.length ≤ b.length
    · obtain ⟨p, m, r, rfl, rfl, hm⟩ := split3 b off x.length hx
      rw [writeAt_split p m r x hm.symm]
      simp only [Res.bind_ok']
      rw [writeAt_err]
      simp at h ⊢
      omega
    · rw [writeAt_err b off x hx]; rfl

theorem writeAt_nil (b : Bytes) (off : Nat) (h : off ≤ b.length) : writeAt b off [] = .ok (b, off) := by
  unfold writeAt
  simp [h]

/-- the write-back when the window is the whole tail `b[lo:]` -/
theorem splice_tail (p t w : Bytes) (h : w.length = t.length) : GoSem.splice (p ++ t) p.length w = p ++ w := by
  unfold GoSem.splice
  rw [List.take_left, List.drop_eq_nil_of_le (by simp [h]), List.append_nil]

/-- `copy(dst, src)` when the first `len(src)` octets of `dst` are named -/
theorem copy_window (m r v : Bytes) (h : m.length = v.length) : GoSem.copy (m ++ r) v = v ++ r := by
  unfold GoSem.copy
  rw [List.take_of_length_le (by simp [h]), ← h, List.drop_left]

/-- The shape of the writers of utils.go that go through `b[off:]`: the bounds test, an operation on the tail that
    puts `bs` in place of its first `n` octets, the write-back. -/
theorem window_write (b : Bytes) (off n : Nat) (bs : Bytes) (hbs : bs.length = n) (op : Bytes → Res Bytes)
    (hop : ∀ m r, m.length = n → op (m ++ r) = .ok (bs ++ r)) :
    writeAt b off bs =
      if decide (off + n ≤ GoSem.len b) then
        GoSem.sliceFrom b off >>= fun t => op t >>= fun t' => pure (GoSem.splice b off t', off + n)
      else .err := by
  subst hbs
  by_cases h : off + bs.length ≤ b.length
  · obtain ⟨p, m, r, rfl, rfl, hm⟩ := split3 b off _ h
    rw [writeAt_split p m r bs hm.symm, if_pos (decide_eq_true h), sliceFrom_window, Res.bind_ok', hop m r hm,
      Res.bind_ok', splice_tail p (m ++ r) (bs ++ r) (by simp only [List.length_append, hm])]
    rfl
  · rw [writeAt_err b off bs h, if_neg (by simpa using h)]

/-- `packByte` -/
theorem packByte_translated (b : Bytes) (off v : Nat) :
    writeAt b off [UInt8.ofNat v] = Translated.packByte b off v := by
  unfold Translated.packByte
  by_cases h : off + 1 ≤ b.length
  · obtain ⟨p, m, r, rfl, rfl, hm⟩ := split3 b off 1 h
    match m, hm with
    | [m0], _ =>
      rw [writeAt_split p [m0] r [UInt8.ofNat v] rfl]
      have : p.length < (p ++ ([m0] ++ r)).length := by simp
      simp [GoSem.setIndex]
  · rw [writeAt_err _ _ _ (by simpa using h)]
    simp [h]

/-- `packUint16` writes the model's `enc16` -/
theorem packUint16_translated (b : Bytes) (off v : Nat) :
    writeAt b off (enc16 v) = Translated.packUint16 b off v :=
  window_write b off 2 (enc16 v) rfl (fun t => GoSem.putUint16 t v) fun m r hm => by
    match m, hm with
    | [_, _], _ => simp only [List.cons_append, List.nil_append, GoSem.putUint16, enc16, u8_ofNat_mod]

/-- `packUint32` writes the model's `enc32` -/
theorem packUint32_translated (b : Bytes) (off v : Nat) :
    writeAt b off (enc32 v) = Translated.packUint32 b off v :=
  window_write b off 4 (enc32 v) rfl (fun t => GoSem.putUint32 t v) fun m r hm => by
    match m, hm with
    | [_, _, _, _], _ => simp only [List.cons_append, List.nil_append, GoSem.putUint32, enc32, u8_ofNat_mod]

/-- `packBytes` writes the octets -/
theorem packBytes_translated (b : Bytes) (off : Nat) (v : Bytes) :
    writeAt b off v = Translated.packBytes b off v :=
  window_write b off v.length v rfl (fun t => .ok (GoSem.copy t v)) fun m r hm => congrArg Res.ok (copy_window m r v hm)

/-- `packNamePtr` writes the two octets of its `[2]byte` argument -/
theorem packNamePtr_translated (b : Bytes) (off : Nat) (v : Bytes) (hv : v.length = 2) :
    writeAt b off v = Translated.packNamePtr b off v :=
  window_write b off 2 v hv (fun t => .ok (GoSem.copy t v)) fun m r hm =>
    congrArg Res.ok (copy_window m r v (hm.trans hv.symm))

end MosVerif.Wire
