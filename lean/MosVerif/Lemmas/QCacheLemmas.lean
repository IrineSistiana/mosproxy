/-
  C07, converse direction: `MemoryCache` on the quirky backend refines the ideal TTL map.

  `viewAt s t k` is what a lookup of `k` at time `t` would see; `Rel` says that it is the ideal map's
  answer now and at every later time, so every operation is judged by what it does to `viewAt`.
  The invariant `QInv` reads the queue of listener calls through membership only (`QInv.pend_mono`),
  and a listener call is harmless for an entry that no live node uses (`QInv.release`). While a
  `Store` runs, its new entry counts as queued for the listener (`QInvX`): the lemmas about the
  backend calls are then the ones about `QInv`, and a refused entry is released like any queued one.
  `Keeps`: a backend event leaves `QInv` and every `viewAt` as they are.  At the end the executable
  specifications of the components `cachehist` (`hist_meets_spec`) and `cacheconv` (`conv_eq`).
-/
import MosVerif.Model.QCache
-- `[Inhabited K] [DecidableEq K]` below are arguments of every definition and statement of this file,
-- which other files cite in that form, also where a proof does not need them
set_option linter.unusedSectionVars false
namespace MosVerif.QCache

variable {K V : Type} [Inhabited K] [DecidableEq K]

/-- what a lookup at time `t` should see: the value of the key's node while its lifetime lasts -/
def viewAt (s : QState K V) (t : Nat) (k : K) : Option V :=
  match s.nodes k with
  | some n => if t < n.exp then (s.ents n.e).2 else none
  | none => none

def view (s : QState K V) (k : K) : Option V := viewAt s s.now k

theorem viewAt_none {s : QState K V} {k : K} (hn : s.nodes k = none) (t : Nat) : viewAt s t k = none := by
  rw [viewAt, hn]

theorem viewAt_expired {s : QState K V} {k : K} {n : Node} (hn : s.nodes k = some n) {t : Nat}
    (hx : ¬ t < n.exp) : viewAt s t k = none := by
  rw [viewAt, hn]
  exact if_neg hx

theorem viewAt_live {s : QState K V} {k : K} {n : Node} (hn : s.nodes k = some n) {t : Nat}
    (hl : t < n.exp) : viewAt s t k = (s.ents n.e).2 := by
  rw [viewAt, hn]
  exact if_pos hl

/-- the ideal map's answer at time `t` -/
def Ideal.getAt (i : Ideal K V) (t : Nat) (k : K) : Option V :=
  match i.m k with
  | some (v, exp) => if t < exp then some v else none
  | none => none

theorem Ideal.get_eq (i : Ideal K V) (k : K) : i.get k = i.getAt i.now k := rfl

/-- the invariant of `MemoryCache` over the quirky backend -/
structure QInv (s : QState K V) : Prop where
  lt : ∀ k n, s.nodes k = some n → n.e < s.next
  /-- a live node's entry holds the node's key and a value -/
  own : ∀ k n, s.nodes k = some n → s.now < n.exp → ∃ v, s.ents n.e = (k, some v)
  /-- no listener call is queued for the entry of a live node -/
  notPend : ∀ k n, s.nodes k = some n → s.now < n.exp → n.e ∉ s.pend
  pendLt : ∀ e, e ∈ s.pend → e < s.next
  /-- entry objects are not shared between nodes (no recycling) -/
  inj : ∀ k k' n n', s.nodes k = some n → s.nodes k' = some n' → n.e = n'.e → k = k'
  /-- no leak: an allocated entry is referenced by the map, queued for release, or released -/
  noLeak : ∀ e, e < s.next → Referenced s e ∨ e ∈ s.pend ∨ (s.ents e).2 = none

/-- the refinement relation to the ideal TTL map -/
structure Rel (s : QState K V) (i : Ideal K V) : Prop where
  now : s.now = i.now
  /-- now and at every later time (as long as nothing else is stored) the two agree -/
  view : ∀ t, s.now ≤ t → ∀ k, viewAt s t k = i.getAt t k

theorem qinv_empty : QInv (QState.empty : QState K V) :=
  ⟨nofun, nofun, nofun, nofun, nofun, fun _ h => absurd h (Nat.not_lt_zero _)⟩

theorem rel_empty : Rel (QState.empty : QState K V) Ideal.empty := by
  constructor
  · rfl
  · exact fun t _ k => viewAt_none rfl t

theorem upd_same {α : Type} (f : Nat → α) (i : Nat) (x : α) : upd f i x i = x := if_pos rfl
theorem upd_ne {α : Type} (f : Nat → α) {i j : Nat} (x : α) (h : j ≠ i) : upd f i x j = f j := if_neg h
theorem updK_same {α : Type} (f : K → α) (k : K) (x : α) : updK f k x k = x := if_pos rfl
theorem updK_ne {α : Type} (f : K → α) {k j : K} (x : α) (h : j ≠ k) : updK f k x j = f j := if_neg h

theorem updK_updK {α : Type} (f : K → α) (k : K) (a b : α) : updK (updK f k a) k b = updK f k b := by
  funext j
  unfold updK
  split <;> rfl

theorem updK_none_some {α : Type} {f : K → Option α} {k j : K} {x : α} (h : updK f k none j = some x) :
    j ≠ k ∧ f j = some x := by
  unfold updK at h
  split at h
  · cases h
  · next hj => exact ⟨hj, h⟩

/-- `e` is not the entry of a node whose lifetime lasts -/
def NotLive (s : QState K V) (e : Nat) : Prop := ∀ k n, s.nodes k = some n → s.now < n.exp → n.e ≠ e

theorem notLive_of_pend {s : QState K V} (h : QInv s) {e : Nat} (he : e ∈ s.pend) : NotLive s e := by
  intro k n hn hl heq
  exact h.notPend k n hn hl (heq ▸ he)

theorem notLive_of_expired {s : QState K V} (h : QInv s) {k : K} {n : Node} (hn : s.nodes k = some n)
    (hx : ¬ s.now < n.exp) : NotLive s n.e := by
  intro k' n' hn' hl heq
  have := h.inj k' k n' n hn' hn heq
  subst this
  rw [hn] at hn'
  cases hn'
  exact hx hl

theorem notLive_of_fresh {s : QState K V} (h : QInv s) {e : Nat} (he : s.next ≤ e) : NotLive s e := by
  intro k n hn _ heq
  have := h.lt k n hn
  omega

/-- The invariant looks at the queue of listener calls through membership only, and calls may be
    added for allocated entries that no live node uses. -/
theorem QInv.pend_mono {s : QState K V} (h : QInv s) {p : List Nat} (hsub : ∀ e, e ∈ s.pend → e ∈ p)
    (hnew : ∀ e, e ∈ p → e ∈ s.pend ∨ e < s.next ∧ NotLive s e) : QInv { s with pend := p } := by
  refine ⟨h.lt, h.own, ?_, ?_, h.inj, fun e he => (h.noLeak e he).imp_right (Or.imp_left (hsub e))⟩
  · intro k n hn hl hm
    rcases hnew _ hm with hm | ⟨_, hnl⟩
    · exact h.notPend k n hn hl hm
    · exact hnl k n hn hl rfl
  · intro e he
    rcases hnew e he with he | ⟨hlt, _⟩
    · exact h.pendLt e he
    · exact hlt

theorem QInv.pend_swap {s : QState K V} {a b : Nat} {l : List Nat} (h : QInv { s with pend := a :: b :: l }) :
    QInv { s with pend := b :: a :: l } := by
  have swap {a b e : Nat} : e ∈ a :: b :: l → e ∈ b :: a :: l := by
    simp only [List.mem_cons]
    exact or_left_comm.mp
  exact h.pend_mono (fun _ => swap) fun _ he => .inl (swap he)

/-- queueing one more listener call for an entry that no live node uses -/
theorem qinv_pend_add {s : QState K V} (h : QInv s) {e : Nat} (hlt : e < s.next) (hnl : NotLive s e) :
    QInv { s with pend := e :: s.pend } :=
  h.pend_mono (fun _ => List.mem_cons_of_mem _) fun x hx => by
    rcases List.mem_cons.mp hx with rfl | hx
    · exact .inr ⟨hlt, hnl⟩
    · exact .inl hx

/-- `viewAt` looks at the nodes and at the entries of the nodes whose lifetime lasts -/
theorem viewAt_congr {s s' : QState K V} (hn : s'.nodes = s.nodes) {t : Nat}
    (he : ∀ k n, s.nodes k = some n → t < n.exp → s'.ents n.e = s.ents n.e) (k : K) :
    viewAt s' t k = viewAt s t k := by
  unfold viewAt
  rw [hn]
  cases hk : s.nodes k with
  | none => rfl
  | some n =>
    simp only
    split
    · next hl => rw [he k n hk hl]
    · rfl

/-- `releaseEntry` on an entry `e` that no live node uses; calls for `e` may leave the queue with it -/
theorem QInv.release {s : QState K V} (h : QInv s) {e : Nat} (hnl : NotLive s e) {p : List Nat}
    (hsub : ∀ x, x ∈ p → x ∈ s.pend) (hsup : ∀ x, x ∈ s.pend → x = e ∨ x ∈ p) :
    QInv (release { s with pend := p } e) := by
  refine ⟨h.lt, ?_, fun k n hn hl hm => h.notPend k n hn hl (hsub _ hm), fun x hx => h.pendLt x (hsub x hx),
    h.inj, ?_⟩
  · intro k n hn hl
    obtain ⟨v, hv⟩ := h.own k n hn hl
    exact ⟨v, (upd_ne _ _ (hnl k n hn hl)).trans hv⟩
  · intro e' he'
    by_cases hee : e' = e
    · subst hee; exact .inr (.inr (congrArg Prod.snd (upd_same ..)))
    · rcases h.noLeak e' he' with h1 | h1 | h1
      · exact .inl h1
      · exact .inr (.inl ((hsup e' h1).resolve_left hee))
      · exact .inr (.inr ((congrArg Prod.snd (upd_ne _ _ hee)).trans h1))

theorem view_release {s : QState K V} {e : Nat} (hnl : NotLive s e) (p : List Nat) (t : Nat)
    (ht : s.now ≤ t) (k : K) : viewAt (release { s with pend := p } e) t k = viewAt s t k :=
  viewAt_congr (s := s) (s' := release { s with pend := p } e) rfl
    (fun k n hn hl => upd_ne _ _ (hnl k n hn (Nat.lt_of_le_of_lt ht hl))) k

theorem Rel.view_now {s : QState K V} {i : Ideal K V} (r : Rel s i) (k : K) : QCache.view s k = i.get k := by
  unfold QCache.view
  rw [Ideal.get_eq, ← r.now]
  exact r.view _ (Nat.le_refl _) k

/-- a step of the environment: the invariant holds afterwards, and the clock and what the lookups
    see, now and later, are as before -/
structure Keeps (s s' : QState K V) : Prop where
  inv : QInv s'
  view : ∀ t, s.now ≤ t → ∀ k, viewAt s' t k = viewAt s t k
  now : s'.now = s.now

/-- such a step keeps the refinement -/
theorem Rel.of_view {s s' : QState K V} {i : Ideal K V} (r : Rel s i) (hnow : s'.now = s.now)
    (hv : ∀ t, s.now ≤ t → ∀ k, viewAt s' t k = viewAt s t k) : Rel s' i :=
  ⟨hnow.trans r.now, fun t ht k => (hv t (hnow ▸ ht) k).trans (r.view t (hnow ▸ ht) k)⟩

theorem Keeps.rel {s s' : QState K V} {i : Ideal K V} (hk : Keeps s s') (r : Rel s i) :
    QInv s' ∧ Rel s' i :=
  ⟨hk.inv, r.of_view hk.now hk.view⟩

theorem fire_spec {s : QState K V} (h : QInv s) (i : Nat) : Keeps s (fire s i) := by
  unfold fire
  cases hi : s.pend[i]? with
  | none => exact ⟨h, fun _ _ _ => rfl, rfl⟩
  | some e =>
    have hnl := notLive_of_pend h (List.mem_of_getElem? hi)
    refine ⟨h.release hnl (fun _ => List.mem_of_mem_eraseIdx) fun x hx => ?_, view_release hnl _, rfl⟩
    refine Decidable.or_iff_not_imp_left.mpr fun hxe => ?_
    obtain ⟨j, hj, hjx⟩ := List.mem_iff_getElem.mp hx
    refine List.mem_eraseIdx_iff_getElem.mpr ⟨j, hj, fun hji => ?_, hjx⟩
    subst hji
    rw [List.getElem?_eq_getElem hj, hjx] at hi
    exact hxe (Option.some.inj hi)

theorem fireAgain_spec {s : QState K V} (h : QInv s) (i : Nat) : Keeps s (fireAgain s i) := by
  unfold fireAgain
  cases hi : s.pend[i]? with
  | none => exact ⟨h, fun _ _ _ => rfl, rfl⟩
  | some e =>
    have hnl := notLive_of_pend h (List.mem_of_getElem? hi)
    exact ⟨h.release hnl (fun _ => id) fun _ => .inr, view_release hnl _, rfl⟩

theorem tick_inv {s : QState K V} (h : QInv s) (d : Nat) : QInv (tick s d) :=
  ⟨h.lt, fun k n hn hl => h.own k n hn (Nat.lt_of_le_of_lt (Nat.le_add_right ..) hl),
    fun k n hn hl => h.notPend k n hn (Nat.lt_of_le_of_lt (Nat.le_add_right ..) hl), h.pendLt, h.inj, h.noLeak⟩

theorem tick_rel {s : QState K V} {i : Ideal K V} (r : Rel s i) (d : Nat) :
    Rel (tick s d) { i with now := i.now + d } :=
  ⟨congrArg (· + d) r.now, fun t ht k => r.view t (Nat.le_trans (Nat.le_add_right ..) ht) k⟩

/-- the node of `k` is removed from the map and its entry queued for the listener
    (`cleanup`, `Delete`, the node a `Set` replaces) -/
theorem QInv.drop {s : QState K V} (h : QInv s) {k : K} {n : Node} (hn : s.nodes k = some n) :
    QInv { s with nodes := updK s.nodes k none, pend := n.e :: s.pend } := by
  refine ⟨fun k' n' hn' => h.lt k' n' (updK_none_some hn').2,
    fun k' n' hn' => h.own k' n' (updK_none_some hn').2, ?_, ?_,
    fun k1 k2 n1 n2 h1 h2 => h.inj k1 k2 n1 n2 (updK_none_some h1).2 (updK_none_some h2).2, ?_⟩
  · intro k' n' hn' hl' hm
    obtain ⟨hkk, hn'⟩ := updK_none_some hn'
    rcases List.mem_cons.mp hm with hm | hm
    · exact hkk (h.inj k' k n' n hn' hn hm)
    · exact h.notPend k' n' hn' hl' hm
  · intro e he
    rcases List.mem_cons.mp he with he | he
    · exact he ▸ h.lt k n hn
    · exact h.pendLt e he
  · intro e he
    rcases h.noLeak e he with ⟨k', n', hn', hne⟩ | h1 | h1
    · by_cases hkk : k' = k
      · subst hkk
        rw [hn] at hn'
        cases hn'
        exact .inr (.inl (hne ▸ List.mem_cons_self))
      · exact .inl ⟨k', n', (updK_ne _ _ hkk).trans hn', hne⟩
    · exact .inr (.inl (List.mem_cons_of_mem _ h1))
    · exact .inr (.inr h1)

theorem view_drop_expired {s : QState K V} {k : K} {n : Node} (hn : s.nodes k = some n) {t : Nat}
    (hx : ¬ t < n.exp) (p : List Nat) (k' : K) :
    viewAt { s with nodes := updK s.nodes k none, pend := p } t k' = viewAt s t k' := by
  unfold viewAt
  by_cases hkk : k' = k
  · subst hkk
    simp only [updK_same, hn, hx, if_false]
  · simp only [updK_ne _ _ hkk]

theorem cleanup_spec {s : QState K V} (h : QInv s) (k : K) : Keeps s (cleanup s k) := by
  unfold cleanup
  cases hn : s.nodes k with
  | none => exact ⟨h, fun _ _ _ => rfl, rfl⟩
  | some n =>
    simp only
    split
    · exact ⟨h, fun _ _ _ => rfl, rfl⟩
    · next hl =>
      exact ⟨h.drop hn, fun t ht => view_drop_expired hn (fun a => hl (Nat.lt_of_le_of_lt ht a)) _, rfl⟩

/-! ### lookups -/

/-- two states that differ in the queue of listener calls only -/
structure Same (s s' : QState K V) : Prop where
  nodes : s'.nodes = s.nodes
  ents : s'.ents = s.ents
  now : s'.now = s.now

theorem Same.refl (s : QState K V) : Same s s := ⟨rfl, rfl, rfl⟩
theorem Same.trans {a b c : QState K V} (h1 : Same a b) (h2 : Same b c) : Same a c :=
  ⟨h2.nodes.trans h1.nodes, h2.ents.trans h1.ents, h2.now.trans h1.now⟩

theorem Same.viewAt {s s' : QState K V} (h : Same s s') (t : Nat) (k : K) : viewAt s' t k = viewAt s t k := by
  unfold QCache.viewAt; rw [h.nodes, h.ents]

theorem Same.view {s s' : QState K V} (h : Same s s') (k : K) : view s' k = view s k := by
  unfold QCache.view; rw [h.now]; exact h.viewAt _ k

theorem bGet_live {s : QState K V} {k : K} {n : Node} (hn : s.nodes k = some n) (hl : s.now < n.exp) :
    bGet s k = (some n.e, s) := by
  simp only [bGet, hn, hl, if_true]

theorem bGet_expired {s : QState K V} {k : K} {n : Node} (hn : s.nodes k = some n) (hx : ¬ s.now < n.exp) :
    bGet s k = (none, { s with pend := n.e :: s.pend }) := by
  simp only [bGet, hn, hx, if_false]

theorem bDelete_some {s : QState K V} {k : K} {n : Node} (hn : s.nodes k = some n) :
    bDelete s k = { s with nodes := updK s.nodes k none, pend := n.e :: s.pend } := by
  simp only [bDelete, hn]

/-- `backend.Get`: a live node is returned and nothing changes; otherwise a miss, and at most a
    listener call for the expired node's entry is queued -/
theorem bGet_spec {s s' : QState K V} (h : QInv s) {k : K} {r : Option Nat} (hb : bGet s k = (r, s')) :
    QInv s' ∧ Same s s' ∧ ∀ e, r = some e → s' = s ∧ ∃ n, s.nodes k = some n ∧ s.now < n.exp ∧ n.e = e := by
  unfold bGet at hb
  cases hn : s.nodes k with
  | none =>
    rw [hn] at hb
    cases hb
    exact ⟨h, Same.refl s, nofun⟩
  | some n =>
    rw [hn] at hb
    simp only at hb
    split at hb
    · next hl =>
      cases hb
      exact ⟨h, Same.refl s, fun e he => ⟨rfl, n, rfl, hl, Option.some.inj he⟩⟩
    · next hl =>
      cases hb
      exact ⟨qinv_pend_add h (h.lt k n hn) (notLive_of_expired h hn hl), ⟨rfl, rfl, rfl⟩, nofun⟩

/-- what holds of the rest of a lookup from `s'` holds of it from `s`, which differs in the queue only -/
theorem Same.lift {s s' : QState K V} {k : K} {r : Option V × QState K V} (h2 : Same s s')
    (ih : QInv r.2 ∧ Same s' r.2 ∧ ∀ v, r.1 = some v → QCache.view s' k = some v) :
    QInv r.2 ∧ Same s r.2 ∧ ∀ v, r.1 = some v → QCache.view s k = some v :=
  ⟨ih.1, h2.trans ih.2.1, fun v hv => (h2.view k).symm.trans (ih.2.2 v hv)⟩

/-- whatever glitches a lookup meets, it changes the queue of listener calls only, and a hit is the
    value of the key's live node -/
theorem getLoop_spec {k : K} (left misses : Nat) (gl : List Glitch) (s : QState K V) : QInv s →
    QInv (getLoop left misses gl s k).2 ∧ Same s (getLoop left misses gl s k).2 ∧
    ∀ v, (getLoop left misses gl s k).1 = some v → view s k = some v := by
  -- the cases follow the clauses of `getLoop`: 1 budget used up; 2, 3 a dead miss (retried / given up);
  -- 4, 5 a released or locked entry (retried); then the backend call: 6, 7 a miss (retried / given up),
  -- 8 a hit, 9 an entry of another key, 10 a released entry (both retried)
  fun_induction getLoop left misses gl s k with
  | case1 | case3 => exact fun h => ⟨h, Same.refl _, nofun⟩
  | case2 _ _ _ _ _ _ ih | case4 _ _ _ _ _ ih | case5 _ _ _ _ _ ih => exact ih
  | case6 left misses s k s' hb _ ih | case9 left misses s k e s' hb k' v he hk ih
  | case10 left misses s k e s' hb k' he ih =>
    intro h
    obtain ⟨h1, h2, _⟩ := bGet_spec h hb
    exact h2.lift (ih h1)
  | case7 left misses s k s' hb _ =>
    intro h
    obtain ⟨h1, h2, _⟩ := bGet_spec h hb
    exact ⟨h1, h2, nofun⟩
  | case8 left misses s e s' k v he hb =>
    intro h
    obtain ⟨h1, h2, h3⟩ := bGet_spec h hb
    obtain ⟨rfl, n, hn, hl, hne⟩ := h3 e rfl
    refine ⟨h1, h2, fun v' hv' => ?_⟩
    cases hv'
    rw [view, viewAt_live hn hl, hne, he]

/-- the number of dead misses in a glitch script: what `Glitch.ok` bounds by 2 -/
def deadCount (gl : List Glitch) : Nat := (gl.filter (· == .deadMiss)).length

/-- ★ a live key is never reported as a miss: with enough of the retry budget left for the glitches
    the lookup meets, it returns the live value -/
theorem getLoop_live {k : K} {v : V} : ∀ (left misses : Nat) (gl : List Glitch) (s : QState K V), QInv s →
    view s k = some v → gl.length < left → misses + deadCount gl < 3 →
    (getLoop left misses gl s k).1 = some v
  | 0, _, _, _, _ => by intro _ h; omega
  | left + 1, misses, g :: gl, s, h => by
    intro hv hlen hm
    simp only [List.length_cons] at hlen
    cases g <;> simp only [getLoop]
    · have hd : deadCount (Glitch.deadMiss :: gl) = deadCount gl + 1 := rfl
      rw [hd] at hm
      have : misses + 1 < 3 := by omega
      simp only [this, if_true]
      exact getLoop_live left _ gl s h hv (by omega) (by omega)
    · have hd : deadCount (Glitch.released :: gl) = deadCount gl := rfl
      exact getLoop_live left _ gl s h hv (by omega) (by omega)
    · have hd : deadCount (Glitch.locked :: gl) = deadCount gl := rfl
      exact getLoop_live left _ gl s h hv (by omega) (by omega)
  | left + 1, misses, [], s, h => by
    intro hv _ _
    cases hn : s.nodes k with
    | none =>
      rw [view, viewAt_none hn] at hv
      cases hv
    | some n =>
      by_cases hl : s.now < n.exp
      · obtain ⟨v', hv'⟩ := h.own k n hn hl
        rw [view, viewAt_live hn hl, hv'] at hv
        cases hv
        -- the backend returns the live node, and its entry holds `(k, v)`
        rw [getLoop, bGet_live hn hl]
        simp only [hv', if_true]
      · rw [view, viewAt_expired hn hl] at hv
        cases hv

/-- with glitches inside the retry budget a lookup returns exactly what `view` says -/
theorem get_complete {s : QState K V} (h : QInv s) (k : K) {gl : List Glitch} (hok : Glitch.ok gl = true) :
    (get s k gl).1 = view s k := by
  simp only [Glitch.ok, Bool.and_eq_true, decide_eq_true_eq] at hok
  cases hv : view s k with
  | some v => exact getLoop_live 8 0 gl s h hv (by omega) (by unfold deadCount; omega)
  | none =>
    cases hr : (get s k gl).1 with
    | none => rfl
    | some v => exact nomatch hv.symm.trans ((getLoop_spec 8 0 gl s h).2.2 v hr)

theorem glitch_ok_nil : Glitch.ok [] = true := by decide

/-! ### stores -/

/-- The invariant while a `Store` runs. Its new entry `x`, filled with `(k, v)` and not yet known to
    the backend, counts as queued for the listener: it is released if the backend refuses it. -/
structure QInvX (s : QState K V) (x : Nat) (k : K) (v : V) : Prop where
  inv : QInv { s with pend := x :: s.pend }
  xfresh : ∀ k n, s.nodes k = some n → n.e ≠ x
  xpend : x ∉ s.pend
  xent : s.ents x = (k, some v)

/-- `e := new(cacheEntry)`, filled: the invariant of a running `Store` holds, the lookups see nothing new.
    (The lemmas named `…X` are about the statements of `store`, run under `QInvX`.) -/
theorem allocX {s : QState K V} (h : QInv s) (k : K) (v : V) :
    QInvX (alloc s k v) s.next k v ∧ (∀ t k', viewAt (alloc s k v) t k' = viewAt s t k') := by
  have hne k n (hn : s.nodes k = some n) : n.e ≠ s.next := Nat.ne_of_lt (h.lt k n hn)
  refine ⟨⟨⟨fun k' n hn => Nat.lt_succ_of_lt (h.lt k' n hn), ?_, ?_, ?_, h.inj, ?_⟩, hne,
    fun hm => Nat.lt_irrefl _ (h.pendLt _ hm), upd_same ..⟩,
    fun t => viewAt_congr (s := s) (s' := alloc s k v) rfl fun k' n hn _ => upd_ne _ _ (hne k' n hn)⟩
  · intro k' n hn hl
    obtain ⟨v', hv'⟩ := h.own k' n hn hl
    exact ⟨v', (upd_ne _ _ (hne k' n hn)).trans hv'⟩
  · intro k' n hn hl hm
    rcases List.mem_cons.mp hm with hm | hm
    · exact hne k' n hn hm
    · exact h.notPend k' n hn hl hm
  · intro e he
    rcases List.mem_cons.mp he with he | he
    · exact Nat.lt_succ_of_le (Nat.le_of_eq he)
    · exact Nat.lt_succ_of_lt (h.pendLt e he)
  · intro e he
    by_cases hee : e = s.next
    · exact .inr (.inl (hee ▸ List.mem_cons_self))
    · rcases h.noLeak e (Nat.lt_of_le_of_ne (Nat.le_of_lt_succ he) hee) with h1 | h1 | h1
      · exact .inl h1
      · exact .inr (.inl (List.mem_cons_of_mem _ h1))
      · exact .inr (.inr ((congrArg Prod.snd (upd_ne _ _ hee)).trans h1))

theorem QInvX.pend_add {s : QState K V} {x : Nat} {kx : K} {vx : V} (h : QInvX s x kx vx) {e : Nat}
    (hlt : e < s.next) (hnl : NotLive s e) (hex : e ≠ x) : QInvX { s with pend := e :: s.pend } x kx vx := by
  refine ⟨(qinv_pend_add h.inv hlt hnl).pend_swap, h.xfresh, fun hm => ?_, h.xent⟩
  rcases List.mem_cons.mp hm with hm | hm
  · exact hex hm.symm
  · exact h.xpend hm

theorem QInvX.drop {s : QState K V} {x : Nat} {kx : K} {vx : V} (h : QInvX s x kx vx) {k : K} {n : Node}
    (hn : s.nodes k = some n) :
    QInvX { s with nodes := updK s.nodes k none, pend := n.e :: s.pend } x kx vx := by
  refine ⟨(h.inv.drop hn).pend_swap, fun k' n' hn' => h.xfresh k' n' (updK_none_some hn').2,
    fun hm => ?_, h.xent⟩
  rcases List.mem_cons.mp hm with hm | hm
  · exact h.xfresh k n hn hm.symm
  · exact h.xpend hm

/-- the new entry becomes the node of its key, which has none -/
theorem QInvX.insert {s : QState K V} {x : Nat} {k : K} {v : V} (h : QInvX s x k v)
    (hn : s.nodes k = none) (exp : Nat) : QInv { s with nodes := updK s.nodes k (some ⟨x, exp⟩) } := by
  have hnew {k' : K} {n' : Node} (hn' : updK s.nodes k (some ⟨x, exp⟩) k' = some n') :
      k' = k ∧ n'.e = x ∨ s.nodes k' = some n' := by
    unfold updK at hn'
    split at hn'
    · next hkk => exact .inl ⟨hkk, Option.some.inj hn' ▸ rfl⟩
    · exact .inr hn'
  refine ⟨?_, ?_, ?_, fun e he => h.inv.pendLt e (List.mem_cons_of_mem _ he), ?_, ?_⟩
  · intro k' n' hn'
    rcases hnew hn' with ⟨_, hx⟩ | hn'
    · exact hx ▸ h.inv.pendLt x List.mem_cons_self
    · exact h.inv.lt k' n' hn'
  · intro k' n' hn' hl'
    rcases hnew hn' with ⟨hkk, hx⟩ | hn'
    · refine ⟨v, ?_⟩
      rw [hx, hkk]
      exact h.xent
    · exact h.inv.own k' n' hn' hl'
  · intro k' n' hn' hl' hm
    rcases hnew hn' with ⟨_, hx⟩ | hn'
    · exact h.xpend (hx ▸ hm)
    · exact h.inv.notPend k' n' hn' hl' (List.mem_cons_of_mem _ hm)
  · intro k1 k2 n1 n2 h1 h2 he
    rcases hnew h1 with ⟨hk1, hx1⟩ | h1 <;> rcases hnew h2 with ⟨hk2, hx2⟩ | h2
    · exact hk1.trans hk2.symm
    · exact absurd (he.symm.trans hx1) (h.xfresh k2 n2 h2)
    · exact absurd (he.trans hx2) (h.xfresh k1 n1 h1)
    · exact h.inv.inj k1 k2 n1 n2 h1 h2 he
  · intro e he
    rcases h.inv.noLeak e he with ⟨k', n', hn', hne⟩ | h1 | h1
    · exact .inl ⟨k', n', (updK_ne _ _ fun hkk => nomatch (hkk ▸ hn').symm.trans hn).trans hn', hne⟩
    · rcases List.mem_cons.mp h1 with h1 | h1
      · exact .inl ⟨k, ⟨x, exp⟩, updK_same .., h1.symm⟩
      · exact .inr (.inl h1)
    · exact .inr (.inr h1)

/-- `Set`, or a `SetIfAbsent` that found no node: the node of the key, if any, goes to the listener and
    the new entry becomes the key's node -/
theorem insertX {s : QState K V} {x : Nat} {k : K} {v : V} (h : QInvX s x k v) (ttl : Nat) :
    QInv (bSet s k x ttl) ∧ (bSet s k x ttl).now = s.now ∧
    (∀ t k', viewAt (bSet s k x ttl) t k' =
      if k' = k then (if t < s.now + ttl then some v else none) else viewAt s t k') := by
  refine ⟨?_, rfl, fun t k' => ?_⟩
  · unfold bSet
    cases hn : s.nodes k with
    | none => exact h.insert hn _
    | some n =>
      have := (h.drop hn).insert (updK_same ..) (s.now + ttl)
      rw [updK_updK] at this
      exact this
  · unfold viewAt
    by_cases hkk : k' = k
    · subst hkk
      simp only [bSet, updK_same, h.xent, if_true]
    · simp only [bSet, updK_ne _ _ hkk, hkk, if_false]

theorem bSetIfAbsent_none {s : QState K V} {k : K} (hn : s.nodes k = none) (e ttl : Nat) :
    bSetIfAbsent s k e ttl = (true, bSet s k e ttl) := by
  simp only [bSetIfAbsent, bSet, hn, List.nil_append]

theorem bSetIfAbsent_some {s : QState K V} {k : K} {n : Node} (hn : s.nodes k = some n) (e ttl : Nat) :
    bSetIfAbsent s k e ttl = (false, s) := by
  simp only [bSetIfAbsent, hn]

/-- the new entry was refused: it is released at once -/
theorem releaseX {s : QState K V} {x : Nat} {k : K} {v : V} (h : QInvX s x k v) :
    QInv (release s x) ∧ (∀ t k', viewAt (release s x) t k' = viewAt s t k') :=
  ⟨h.inv.release (fun k' n hn _ => h.xfresh k' n hn) (fun _ => List.mem_cons_of_mem _) fun _ => List.mem_cons.mp,
    fun _ => viewAt_congr (s := s) (s' := release s x) rfl fun k' n hn _ => upd_ne _ _ (h.xfresh k' n hn)⟩

/-- what `Store` does to the lookups' view, now and later: nothing if a negative answer met a live
    entry, otherwise the key maps to the new value for `ttl` — the ideal map's `store` -/
theorem store_spec {s : QState K V} (h : QInv s) (k : K) (v : V) (ttl : Nat) (nx : Bool) :
    QInv (store s k v ttl nx) ∧ (store s k v ttl nx).now = s.now ∧
    ∀ t, s.now ≤ t → ∀ k', viewAt (store s k v ttl nx) t k' =
      if nx && (view s k).isSome then viewAt s t k'
      else if k' = k then (if t < s.now + ttl then some v else none) else viewAt s t k' := by
  obtain ⟨hx, hva⟩ := allocX h k v
  have hnow : (alloc s k v).now = s.now := rfl
  have hnodes : (alloc s k v).nodes = s.nodes := rfl
  unfold store
  simp only
  cases nx with
  | false =>
    simp only [Bool.false_eq_true, if_false, Bool.false_and]
    obtain ⟨a, b, c⟩ := insertX hx ttl
    exact ⟨a, b, fun t _ k' => by rw [c t k', hva t k', hnow]⟩
  | true =>
    simp only [if_true, Bool.true_and]
    cases hn : s.nodes k with
    | none =>
      have hvk : view s k = none := viewAt_none hn _
      rw [bSetIfAbsent_none (hnodes ▸ hn), hvk]
      simp only [Option.isSome_none, Bool.false_eq_true, if_false]
      obtain ⟨a, b, c⟩ := insertX hx ttl
      exact ⟨a, b, fun t _ k' => by rw [c t k', hva t k', hnow]⟩
    | some n =>
      have hn' : (alloc s k v).nodes k = some n := hn
      rw [bSetIfAbsent_some hn']
      simp only
      by_cases hl : s.now < n.exp
      · -- a live entry exists: the new one is dropped
        rw [bGet_live hn' hl]
        simp only
        obtain ⟨v', hv'⟩ := h.own k n hn hl
        have hvk : (view s k).isSome = true := by
          rw [view, viewAt_live hn hl, hv']
          rfl
        obtain ⟨a, b⟩ := releaseX hx
        rw [hvk]
        exact ⟨a, rfl, fun t _ k' => by rw [if_pos rfl, b t k', hva t k']⟩
      · -- an expired leftover: removed, then the new entry is accepted
        have hvk : view s k = none := viewAt_expired hn hl
        have hd := (hx.pend_add (hx.inv.lt k n hn') (notLive_of_expired hx.inv hn' hl) (hx.xfresh k n hn')).drop hn'
        rw [bGet_expired hn' hl]
        simp only
        rw [bDelete_some (s := { alloc s k v with pend := n.e :: (alloc s k v).pend }) hn',
          bSetIfAbsent_none (updK_same ..), hvk]
        simp only [Option.isSome_none, Bool.false_eq_true, if_false]
        obtain ⟨a, b, c⟩ := insertX hd ttl
        refine ⟨a, b, fun t ht k' => ?_⟩
        rw [c t k']
        split
        · rfl
        · exact (view_drop_expired hn' (fun a => hl (Nat.lt_of_le_of_lt ht a)) _ k').trans (hva t k')

theorem Ideal.store_getAt (i : Ideal K V) (k : K) (v : V) (ttl : Nat) (nx : Bool) (t : Nat) (k' : K) :
    (i.store k v ttl nx).getAt t k' =
      if nx && (i.get k).isSome then i.getAt t k'
      else if k' = k then (if t < i.now + ttl then some v else none) else i.getAt t k' := by
  unfold Ideal.store
  split
  · rfl
  · simp only [Ideal.getAt, updK]
    by_cases hkk : k' = k
    · rw [if_pos hkk, if_pos hkk]
    · rw [if_neg hkk, if_neg hkk]

/-- ★ `Store` on the quirky backend is `Store` on the ideal TTL map -/
theorem store_rel {s : QState K V} {i : Ideal K V} (h : QInv s) (r : Rel s i) (k : K) (v : V)
    (ttl : Nat) (nx : Bool) :
    QInv (store s k v ttl nx) ∧ Rel (store s k v ttl nx) (i.store k v ttl nx) := by
  obtain ⟨h1, h2, h3⟩ := store_spec h k v ttl nx
  have hinow : (i.store k v ttl nx).now = i.now := by unfold Ideal.store; split <;> rfl
  refine ⟨h1, ⟨h2.trans (r.now.trans hinow.symm), fun t ht k' => ?_⟩⟩
  rw [h2] at ht
  rw [h3 t ht k', Ideal.store_getAt, r.view_now k, r.view t ht k', r.now]

/-- ★ `Get`: whatever it returns is the ideal map's answer or a miss, never anything else; and with
    glitches inside the retry budget it *is* the ideal map's answer — a live key is never a miss. -/
theorem get_rel {s : QState K V} {i : Ideal K V} (h : QInv s) (r : Rel s i) (k : K) (gl : List Glitch) :
    QInv (get s k gl).2 ∧ Rel (get s k gl).2 i ∧
    (∀ v, (get s k gl).1 = some v → i.get k = some v) ∧
    (Glitch.ok gl = true → (get s k gl).1 = i.get k) := by
  have hview := r.view_now k
  obtain ⟨a, b, hsound⟩ := getLoop_spec (k := k) 8 0 gl s h
  refine ⟨a, r.of_view b.now fun t _ => b.viewAt t, ?_, ?_⟩
  · intro v hv
    rw [← hview]; exact hsound v hv
  · exact fun hok => (get_complete h k hok).trans hview

/-- the glitch scripts of all lookups of an op sequence are within the retry budget -/
def OpsOk : List (Op K V) → Prop
  | [] => True
  | .get _ gl :: rest => Glitch.ok gl = true ∧ OpsOk rest
  | _ :: rest => OpsOk rest

theorem apply_rel {s : QState K V} {i : Ideal K V} (h : QInv s) (r : Rel s i) (op : Op K V) :
    QInv (apply s op) ∧ Rel (apply s op) (i.apply op) := by
  cases op with
  | store k v ttl nx => exact store_rel h r k v ttl nx
  | get k gl => obtain ⟨a, b, _, _⟩ := get_rel h r k gl; exact ⟨a, b⟩
  | fire j => exact (fire_spec h j).rel r
  | fireAgain j => exact (fireAgain_spec h j).rel r
  | tick d => exact ⟨tick_inv h d, tick_rel r d⟩
  | cleanup k => exact (cleanup_spec h k).rel r

/-- ★ refinement over ALL op sequences (stores, lookups with any glitches, listener calls — also
    repeated ones —, clock steps, clean-ups), from any related pair of states -/
theorem run_rel {s : QState K V} {i : Ideal K V} (h : QInv s) (r : Rel s i) (ops : List (Op K V)) :
    QInv (run s ops) ∧ Rel (run s ops) (i.run ops) := by
  induction ops generalizing s i with
  | nil => exact ⟨h, r⟩
  | cons op rest ih =>
    obtain ⟨a, b⟩ := apply_rel h r op
    exact ih a b

/-! ### `cachehist` -/

/-- a `cachehist` run: the cache state against the `(key, fingerprint)` pairs written so far.
    `sound`: whatever a lookup can see was written; `complete`: every key written is still seen
    (lifetimes outlast a history, `histTtl`) -/
structure HistRel (s : QState String String) (past : List (String × String)) : Prop where
  inv : QInv s
  sound : ∀ key fp, view s key = some fp → (key, fp) ∈ past
  complete : ∀ key, past.any (·.1 == key) = true → (view s key).isSome = true

theorem view_store {s : QState K V} (h : QInv s) (k : K) (v : V) (ttl : Nat) (nx : Bool) (hpos : 0 < ttl)
    (k' : K) : view (store s k v ttl nx) k' =
      if nx && (view s k).isSome then view s k' else if k' = k then some v else view s k' := by
  obtain ⟨_, h2, h3⟩ := store_spec h k v ttl nx
  unfold view
  rw [h2, h3 _ (Nat.le_refl _) k', if_pos (Nat.lt_add_of_pos_right hpos)]
  rfl

theorem histRel_store {s : QState String String} {past : List (String × String)} (h : HistRel s past)
    (key fp : String) (nx : Bool) : HistRel (store s key fp histTtl nx) ((key, fp) :: past) := by
  have hv := view_store h.inv key fp histTtl nx (by decide)
  refine ⟨(store_spec h.inv key fp histTtl nx).1, ?_, ?_⟩
  · intro k' f hg
    rw [hv k'] at hg
    split at hg
    · exact List.mem_cons_of_mem _ (h.sound k' f hg)
    · split at hg
      · next hk =>
        rw [hk, Option.some.inj hg]
        exact List.mem_cons_self
      · exact List.mem_cons_of_mem _ (h.sound k' f hg)
  · intro k' hany
    rw [hv k']
    simp only [List.any_cons, Bool.or_eq_true, beq_iff_eq] at hany
    by_cases hk : k' = key
    · subst hk
      split
      · next hc => exact (Bool.and_eq_true _ _ ▸ hc).2
      · rw [if_pos rfl]
        rfl
    · have hp : past.any (·.1 == k') = true := by
        rcases hany with hany | hany
        · exact absurd hany.symm hk
        · exact hany
      have := h.complete k' hp
      split
      · exact this
      · exact this

/-- a lookup in a history returns what `view` says and keeps the relation -/
theorem histRel_get {s : QState String String} {past : List (String × String)} (h : HistRel s past)
    (key : String) : ∃ s', get s key [] = (view s key, s') ∧ HistRel s' past := by
  obtain ⟨a, b, _⟩ := getLoop_spec (k := key) 8 0 [] s h.inv
  exact ⟨(get s key []).2, by rw [← get_complete h.inv key glitch_ok_nil],
    ⟨a, fun k f hg => h.sound k f ((b.view k).symm.trans hg), fun k hp => (b.view k).symm ▸ h.complete k hp⟩⟩

theorem hist_meets_spec : ∀ (ops : List HOp) (s : QState String String) (past : List (String × String)),
    HistRel s past → histSpec past ops (histModel s ops) = true
  | [], _, _, _ => rfl
  | .store key fp nx :: rest, s, past, h => by
    simp only [histModel, histSpec]
    exact hist_meets_spec rest _ _ (histRel_store h key fp nx)
  | .get key :: rest, s, past, h => by
    obtain ⟨s', hg, hr⟩ := histRel_get h key
    simp only [histModel, hg]
    cases hv : view s key with
    | some fp =>
      simp only [histSpec, Bool.and_eq_true, List.contains_iff_mem]
      exact ⟨h.sound key fp hv, hist_meets_spec rest s' past hr⟩
    | none =>
      simp only [histSpec, Bool.and_eq_true, Bool.not_eq_eq_eq_not, Bool.not_true]
      exact ⟨Bool.eq_false_iff.mpr fun ha => (nomatch hv ▸ h.complete key ha),
        hist_meets_spec rest s' past hr⟩
  | .handle key fp :: rest, s, past, h => by
    obtain ⟨s', hg, hr⟩ := histRel_get h key
    simp only [histModel, hg]
    cases hv : view s key with
    | some c =>
      simp only [histSpec, Bool.and_eq_true, List.contains_iff_mem]
      exact ⟨h.sound key c hv, hist_meets_spec rest s' past hr⟩
    | none =>
      simp only [histSpec, Bool.and_eq_true, Bool.not_eq_eq_eq_not, Bool.not_true, beq_self_eq_true,
        and_true]
      exact ⟨Bool.eq_false_iff.mpr fun ha => (nomatch hv ▸ h.complete key ha),
        hist_meets_spec rest _ _ (histRel_store hr key fp false)⟩

/-! ### `cacheconv` -/

/-- a `cacheconv` run: the model's state and the ideal map's, with the same bookkeeping of filler keys -/
structure CRel (c : CState) (ic : IState) : Prop where
  inv : QInv c.q
  rel : Rel c.q ic.i
  fillers : c.fillers = ic.fillers
  nfill : c.nfill = ic.nfill

theorem crel_store {c : CState} {ic : IState} (h : CRel c ic) (k v : String) (ttl : Nat) (nx : Bool) :
    CRel { c with q := store c.q k v ttl nx } { ic with i := ic.i.store k v ttl nx } := by
  obtain ⟨a, b⟩ := store_rel h.inv h.rel k v ttl nx
  exact ⟨a, b, h.fillers, h.nfill⟩

/-- a lookup without glitches returns the ideal map's answer and keeps the relation -/
theorem crel_get {c : CState} {ic : IState} (h : CRel c ic) (k : String) :
    ∃ q', get c.q k [] = (ic.i.get k, q') ∧ CRel { c with q := q' } ic := by
  obtain ⟨a, b, _, d⟩ := get_rel h.inv h.rel k []
  exact ⟨(get c.q k []).2, by rw [← d glitch_ok_nil], ⟨a, b, h.fillers, h.nfill⟩⟩

theorem crel_write : ∀ (n : Nat) {c : CState} {ic : IState}, CRel c ic →
    CRel (writeFillers n c) (iwriteFillers n ic)
  | 0, _, _, h => h
  | n + 1, c, ic, h => by
    simp only [writeFillers, iwriteFillers]
    obtain ⟨a, b⟩ := store_rel h.inv h.rel (fillerKey (c.nfill + 1)) "0" 3600000 false
    refine crel_write n ⟨a, ?_, ?_, ?_⟩
    · rw [← h.nfill]; exact b
    · simp only; rw [h.fillers, h.nfill]
    · simp only; rw [h.nfill]

theorem drain_spec {i : Ideal String String} : ∀ (fuel : Nat) (s : QState String String), QInv s → Rel s i →
    QInv (drain fuel s) ∧ Rel (drain fuel s) i
  | 0, _, h, r => ⟨h, r⟩
  | fuel + 1, s, h, r => by
    simp only [drain]
    split
    · exact ⟨h, r⟩
    · exact drain_spec fuel _ ((fire_spec h 0).rel r).1 ((fire_spec h 0).rel r).2

theorem checkFillers_spec {i : Ideal String String} : ∀ (l : List String) (s : QState String String), QInv s →
    Rel s i → (checkFillers l s).1 = icheckFillers i l ∧ QInv (checkFillers l s).2 ∧ Rel (checkFillers l s).2 i
  | [], _, h, r => ⟨rfl, h, r⟩
  | key :: rest, s, h, r => by
    obtain ⟨a, b, _, d⟩ := get_rel h r key []
    have hg : get s key [] = (i.get key, (get s key []).2) := by rw [← d glitch_ok_nil]
    obtain ⟨e1, e2, e3⟩ := checkFillers_spec rest _ a b
    simp only [checkFillers, icheckFillers]
    rw [hg]
    cases i.get key with
    | some v => exact ⟨e1.trans (Nat.zero_add _).symm, e2, e3⟩
    | none => exact ⟨(congrArg (· + 1) e1).trans (Nat.add_comm ..), e2, e3⟩

/-- the model's run of a `cacheconv` case equals the ideal TTL map's -/
theorem conv_eq (cfgMax : Nat) : ∀ (ops : List COp) (c : CState) (ic : IState), CRel c ic →
    convModel cfgMax c ops = convIdeal cfgMax ic ops
  | [], _, _, _ => rfl
  | .x k :: rest, c, ic, h => by
    simp only [convModel, convIdeal]
    rw [conv_eq cfgMax rest _ _ (crel_store h k "0" 0 false)]
  | .h k r kind :: rest, c, ic, h => by
    obtain ⟨q', hg, b⟩ := crel_get h k
    simp only [convModel, convIdeal, hg]
    cases ic.i.get k with
    | some r' => exact congrArg _ (conv_eq cfgMax rest _ _ b)
    | none => exact congrArg _ (conv_eq cfgMax rest _ _ (crel_store b k r (kind.ttl cfgMax) kind.nx))
  | .s k r kind :: rest, c, ic, h => by
    simp only [convModel, convIdeal]
    rw [conv_eq cfgMax rest _ _ (crel_store h k r (kind.ttl cfgMax) kind.nx)]
  | .g k :: rest, c, ic, h => by
    obtain ⟨q', hg, b⟩ := crel_get h k
    simp only [convModel, convIdeal, hg]
    cases ic.i.get k <;> exact congrArg _ (conv_eq cfgMax rest _ _ b)
  | .w n :: rest, c, ic, h => by
    have hw := crel_write n h
    obtain ⟨a, b⟩ := drain_spec ((writeFillers n c).q.pend.length + 1) _ hw.inv hw.rel
    simp only [convModel, convIdeal]
    exact congrArg _ (conv_eq cfgMax rest
      { writeFillers n c with q := drain ((writeFillers n c).q.pend.length + 1) (writeFillers n c).q }
      (iwriteFillers n ic) ⟨a, b, hw.fillers, hw.nfill⟩)
  | .v :: rest, c, ic, h => by
    obtain ⟨a, b, d⟩ := checkFillers_spec c.fillers c.q h.inv h.rel
    simp only [convModel, convIdeal]
    cases hc : checkFillers c.fillers c.q with
    | mk missed q' =>
      rw [hc] at a b d
      simp only at a b d
      simp only
      rw [a, conv_eq cfgMax rest { c with q := q' } ic ⟨b, d, h.fillers, h.nfill⟩, h.fillers]
  | .z ms :: rest, c, ic, h => by
    simp only [convModel, convIdeal]
    exact congrArg _ (conv_eq cfgMax rest { c with q := tick c.q ms }
      { ic with i := { ic.i with now := ic.i.now + ms } }
      ⟨tick_inv h.inv ms, tick_rel h.rel ms, h.fillers, h.nfill⟩)
  | .r k _ _ :: rest, c, ic, h => by
    obtain ⟨q', hg, b⟩ := crel_get (crel_store h k "0" 3600000 false) k
    have hlive : (ic.i.store k "0" 3600000 false).get k = some "0" := by
      simp [Ideal.store, Ideal.get, updK]
    rw [hlive] at hg
    simp only [convModel, convIdeal, hg]
    exact congrArg _ (conv_eq cfgMax rest _ _ b)

end MosVerif.QCache
