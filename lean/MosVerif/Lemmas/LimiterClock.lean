/-
  C15: time stamps in any order (repair f8b61d0).  Rests on `LimiterSpec` and `LimiterGc`.

  `ClientLimiter.allowN` clamps the caller's time stamp to the entry's `lastSeen`, so every bucket
  runs on a clock of its own, the newest time stamp its key has seen, and on that clock the
  potential argument of `LimiterTable` goes through whatever the order of the time stamps
  (`ClockPot`): `any_order_bound`, and clause 1 of the specification (`segBound_ok`; on time-ordered
  arrivals the any-order clause is the ordered one, `segBound_sorted`).  On histories whose time
  stamps never go back the clamp does nothing and `allowN` is `allowNAt`.
-/
import MosVerif.Lemmas.LimiterSpec
import MosVerif.Lemmas.LimiterGc
namespace MosVerif.Limiter

@[simp] theorem ClientLimiter.allowNc_opts (cl : ClientLimiter) (a : Addr) (t n : Nat) :
    (cl.allowN a t n).2.opts = cl.opts := rfl
@[simp] theorem ClientLimiter.allowNc_limit (cl : ClientLimiter) (a : Addr) (t n : Nat) :
    (cl.allowN a t n).2.limit = cl.limit := rfl
@[simp] theorem ClientLimiter.allowNc_burst (cl : ClientLimiter) (a : Addr) (t n : Nat) :
    (cl.allowN a t n).2.burst = cl.burst := rfl

theorem ClientLimiter.clock_ge (cl : ClientLimiter) (a : Addr) (t : Nat) : t ≤ cl.clock a t := by
  unfold ClientLimiter.clock; split <;> omega

theorem ClientLimiter.clock_some (cl : ClientLimiter) (a : Addr) (t : Nat) {e : Entry}
    (h : cl.m (mask cl.opts a) = some e) : cl.clock a t = max e.lastSeen t := by
  unfold ClientLimiter.clock; rw [h]

/-- no entry has been seen later than `τ` -/
def ClientLimiter.SeenLe (cl : ClientLimiter) (τ : Nat) : Prop := ∀ k e, cl.m k = some e → e.lastSeen ≤ τ

theorem ClientLimiter.seenLe_new (o : Opts) (τ : Nat) : (ClientLimiter.new o).SeenLe τ :=
  fun _ _ h => nomatch h

theorem ClientLimiter.allowN_of_seenLe (cl : ClientLimiter) {τ t : Nat} (h : cl.SeenLe τ) (ht : τ ≤ t) (a : Addr) (n : Nat) :
    cl.allowN a t n = cl.allowNAt a t n := by
  have hc : cl.clock a t = t := by
    unfold ClientLimiter.clock
    split
    · exact Nat.max_eq_right (Nat.le_trans (h _ _ ‹_›) ht)
    · rfl
  rw [ClientLimiter.allowN, hc]

theorem ClientLimiter.seenLe_allowNAt (cl : ClientLimiter) {τ t : Nat} (h : cl.SeenLe τ) (ht : τ ≤ t) (a : Addr) (n : Nat) :
    (cl.allowNAt a t n).2.SeenLe t := by
  intro k e hm
  by_cases hk : mask cl.opts a = k
  · subst hk
    rw [cl.m_allowNAt_same] at hm
    cases hm
    exact Nat.le_refl _
  · rw [cl.m_allowNAt_other a t n k hk] at hm
    exact Nat.le_trans (h k e hm) ht

theorem ClientLimiter.seenLe_gc (rf : Bool) (cl : ClientLimiter) {τ t : Nat} (h : cl.SeenLe τ) (ht : τ ≤ t)
    (now : Nat) (only : Option Addr) : (cl.gcWith rf now only).SeenLe t :=
  fun k e hm => Nat.le_trans (h k e (cl.m_gcWith_sub rf now only hm)) ht

theorem runOpsWith_eq_at (rf : Bool) : ∀ (os : List Op) (cl : ClientLimiter) (τ : Nat), cl.SeenLe τ → sortedFrom τ os →
    cl.runOpsWith rf os = cl.runOpsAtWith rf os := by
  intro os
  induction os with
  | nil => intro _ _ _ _; rfl
  | cons o os ih =>
    intro cl τ h hs
    cases o with
    | gc now only => exact ih _ now (cl.seenLe_gc rf h hs.1 now only) hs.2
    | allow e =>
      have hte : τ ≤ e.t := hs.1
      simp only [ClientLimiter.runOpsWith, ClientLimiter.runOpsAtWith, cl.allowN_of_seenLe h hte]
      rw [ih _ e.t (cl.seenLe_allowNAt h hte e.addr e.n) hs.2]

theorem run_eq_at : ∀ (es : List Ev) (cl : ClientLimiter) (τ : Nat), cl.SeenLe τ → sortedEvs τ es →
    cl.run es = cl.runAt es := by
  intro es
  induction es with
  | nil => intro _ _ _ _; rfl
  | cons e es ih =>
    intro cl τ h hs
    simp only [ClientLimiter.run, ClientLimiter.runAt, cl.allowN_of_seenLe h hs.1]
    rw [ih _ e.t (cl.seenLe_allowNAt h hs.1 e.addr e.n) hs.2]

theorem run_length (cl : ClientLimiter) : ∀ (es : List Ev) , (cl.run es).length = es.length := by
  intro es
  induction es generalizing cl with
  | nil => rfl
  | cons e es ih => simp [ClientLimiter.run, ih]

/-- without gc passes a history is its arrivals -/
theorem runOps_noGc : ∀ (os : List Op), noGc os = true → ∀ (cl : ClientLimiter), cl.runOps os = cl.run (Op.evs os)
  | [], _, _ => rfl
  | .allow e :: os, h, cl => by
    have h' : noGc os = true := by simpa [noGc] using h
    show (cl.allowN e.addr e.t e.n).1 :: (cl.allowN e.addr e.t e.n).2.runOps os = _
    rw [runOps_noGc os h']
    rfl
  | .gc _ _ :: os, h, _ => by simp [noGc] at h

/-- every entry: the bucket's `last` is not after the entry's clock, and the token count is
    not more than the truncation slack below zero -/
def ClientLimiter.Ok (cl : ClientLimiter) : Prop :=
  ∀ k e, cl.m k = some e → e.b.Inv cl.limit e.lastSeen

theorem ClientLimiter.ok_new (o : Opts) : (ClientLimiter.new o).Ok :=
  fun _ _ h => nomatch h

theorem ClientLimiter.ok_allowN (cl : ClientLimiter) (hL : 0 < cl.limit) (h : cl.Ok) (a : Addr) (t n : Nat) :
    (cl.allowN a t n).2.Ok := by
  intro k e hm
  by_cases hk : mask cl.opts a = k
  · subst hk
    rw [ClientLimiter.allowN, cl.m_allowNAt_same] at hm
    cases hm
    cases hc : cl.m (mask cl.opts a) with
    | none =>
      rw [ClientLimiter.bucketOf_none hc]
      exact Bucket.allowN_inv (Bucket.inv_fresh _ hL _) (Nat.le_refl _)
    | some e0 =>
      rw [ClientLimiter.bucketOf_some hc, cl.clock_some a t hc]
      exact Bucket.allowN_inv (h _ e0 hc) (Nat.le_max_left _ _)
  · rw [ClientLimiter.allowN, cl.m_allowNAt_other a _ n k hk] at hm
    exact h k e hm

theorem ClientLimiter.ok_gc (rf : Bool) (cl : ClientLimiter) (h : cl.Ok) (now : Nat) (only : Option Addr) :
    (cl.gcWith rf now only).Ok :=
  fun k e hm => h k e (cl.m_gcWith_sub rf now only hm)

def ClientLimiter.afterOps (cl : ClientLimiter) : List Op → ClientLimiter
  | [] => cl
  | .allow e :: os => ClientLimiter.afterOps (cl.allowN e.addr e.t e.n).2 os
  | .gc now only :: os => ClientLimiter.afterOps (cl.gc now only) os

theorem ClientLimiter.afterOps_opts : ∀ (os : List Op) (cl : ClientLimiter), (cl.afterOps os).opts = cl.opts
  | [], _ => rfl
  | .allow e :: os, cl => ClientLimiter.afterOps_opts os (cl.allowN e.addr e.t e.n).2
  | .gc now only :: os, cl => ClientLimiter.afterOps_opts os (cl.gc now only)

theorem ClientLimiter.ok_afterOps : ∀ (os : List Op) (cl : ClientLimiter), 0 < cl.limit → cl.Ok → (cl.afterOps os).Ok
  | [], _, _, h => h
  | .allow e :: os, cl, hL, h => ClientLimiter.ok_afterOps os _ hL (cl.ok_allowN hL h e.addr e.t e.n)
  | .gc now only :: os, cl, hL, h => ClientLimiter.ok_afterOps os _ hL (cl.ok_gc _ h now only)

/-- The account of key `k`, opened when the clock of its bucket stood at `C0`: `acc` is what has been
    admitted for `k` since, `lo` and `hi` are the oldest and newest time stamp of `k`'s arrivals since
    (the opening one included).  The clock of an entry only ever moves to a time stamp of an arrival, so
    it has advanced from `C0` by no more than `hi - lo` (`lo_le`, `clock_le`: the clamp may have put `C0`
    ahead of the opening time stamp, never behind it); and what the bucket holds now, plus what was
    admitted, is within a full bucket and the refill over that advance (`pot`). -/
structure ClockPot (cl : ClientLimiter) (k : Addr) (en : Entry) (C0 acc lo hi : Nat) : Prop where
  entry : cl.m k = some en
  inv : en.b.Inv cl.limit en.lastSeen
  start_le : C0 ≤ en.lastSeen
  lo_le : lo ≤ C0
  clock_le : en.lastSeen ≤ max C0 hi
  pot : ((acc * nano : Nat) : Int) + en.b.avail cl.limit cl.burst en.lastSeen
      ≤ ((cl.burst * nano : Nat) : Int) + ((cl.limit * (en.lastSeen - C0) : Nat) : Int)

theorem ClockPot.bound {cl : ClientLimiter} {k : Addr} {en : Entry} {C0 acc lo hi : Nat}
    (h : ClockPot cl k en C0 acc lo hi) (hL : 0 < cl.limit) :
    ((acc * nano : Nat) : Int)
      ≤ ((cl.burst * nano : Nat) : Int) + ((cl.limit * (hi - lo) : Nat) : Int) + ((cl.limit : Int) - 1) := by
  have hge := Bucket.avail_ge cl.limit cl.burst hL en.b _ en.lastSeen h.inv
  have hadv : en.lastSeen - C0 ≤ hi - lo := by
    have := h.start_le
    have := h.lo_le
    have := h.clock_le
    omega
  have hspan := Nat.mul_le_mul_left cl.limit hadv
  have := h.pot
  omega

/-- the first arrival of a key opens its account -/
theorem ClockPot.init (cl : ClientLimiter) (hL : 0 < cl.limit) (hok : cl.Ok) (a : Addr) (t n : Nat) :
    ClockPot (cl.allowN a t n).2 (mask cl.opts a)
      ⟨((cl.bucketOf (mask cl.opts a)).allowN cl.limit cl.burst (cl.clock a t) n).2, cl.clock a t⟩
      (cl.clock a t) (if (cl.allowN a t n).1 = true then n else 0) t t where
  entry := cl.m_allowNAt_same a (cl.clock a t) n
  inv := cl.ok_allowN hL hok a t n _ _ (cl.m_allowNAt_same a (cl.clock a t) n)
  start_le := Nat.le_refl _
  lo_le := cl.clock_ge a t
  clock_le := Nat.le_max_left _ _
  pot := by
    have hpay := Bucket.avail_allowN cl.limit cl.burst (cl.bucketOf (mask cl.opts a)) (cl.clock a t) n
    have hcap := Bucket.avail_le_cap cl.limit cl.burst (cl.bucketOf (mask cl.opts a)) (cl.clock a t)
    have hfst : (cl.allowN a t n).1
        = ((cl.bucketOf (mask cl.opts a)).allowN cl.limit cl.burst (cl.clock a t) n).1 := rfl
    rw [hfst, Nat.sub_self, Nat.mul_zero]
    show _ + ((cl.bucketOf (mask cl.opts a)).allowN cl.limit cl.burst (cl.clock a t) n).2.avail cl.limit cl.burst
      (cl.clock a t) ≤ ((cl.burst * nano : Nat) : Int) + _
    omega

/-- an arrival of the key: its clock moves to the newest time stamp seen, the refill on the way
    and what is admitted go into the account -/
theorem ClockPot.same {cl : ClientLimiter} {k : Addr} {en : Entry} {C0 acc lo hi : Nat}
    (h : ClockPot cl k en C0 acc lo hi) {a : Addr} (hk : mask cl.opts a = k) (t n : Nat) :
    ClockPot (cl.allowN a t n).2 k
      ⟨(en.b.allowN cl.limit cl.burst (max en.lastSeen t) n).2, max en.lastSeen t⟩
      C0 (acc + if (cl.allowN a t n).1 = true then n else 0) (min lo t) (max hi t) := by
  subst hk
  have hT : en.lastSeen ≤ max en.lastSeen t := Nat.le_max_left _ _
  have hfst : (cl.allowN a t n).1 = (en.b.allowN cl.limit cl.burst (max en.lastSeen t) n).1 := by
    rw [ClientLimiter.allowN, cl.allowNAt_fst, ClientLimiter.bucketOf_some h.entry, cl.clock_some a t h.entry]
  refine
    { entry := by
        rw [ClientLimiter.allowN, cl.m_allowNAt_same, ClientLimiter.bucketOf_some h.entry, cl.clock_some a t h.entry]
      inv := Bucket.allowN_inv h.inv hT
      start_le := Nat.le_trans h.start_le hT
      lo_le := Nat.le_trans (Nat.min_le_left _ _) h.lo_le
      clock_le := ?clock
      pot := ?pot }
  case clock =>
    have := h.clock_le
    show max en.lastSeen t ≤ max C0 (max hi t)
    omega
  case pot =>
    -- what is held at the new clock: at most the refill more than at the old one, less what is admitted now
    have hstep := Bucket.avail_step cl.limit cl.burst en.b h.inv.2 (Nat.le_refl _) hT
    have hpay := Bucket.avail_allowN cl.limit cl.burst en.b (max en.lastSeen t) n
    have hpot := h.pot
    rw [hfst, Nat.add_mul]
    show _ + (en.b.allowN cl.limit cl.burst (max en.lastSeen t) n).2.avail cl.limit cl.burst (max en.lastSeen t)
      ≤ ((cl.burst * nano : Nat) : Int) + ((cl.limit * (max en.lastSeen t - C0) : Nat) : Int)
    rw [mul_sub_split cl.limit h.start_le hT]
    omega

theorem ClockPot.other {cl : ClientLimiter} {k : Addr} {en : Entry} {C0 acc lo hi : Nat}
    (h : ClockPot cl k en C0 acc lo hi) {a : Addr} (hk : mask cl.opts a ≠ k) (t n : Nat) :
    ClockPot (cl.allowN a t n).2 k en C0 acc lo hi :=
  { h with entry := (cl.m_allowNAt_other a _ n k hk).trans h.entry }

/-- total cost of the admitted arrivals of key `k` -/
def admittedK (o : Opts) (k : Addr) : List Ev → List Bool → Nat
  | e :: es, d :: ds => (if mask o e.addr = k ∧ d = true then e.n else 0) + admittedK o k es ds
  | _, _ => 0

/-- newest − oldest among `lo`, `hi` and the time stamps of `k`'s arrivals -/
def spanFrom (o : Opts) (k : Addr) (lo hi : Nat) : List Ev → Nat
  | [] => hi - lo
  | e :: es => if mask o e.addr = k then spanFrom o k (min lo e.t) (max hi e.t) es else spanFrom o k lo hi es

/-- newest − oldest time stamp among `k`'s arrivals (0 if there are none) -/
def spanK (o : Opts) (k : Addr) : List Ev → Nat
  | [] => 0
  | e :: es => if mask o e.addr = k then spanFrom o k e.t e.t es else spanK o k es

theorem ClockPot.run (k : Addr) :
    ∀ (es : List Ev) (cl : ClientLimiter) (en : Entry) (C0 acc lo hi : Nat), 0 < cl.limit →
      ClockPot cl k en C0 acc lo hi →
      (((acc + admittedK cl.opts k es (cl.run es)) * nano : Nat) : Int)
        ≤ ((cl.burst * nano : Nat) : Int) + ((cl.limit * spanFrom cl.opts k lo hi es : Nat) : Int) + ((cl.limit : Int) - 1) := by
  intro es
  induction es with
  | nil => intro cl en C0 acc lo hi hL h; exact h.bound hL
  | cons e es ih =>
    intro cl en C0 acc lo hi hL h
    simp only [ClientLimiter.run, admittedK, spanFrom]
    by_cases hk : mask cl.opts e.addr = k
    · subst hk
      simp only [eq_self, true_and, if_true]
      rw [← Nat.add_assoc]
      exact ih (cl.allowN e.addr e.t e.n).2 _ C0 _ _ _ hL (h.same rfl e.t e.n)
    · rw [if_neg hk, if_neg fun hc => hk hc.1, Nat.zero_add]
      exact ih (cl.allowN e.addr e.t e.n).2 en C0 acc lo hi hL (h.other hk e.t e.n)

/-- **the bound for time stamps in any order**, from any state that satisfies the invariant -/
theorem any_order_bound (k : Addr) :
    ∀ (es : List Ev) (cl : ClientLimiter), 0 < cl.limit → cl.Ok →
      ((admittedK cl.opts k es (cl.run es) * nano : Nat) : Int)
        ≤ ((cl.burst * nano : Nat) : Int) + ((cl.limit * spanK cl.opts k es : Nat) : Int) + ((cl.limit : Int) - 1) := by
  intro es
  induction es with
  | nil =>
    intro cl hL _
    simp only [admittedK, Nat.zero_mul]
    omega
  | cons e es ih =>
    intro cl hL hok
    simp only [ClientLimiter.run, admittedK, spanK]
    by_cases hk : mask cl.opts e.addr = k
    · subst hk
      simp only [eq_self, true_and, if_true]
      exact ClockPot.run _ es (cl.allowN e.addr e.t e.n).2 _ _ _ _ _ hL (ClockPot.init cl hL hok e.addr e.t e.n)
    · rw [if_neg hk, if_neg fun hc => hk hc.1, Nat.zero_add]
      exact ih (cl.allowN e.addr e.t e.n).2 hL (cl.ok_allowN hL hok e.addr e.t e.n)

/-- an account within the window's budget, as the specification computes it -/
theorem ClockPot.budget (c : Opts) (slack : Int) (hslack : (specLimit c : Int) - 1 ≤ slack) {cl : ClientLimiter}
    (hopts : cl.opts = c.setDefault) {k : Addr} {en : Entry} {C0 acc lo hi : Nat} (h : ClockPot cl k en C0 acc lo hi) :
    ((acc * nano : Nat) : Int) ≤ specBudget c ((hi - lo : Nat) : Int) + slack := by
  have hL := limit_of_opts c cl hopts
  have hb := h.bound (hL ▸ specLimit_pos c)
  rw [hL, burst_of_opts c cl hopts, Int.natCast_mul] at hb
  unfold specBudget
  omega

theorem segWalk_ok (c : Opts) (slack : Int) (hslack : (specLimit c : Int) - 1 ≤ slack) (a0 : Addr) :
    ∀ (es : List Ev) (cl : ClientLimiter) (en : Entry) (C0 acc lo hi : Nat), cl.opts = c.setDefault →
      ClockPot cl (mask cl.opts a0) en C0 acc lo hi →
      segWalk c slack (subnetId c a0) lo hi acc (es.map (Ev.toS c)) (cl.run es) = true := by
  intro es
  induction es with
  | nil => intro _ _ _ _ _ _ _ _; rfl
  | cons e es ih =>
    intro cl en C0 acc lo hi hopts h
    rw [ClientLimiter.run, List.map, segWalk, subnetId_beq_toS, ← hopts]
    by_cases hk : mask cl.opts a0 = mask cl.opts e.addr
    · have h' := h.same hk.symm e.t e.n
      simp only [hk, decide_true, if_true, Bool.and_eq_true, decide_eq_true_eq]
      exact ⟨h'.budget c slack hslack (cl := (cl.allowN e.addr e.t e.n).2) hopts,
        ih (cl.allowN e.addr e.t e.n).2 _ C0 _ _ _ hopts h'⟩
    · simp only [hk, decide_false, Bool.false_eq_true, if_false]
      exact ih (cl.allowN e.addr e.t e.n).2 en C0 acc lo hi hopts (h.other (fun hc => hk hc.symm) e.t e.n)

theorem segBound_ok (c : Opts) (slack : Int) (hslack : (specLimit c : Int) - 1 ≤ slack) :
    ∀ (es : List Ev) (cl : ClientLimiter), cl.opts = c.setDefault → cl.Ok → segBound c slack es (cl.run es) = true := by
  unfold segBound
  intro es
  induction es with
  | nil => intro _ _ _; rfl
  | cons e es ih =>
    intro cl hopts hok
    have hL : 0 < cl.limit := limit_of_opts c cl hopts ▸ specLimit_pos c
    have h := ClockPot.init cl hL hok e.addr e.t e.n
    rw [ClientLimiter.run, List.map, segBoundS, ih (cl.allowN e.addr e.t e.n).2 hopts (cl.ok_allowN hL hok e.addr e.t e.n), Bool.and_true,
      segWalk, if_pos (beq_self_eq_true _), Nat.min_self, Nat.max_self, Nat.zero_add, Bool.and_eq_true, decide_eq_true_eq]
    exact ⟨h.budget c slack hslack (cl := (cl.allowN e.addr e.t e.n).2) hopts,
      segWalk_ok c slack hslack e.addr es (cl.allowN e.addr e.t e.n).2 _ _ _ _ _ hopts h⟩

theorem sortedEvs_mono {τ τ' : Nat} (h : τ' ≤ τ) : ∀ {es : List Ev}, sortedEvs τ es → sortedEvs τ' es
  | [], _ => trivial
  | _ :: _, hs => ⟨Nat.le_trans h hs.1, hs.2⟩

theorem segWalk_sorted (c : Opts) (slack : Int) (e0 : SEv) :
    ∀ (es : List Ev) (ds : List Bool) (hi acc : Nat), sortedEvs hi es → e0.t ≤ hi →
      segWalk c slack e0.id e0.t hi acc (es.map (Ev.toS c)) ds = specWalk c slack e0 acc (es.map (Ev.toS c)) ds := by
  intro es
  induction es with
  | nil => intro _ _ _ _ _; rfl
  | cons e es ih =>
    intro ds hi acc hs h0
    cases ds with
    | nil => rfl
    | cons d ds =>
      have hlo : min e0.t e.t = e0.t := Nat.min_eq_left (Nat.le_trans h0 hs.1)
      have hhi : max hi e.t = e.t := Nat.max_eq_right hs.1
      have ht : (e.toS c).t = e.t := rfl
      -- both walks take the same branch; the induction hypothesis is handed to `simp` for either
      -- (`acc` is what the branch has made of it)
      simp only [List.map, segWalk, specWalk, ht, hlo, hhi, Int.natCast_sub (Nat.le_trans h0 hs.1),
        fun acc => ih ds e.t acc hs.2 (Nat.le_trans h0 hs.1), fun acc => ih ds hi acc (sortedEvs_mono hs.1 hs.2) h0]

theorem segBound_sorted (c : Opts) (slack : Int) :
    ∀ (es : List Ev) (ds : List Bool) (τ : Nat), sortedEvs τ es → segBound c slack es ds = specBound c slack es ds := by
  unfold segBound specBound
  intro es
  induction es with
  | nil => intro _ _ _; rfl
  | cons e es ih =>
    intro ds τ hs
    cases ds with
    | nil => rfl
    | cons d ds =>
      have hw := segWalk_sorted c slack (e.toS c) (e :: es) (d :: ds) e.t 0 ⟨Nat.le_refl _, hs.2⟩ (Nat.le_refl _)
      rw [List.map] at hw ⊢
      rw [segBoundS, specBoundS, ih ds e.t hs.2]
      exact congrArg (· && _) hw

theorem ClientLimiter.allowN_congr (c1 c2 : ClientLimiter) (a : Addr) (t n : Nat) (ho : c1.opts = c2.opts)
    (hm : c1.m (mask c1.opts a) = c2.m (mask c1.opts a)) :
    (c1.allowN a t n).1 = (c2.allowN a t n).1 ∧
    (c1.allowN a t n).2.m (mask c1.opts a) = (c2.allowN a t n).2.m (mask c1.opts a) := by
  have hc : c1.clock a t = c2.clock a t := by
    simp only [ClientLimiter.clock, ← ho, hm]
  rw [ClientLimiter.allowN, ClientLimiter.allowN, ← hc]
  exact c1.allowNAt_congr c2 a _ n ho hm

theorem isolation_clamped (rf : Bool) (k : Addr) :
    ∀ (os : List Op) (c1 c2 : ClientLimiter), c1.opts = c2.opts → c1.m k = c2.m k →
      decisionsFor c1.opts k os (c1.runOpsWith rf os) = c2.runOpsWith rf (onlyKey c1.opts k os) := by
  intro os
  induction os with
  | nil => intro c1 c2 _ _; rfl
  | cons o os ih =>
    intro c1 c2 ho hm
    cases o with
    | gc now only =>
      exact ih (c1.gcWith rf now only) (c2.gcWith rf now only) ho (ClientLimiter.m_gcWith rf c1 c2 now only k ho hm)
    | allow e =>
      by_cases hk : mask c1.opts e.addr = k
      · subst hk
        obtain ⟨hfst, hsnd⟩ := c1.allowN_congr c2 e.addr e.t e.n ho hm
        simp only [ClientLimiter.runOpsWith, decisionsFor, onlyKey, if_true]
        rw [hfst]
        exact congrArg _ (ih (c1.allowN e.addr e.t e.n).2 (c2.allowN e.addr e.t e.n).2 ho hsnd)
      · simp only [ClientLimiter.runOpsWith, decisionsFor, onlyKey, hk, if_false]
        exact ih (c1.allowN e.addr e.t e.n).2 c2 ho ((c1.m_allowNAt_other e.addr _ e.n k hk).trans hm)

end MosVerif.Limiter
