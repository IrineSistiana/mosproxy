/-
  Wire codec (C02), on Lemmas/CodecMsg: everything the decoder returns is well formed (`msgWF`), i.e. the
  well-formedness predicates of Model/Pack.lean describe exactly the decoder's range
  (the other inclusion is the round trip itself).

  Each decoder is followed line by line with `Res.Ensures` (Lemmas/WireSafe.lean, where `Safe` does the same for C01).
-/
import MosVerif.Lemmas.CodecMsg
namespace MosVerif.Wire

theorem u16At_lt {msg : Bytes} {off : Nat} : (u16At msg off).Ensures fun p => p.1 < 65536 := by
  unfold u16At
  refine .bind (P := fun _ => True) (fun _ _ => trivial) fun buf _ => ?_
  split
  · exact .ok (be16_lt _ _)
  · exact .err

theorem u32At_lt {msg : Bytes} {off : Nat} : (u32At msg off).Ensures fun p => p.1 < 4294967296 := by
  unfold u32At
  refine .bind (P := fun _ => True) (fun _ _ => trivial) fun buf _ => ?_
  split
  · exact .ok (be32_lt _ _ _ _)
  · exact .err

theorem bytesAt_len {msg : Bytes} {off l : Nat} : (bytesAt msg off l).Ensures fun p => p.1.length = l := by
  unfold bytesAt
  refine .bind (P := fun _ => True) (fun _ _ => trivial) fun buf _ => .ite (fun _ => .err) fun h => .ok ?_
  rw [List.length_take]
  omega

theorem unpackName_nameWF {msg : Bytes} {off : Nat} : (unpackName msg off).Ensures fun p => nameWF p.1 = true :=
  fun _ e => unpackName_wf _ _ _ _ e

theorem unpackQuestion_wf {msg : Bytes} {off : Nat} :
    (unpackQuestion msg off).Ensures fun p => questionWF p.1 = true := by
  unfold unpackQuestion
  refine .bind unpackName_nameWF fun (n, _) hn => .bind u16At_lt fun (t, _) ht => .bind u16At_lt fun (c, _) hc => .ok ?_
  simp [questionWF, u16, hn, ht, hc]

/-- `hlen`: RDLENGTH comes out of a 16-bit field; it bounds the RDATA of the types the proxy does not interpret. -/
theorem unpackRData_wf {msg : Bytes} {off t len : Nat} (hlen : len < 65536) :
    (unpackRData msg off t len).Ensures fun p => rdataWF t p.1 = true := by
  unfold unpackRData
  refine .ite (fun ht => .ite (fun _ => .err) fun _ => .bind bytesAt_len fun (b, _) hb => .ok ?_) fun n1 => ?_
  · simp [rdataWF, ht, hb]
  refine .ite (fun ht => .ite (fun _ => .err) fun _ => .bind bytesAt_len fun (b, _) hb => .ok ?_) fun n2 => ?_
  · simp [rdataWF, ht, hb]
  refine .ite (fun ht => ?_) fun n3 => ?_
  · refine .bind u16At_lt fun (p, _) hp => .bind unpackName_nameWF fun (n, _) hn => .ite (fun _ => .err) fun _ => .ok ?_
    simp [rdataWF, ht, u16, hp, hn]
  refine .ite (fun ht => ?_) fun n4 => ?_
  · refine .bind unpackName_nameWF fun (n, _) hn => .ite (fun _ => .err) fun _ => .ok ?_
    simp only [rdataWF, Bool.and_eq_true, Bool.or_eq_true, beq_iff_eq, hn, and_true]
    rcases ht with h | h | h <;> simp [h]
  refine .ite (fun ht => ?_) fun n5 => ?_
  · refine .bind unpackName_nameWF fun (ns, _) h1 => .bind unpackName_nameWF fun (mb, _) h2 => ?_
    refine .bind u32At_lt fun (a, _) h3 => .bind u32At_lt fun (b, _) h4 => .bind u32At_lt fun (c, _) h5 => ?_
    refine .bind u32At_lt fun (d, _) h6 => .bind u32At_lt fun (e, _) h7 => .ite (fun _ => .err) fun _ => .ok ?_
    simp [rdataWF, ht, u32, h1, h2, h3, h4, h5, h6, h7]
  refine .ite (fun ht => ?_) fun n6 => ?_
  · refine .bind u16At_lt fun (p, _) h1 => .bind u16At_lt fun (w, _) h2 => .bind u16At_lt fun (po, _) h3 => ?_
    refine .bind unpackName_nameWF fun (tg, _) h4 => .ite (fun _ => .err) fun _ => .ok ?_
    simp [rdataWF, ht, u16, h1, h2, h3, h4]
  · refine .bind bytesAt_len fun (b, _) hb => .ok ?_
    have hb' : b.length ≤ 65535 := by
      rw [show b.length = len from hb]
      omega
    simp only [not_or] at n4
    simp [rdataWF, isTypedRR, n1, n2, n3, n4, n5, n6, hb']

theorem unpackResource_wf {msg : Bytes} {off : Nat} :
    (unpackResource msg off).Ensures fun p => resourceWF p.1 = true := by
  unfold unpackResource unpackRHdr
  refine .bind (P := fun p => nameWF p.1.name = true ∧ p.1.rtype < 65536 ∧ p.1.rclass < 65536
    ∧ p.1.ttl < 4294967296 ∧ p.1.length < 65536) ?_ fun (hd, _) ⟨g1, g2, g3, g4, g5⟩ => ?_
  · refine .bind unpackName_nameWF fun (n, _) g1 => .bind u16At_lt fun (t, _) g2 => .bind u16At_lt fun (c, _) g3 => ?_
    exact .bind u32At_lt fun (ttl, _) g4 => .bind u16At_lt fun (l, _) g5 => .ok ⟨g1, g2, g3, g4, g5⟩
  · refine .bind (unpackRData_wf g5) fun (rd, _) hrd => .ok ?_
    simp [resourceWF, u16, u32, g1, g2, g3, g4, hrd]

theorem unpackQuestions_wf {msg : Bytes} (n off : Nat) :
    (unpackQuestions msg n off).Ensures fun p => p.1.length = n ∧ ∀ q ∈ p.1, questionWF q = true := by
  induction n generalizing off with
  | zero => exact .ok (by simp)
  | succ n ih =>
    unfold unpackQuestions
    refine .bind unpackQuestion_wf fun (q, _) hq => .bind (ih _) fun (qs, _) ⟨hl, hw⟩ => .ok ?_
    simpa [hl] using ⟨hq, hw⟩

theorem unpackResources_wf {msg : Bytes} (n off : Nat) :
    (unpackResources msg n off).Ensures fun p => p.1.length = n ∧ ∀ r ∈ p.1, resourceWF r = true := by
  induction n generalizing off with
  | zero => exact .ok (by simp)
  | succ n ih =>
    unfold unpackResources
    refine .bind unpackResource_wf fun (r, _) hr => .bind (ih _) fun (rs, _) ⟨hl, hw⟩ => .ok ?_
    simpa [hl] using ⟨hr, hw⟩

theorem unpackMsg_wf' {b : Bytes} : (unpackMsg b).Ensures fun m => msgWF m = true := by
  unfold unpackMsg
  refine .bind (P := fun _ => True) (fun _ _ => trivial) fun hdr _ => ?_
  split
  next i0 i1 b0 b1 q0 q1 a0 a1 n0 n1 x0 x1 _ =>
    refine .bind (unpackQuestions_wf _ _) fun (qs, _) ⟨l1, w1⟩ => .bind (unpackResources_wf _ _) fun (an, _) ⟨l2, w2⟩ => ?_
    refine .bind (unpackResources_wf _ _) fun (ns, _) ⟨l3, w3⟩ => .bind (unpackResources_wf _ _) fun (ar, _) ⟨l4, w4⟩ => .ok ?_
    dsimp only at l1 l2 l3 l4
    exact msgWF_iff.2 ⟨⟨be16_lt i0 i1, Nat.mod_lt _ (by decide), Nat.mod_lt _ (by decide)⟩, w1, w2, w3, w4,
      Nat.le_trans (Nat.le_of_eq l1) (Nat.le_of_lt_succ (be16_lt q0 q1)), Nat.le_trans (Nat.le_of_eq l2) (Nat.le_of_lt_succ (be16_lt a0 a1)),
      Nat.le_trans (Nat.le_of_eq l3) (Nat.le_of_lt_succ (be16_lt n0 n1)), Nat.le_trans (Nat.le_of_eq l4) (Nat.le_of_lt_succ (be16_lt x0 x1))⟩
  next => exact .err

/-- the header of an accepted message is `header.header()` of the first four octets -/
theorem unpackMsg_hdr_inv {b : Bytes} {m : Msg} (h : unpackMsg b = .ok m) :
    ∃ i0 i1 b0 b1 rest, b = i0 :: i1 :: b0 :: b1 :: rest ∧ m.hdr = headerOfBits (be16 i0 i1) (be16 b0 b1) := by
  unfold unpackMsg at h
  obtain ⟨hdr, hs, h⟩ := Res.bind_eq_ok h
  rw [sliceFrom_ok (Nat.zero_le _), List.drop_zero] at hs
  simp only [Res.ok.injEq] at hs
  subst hs
  split at h
  next i0 i1 b0 b1 q0 q1 a0 a1 n0 n1 x0 x1 tail heq =>
    obtain ⟨⟨qs, o1⟩, h1, h⟩ := Res.bind_eq_ok h
    obtain ⟨⟨an, o2⟩, h2, h⟩ := Res.bind_eq_ok h
    obtain ⟨⟨ns, o3⟩, h3, h⟩ := Res.bind_eq_ok h
    obtain ⟨⟨ar, o4⟩, h4, h⟩ := Res.bind_eq_ok h
    simp only [Res.ok.injEq] at h
    exact ⟨i0, i1, b0, b1, _, rfl, by rw [← h]⟩
  next => simp at h

end MosVerif.Wire
