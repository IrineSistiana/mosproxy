/-
  Tie by translation (C14): the loop conditions of the four retrying transports — `!newConn && retry < 5 &&
  !ctxIsDone(ctx)` (pipeline, quic), `retry <= 5` and `!isNewConn && retry <= 5 && !ctxIsDone(ctx)` (reuse),
  `connErr && (reused || …) && retry < 3 && ctx.Err() == nil` (DoH) — are translated mechanically from the current
  Go source (`Generated/Translated.lean`); each model loop is shown to be the loop that branches on exactly the
  translated condition. A change of a bound, a dropped conjunct or a flipped negation in the Go source changes the
  translated definition and breaks the corresponding equation.

  The model loops test the budget first (`if _h : retry < 5`: their termination proofs need the hypothesis) and the
  rest of the condition inside; Go tests one conjunction with the budget in the middle. `dite_budget` turns the
  former into the latter; the `_eq` lemmas bring the translated conjunctions to that order, whatever the source's.
-/
import MosVerif.Generated.Translated
import MosVerif.Lemmas.TranslatedC06
import MosVerif.Lemmas.TranslatedTactics
import MosVerif.Model.Retry
namespace MosVerif.Retry
open MosVerif

theorem id_pure_c14 {α : Type} (x : α) : (pure x : Id α) = x := rfl

theorem dite_budget {α : Sort _} (P : Prop) [Decidable P] (a b : Bool) (x y : α) :
    (if _h : P then (if a && b then x else y) else y) = if (a && decide P && b) then x else y := by
  by_cases h : P <;> simp only [h, dite_true, dite_false, decide_true, decide_false, Bool.and_true, Bool.and_false,
    Bool.false_and, Bool.false_eq_true, if_false]

theorem pipeline_retryCond_eq (newConn : Bool) (retry : Nat) (done : Bool) :
    Translated.pipeline_retryCond newConn retry done = (!newConn && decide (retry < 5) && !done) := by
  unfold Translated.pipeline_retryCond
  cases newConn <;> cases done <;> bool_arith

theorem quic_retryCond_eq (newConn : Bool) (retry : Nat) (done : Bool) :
    Translated.quic_retryCond newConn retry done = (!newConn && decide (retry < 5) && !done) := by
  unfold Translated.quic_retryCond
  cases newConn <;> cases done <;> bool_arith

theorem doh_retryCond_eq (connErr reused quicErr h3Err : Bool) (retry : Nat) (alive : Bool) :
    Translated.doh_retryCond connErr reused quicErr h3Err retry alive =
      (connErr && decide (retry < 3) && (reused || (quicErr || h3Err)) && alive) := by
  unfold Translated.doh_retryCond
  -- 32 Boolean cases: the literals cancel and `decide (retry < 3)` or `false` is left on either side;
  -- `decide_eq_decide` and `omega` act only when the source spells the bound differently
  cases connErr <;> cases reused <;> cases quicErr <;> cases h3Err <;> cases alive <;>
    simp only [Bool.true_and, Bool.and_true, Bool.false_and, Bool.and_false, Bool.or_true, Bool.or_false,
      decide_eq_decide] <;> omega

theorem pipelineLoop_translated (o : Oracle) (retry i : Nat) :
    pipelineLoop o retry i =
      match (o i).get with
      | .poolErr => ⟨none, i + 1⟩
      | .dialErr => ⟨none, i + 1⟩
      | g =>
        match (o i).res with
        | some r => ⟨some r, i + 1⟩
        | none =>
          if Translated.pipeline_retryCond (g == .fresh) retry (o i).ctxDone then pipelineLoop o (retry + 1) (i + 1)
          else ⟨none, i + 1⟩ := by
  rw [pipelineLoop]
  simp only [pipeline_retryCond_eq, dite_budget]
  rfl

theorem quicLoop_translated (o : Oracle) (retry i : Nat) (forgot : Bool) :
    quicLoop o retry i forgot =
      let a := if forgot then forcedDial (o i) else o i
      match a.get with
      | .poolErr => ⟨none, i + 1⟩
      | .dialErr => ⟨none, i + 1⟩
      | g =>
        match a.res with
        | some r => ⟨some r, i + 1⟩
        | none =>
          if Translated.quic_retryCond (g == .fresh) retry a.ctxDone then quicLoop o (retry + 1) (i + 1) a.connErr
          else ⟨none, i + 1⟩ := by
  rw [quicLoop]
  simp only [quic_retryCond_eq, dite_budget]
  rfl

theorem reuseLoop_translated (o : Oracle) (retry i : Nat) :
    reuseLoop o retry i =
      let a := if Translated.reuse_poolCond retry then o i else forcedDial (o i)
      match a.get with
      | .poolErr => ⟨none, i + 1⟩
      | .dialErr => ⟨none, i + 1⟩
      | g =>
        match a.res with
        | some r => ⟨some r, i + 1⟩
        | none =>
          if Translated.reuse_retryCond (g == .fresh) retry a.ctxDone then reuseLoop o (retry + 1) (i + 1)
          else ⟨none, i + 1⟩ := by
  rw [reuseLoop]
  simp only [Reuse.reuse_retryCond_eq, Reuse.reuse_poolCond_eq, decide_eq_true_eq, dite_budget]
  rfl

/-- the DoH loop branches on exactly the translated condition (`connErr` = not a response error,
    `reused` = the connection came from the pool, the model's `connErr` flag = `isQuicConnErr(err) ||
    isHttp3Err(err)` — whichever way it splits into the two —, `ctx.Err() == nil` = the caller's context
    is alive: the transport's own 6 s context outlives it) -/
theorem dohLoop_translated (o : Oracle) (retry i : Nat) (quicErr h3Err : Bool)
    (hsplit : (quicErr || h3Err) = (o i).connErr) :
    dohLoop o retry i =
      let a := o i
      if a.ctxDone then ⟨none, i + 1⟩
      else if !a.get.isErr && a.res.isSome then ⟨a.res, i + 1⟩
      else if Translated.doh_retryCond (!a.respErr) (a.get == .pooled) quicErr h3Err retry (!a.ctxDone) then
        dohLoop o (retry + 1) (i + 1)
      else ⟨none, i + 1⟩ := by
  rw [dohLoop]
  simp only [doh_retryCond_eq, hsplit, dite_budget]
  -- the translated condition repeats `ctx.Err() == nil`, which the loop has already tested
  cases (o i).ctxDone
  · simp only [Bool.not_false, Bool.and_true]
  · rfl

end MosVerif.Retry
