/-
  C18 — the start-up / shutdown model (Model/Startup.lean) in closed form, and why nothing stays live.

  `closeImpl` is computed once (`closeImpl_eq`).  A prefix of items that all initialise leaves the router and the
  world in the state `afterPrefix` (`runFrom_prefix`), so `run` is `closeImpl` on that state after the failing
  item's own cleanup (`run_failure`), or that state itself (`run_success`).  Everything live is owned by one of the
  lists `closeImpl` walks, or by `initCache`'s local backends (`resIds_sub`, `cacheAfter_all`), hence `closeImpl`
  leaves nothing live as far as those are empty or closed already (`closeImpl_live`); and in a staged
  configuration they are, wherever `run` stops (`staged_prefix`).
-/
import MosVerif.Model.Startup
namespace MosVerif.Startup

/-! ### `closeImpl` in closed form -/

theorem filter_notin_cons (u : Nat) (rest l : List Nat) :
    List.filter (fun i => !rest.contains i) (List.filter (fun x => x != u) l)
      = List.filter (fun i => !(u :: rest).contains i) l := by
  rw [List.filter_filter]
  apply List.filter_congr
  intro x _
  by_cases h : x = u <;> simp [h]

/-- `closeUpstreams`, `closeBackends` and `runClosers` on non-nil closers are one loop: it records the close of
    every id and takes the ids out of `live` -/
theorem closeList_eq (A : Nat → Act) (g : List Nat → World → World) (hnil : ∀ w, g [] w = w)
    (hcons : ∀ u rest w, g (u :: rest) w =
      g rest { w with acts := w.acts ++ [A u], live := w.live.filter (· != u) }) (us : List Nat) (w : World) :
    g us w = { w with acts := w.acts ++ us.map A, live := w.live.filter (fun i => !us.contains i) } := by
  induction us generalizing w with
  | nil =>
    rw [hnil]
    cases w
    simp only [List.contains_nil, Bool.not_false, List.map_nil, List.append_nil]
    congr 1
    exact (List.filter_eq_self.mpr (by simp)).symm
  | cons u rest ih =>
    rw [hcons, ih, filter_notin_cons]
    simp

theorem closeUpstreams_eq (us : List Nat) (w : World) :
    closeUpstreams us w =
      { w with acts := w.acts ++ us.map Act.upClose, live := w.live.filter (fun i => !us.contains i) } :=
  closeList_eq _ closeUpstreams (fun _ => rfl) (fun _ _ _ => rfl) us w

theorem runClosers_some (cs : List Nat) (w : World) :
    runClosers (cs.map some) w =
      { w with acts := w.acts ++ cs.map Act.srvClose, live := w.live.filter (fun i => !cs.contains i) } :=
  closeList_eq _ (fun cs => runClosers (cs.map some)) (fun _ => rfl) (fun _ _ _ => rfl) cs w

theorem closeBackends_eq (bs : List Nat) (w : World) :
    closeBackends bs w =
      { w with acts := w.acts ++ bs.map Act.cacheClose, live := w.live.filter (fun i => !bs.contains i) } :=
  closeList_eq _ closeBackends (fun _ => rfl) (fun _ _ _ => rfl) bs w

theorem closeImpl_eq (ups loc : List Nat) (c : Option (List Nat)) (ls : List Nat) (b : Bool) (w : World) :
    closeImpl ⟨ups, loc, c, ls.map some, b⟩ w =
      { live := ((w.live.filter (fun i => !ups.contains i)).filter (fun i => !(c.getD []).contains i)).filter
                  (fun i => !ls.contains i)
        acts := w.acts ++ [.cancel, .limiterClose] ++ ups.map .upClose ++ (c.getD []).map .cacheClose
                  ++ ls.map .srvClose
        panicked := w.panicked } := by
  cases c with
  | none =>
    simp only [closeImpl, closeUpstreams_eq, runClosers_some, Option.getD_none, List.contains_nil,
      Bool.not_false, List.map_nil, List.append_nil]
    congr 1
    simp
  | some bs => simp [closeImpl, closeUpstreams_eq, runClosers_some, closeBackends_eq]

/-! ### what a prefix of items that all initialise leaves behind, and `run` in terms of it -/

def upstreamIds : Nat → List Item → List Nat
  | _, [] => []
  | id, it :: rest => if it.kind = .upstream then id :: upstreamIds (id + 1) rest else upstreamIds (id + 1) rest

def listenerIds : Nat → List Item → List Nat
  | _, [] => []
  | id, it :: rest =>
    if it.kind = .metrics ∨ it.kind = .server then id :: listenerIds (id + 1) rest else listenerIds (id + 1) rest

/-- ids of the cache backends (memory cache, redis) of an all-successful prefix -/
def backendIds : Nat → List Item → List Nat
  | _, [] => []
  | id, it :: rest =>
    if it.kind = .memCache ∨ it.kind = .redisCache then id :: backendIds (id + 1) rest
    else backendIds (id + 1) rest

/-- (`initCache`'s local backends, `r.cache`) after an all-successful prefix -/
def cacheAfter : Nat → List Item → List Nat × Option (List Nat) → List Nat × Option (List Nat)
  | _, [], st => st
  | id, it :: rest, st =>
    if it.kind = .memCache ∨ it.kind = .redisCache then cacheAfter (id + 1) rest (st.1 ++ [id], st.2)
    else if it.kind = .cacheDone then cacheAfter (id + 1) rest ([], some (st.2.getD [] ++ st.1))
    else cacheAfter (id + 1) rest st

/-- ids of the items of an all-successful prefix that own a resource (socket, goroutines), in start order -/
def resIds : Nat → List Item → List Nat
  | _, [] => []
  | id, it :: rest =>
    if it.kind = .metrics ∨ it.kind = .server ∨ (it.kind = .upstream ∧ it.sock = true) ∨
       it.kind = .memCache ∨ it.kind = .redisCache
    then id :: resIds (id + 1) rest else resIds (id + 1) rest

/-- the state `run` has reached when every item of `pre` initialised -/
def afterPrefix (pre : List Item) : Router × World :=
  ({ upstreams := upstreamIds 0 pre
     cacheLocal := (cacheAfter 0 pre ([], none)).1
     cache := (cacheAfter 0 pre ([], none)).2
     closers := (listenerIds 0 pre).map some },
   { live := resIds 0 pre })

/-- `runFrom` over a prefix whose items all initialise, kind by kind as `initItem` has it: metrics and servers add a
    closer and are live; an upstream joins `upstreams` and is live if it owns a socket; the memory cache and redis
    join `initCache`'s local backends and are live; `cacheDone` hands those to `r.cache`; the rest change nothing -/
theorem runFrom_prefix (pre rest : List Item) (hpre : ∀ x ∈ pre, x.ok = true)
    (id : Nat) (r : Router) (w : World) (att : List Nat) :
    runFrom id (pre ++ rest) r w att =
      runFrom (id + pre.length) rest
        { r with upstreams := r.upstreams ++ upstreamIds id pre
                 cacheLocal := (cacheAfter id pre (r.cacheLocal, r.cache)).1
                 cache := (cacheAfter id pre (r.cacheLocal, r.cache)).2
                 closers := r.closers ++ (listenerIds id pre).map some }
        { w with live := w.live ++ resIds id pre }
        (att ++ (List.range pre.length).map (id + ·)) := by
  induction pre generalizing id r w att with
  | nil => simp [upstreamIds, cacheAfter, listenerIds, resIds]
  | cons it pre ih =>
    have hok : it.ok = true := hpre it (by simp)
    have hpre' : ∀ x ∈ pre, x.ok = true := fun x hx => hpre x (by simp [hx])
    have hrange : (List.range (pre.length + 1)).map (id + ·)
        = id :: (List.range pre.length).map (id + 1 + ·) := by
      rw [List.range_succ_eq_map]
      simp [List.map_map, Function.comp_def, Nat.add_assoc, Nat.add_comm 1]
    simp only [List.cons_append, runFrom]
    cases hk : it.kind
    case upstream =>
      cases hs : it.sock <;>
        simp [initItem, hok, hk, hs, ih hpre', upstreamIds, cacheAfter, listenerIds, resIds, hrange,
          Nat.add_assoc, Nat.add_comm 1]
    all_goals
      simp [initItem, startServer, hok, hk, ih hpre', upstreamIds, cacheAfter, listenerIds, resIds, hrange,
        Nat.add_assoc, Nat.add_comm 1]

theorem run_success (cfg : List Item) (h : ∀ x ∈ cfg, x.ok = true) :
    run cfg = ⟨false, (afterPrefix cfg).1, (afterPrefix cfg).2, List.range cfg.length⟩ := by
  have := runFrom_prefix cfg [] h 0 {} {} []
  simp only [List.append_nil] at this
  unfold run
  rw [this]
  simp [runFrom, afterPrefix]

theorem initItem_fail (id : Nat) (it : Item) (r : Router) (w : World) (h : it.ok = false) :
    initItem id it r w = none := by
  cases hk : it.kind <;> simp [initItem, startServer, h, hk]

/-- the state in which the deferred `close` runs after the failure of `it` -/
def failState (pre : List Item) (it : Item) : Router × World :=
  failCleanup it (afterPrefix pre).1 (afterPrefix pre).2

/-- whether the failing item's error path releases `initCache`'s local backends -/
def releasesLocal (k : Kind) : Bool := k == .redisCache || k == .ipMarker || k == .cacheDone

theorem failState_eq (pre : List Item) (it : Item) :
    failState pre it = if releasesLocal it.kind = true then
        ({ (afterPrefix pre).1 with cacheLocal := [] },
          closeBackends (afterPrefix pre).1.cacheLocal (afterPrefix pre).2)
      else afterPrefix pre := by
  unfold failState failCleanup releasesLocal
  cases it.kind <;> rfl

theorem run_failure (pre post : List Item) (it : Item)
    (hpre : ∀ x ∈ pre, x.ok = true) (hit : it.ok = false) :
    run (pre ++ it :: post) =
      ⟨true, { (failState pre it).1 with closeDone := true },
        closeImpl (failState pre it).1 (failState pre it).2, List.range (pre.length + 1)⟩ := by
  have hcd : (failState pre it).1.closeDone = false := by
    simp only [failState, failCleanup, afterPrefix]
    split <;> rfl
  unfold run
  rw [runFrom_prefix pre (it :: post) hpre]
  simp only [runFrom, initItem_fail _ _ _ _ hit, Nat.zero_add, List.nil_append]
  simp only [failState, afterPrefix] at hcd ⊢
  simp [close, hcd, List.range_succ]

/-- either every item initialises, or there is a first one that does not -/
theorem split_first_fail (cfg : List Item) :
    (∀ x ∈ cfg, x.ok = true) ∨
    ∃ pre it post, cfg = pre ++ it :: post ∧ (∀ x ∈ pre, x.ok = true) ∧ it.ok = false := by
  induction cfg with
  | nil => exact Or.inl fun _ h => nomatch h
  | cons a rest ih =>
    by_cases ha : a.ok = true
    · rcases ih with h | ⟨pre, it, post, rfl, hp, hi⟩
      · exact Or.inl (List.forall_mem_cons.mpr ⟨ha, h⟩)
      · exact Or.inr ⟨a :: pre, it, post, rfl, List.forall_mem_cons.mpr ⟨ha, hp⟩, hi⟩
    · exact Or.inr ⟨[], a, rest, rfl, (fun _ h => nomatch h), by simpa using ha⟩

theorem closeN_closed (n : Nat) (r : Router) (w : World) (h : r.closeDone = true) :
    closeN n r w = (r, w) := by
  induction n with
  | zero => rfl
  | succ n ih => simp [closeN, close, h, ih]

/-! ### everything live is owned by a list that `closeImpl` walks, or by `initCache` locally -/

theorem resIds_sub (id : Nat) (items : List Item) :
    ∀ i ∈ resIds id items,
      i ∈ upstreamIds id items ∨ i ∈ listenerIds id items ∨ i ∈ backendIds id items := by
  induction items generalizing id with
  | nil => exact fun _ h => nomatch h
  | cons it rest ih =>
    intro i hi
    have := ih (id + 1) i
    -- each of the four lists is `id ::` its tail or its tail, according to the kind of `it`
    simp only [resIds, upstreamIds, listenerIds, backendIds] at hi ⊢
    grind

/-- no backend is ever forgotten: what `r.cache` owns plus what `initCache` holds locally are exactly the
    backends started so far -/
theorem cacheAfter_all (id : Nat) (items : List Item) (st : List Nat × Option (List Nat)) :
    (cacheAfter id items st).2.getD [] ++ (cacheAfter id items st).1
      = st.2.getD [] ++ st.1 ++ backendIds id items := by
  induction items generalizing id st with
  | nil => simp [cacheAfter, backendIds]
  | cons it rest ih =>
    simp only [cacheAfter, backendIds]
    split
    · rw [ih]; simp
    · split
      · rw [ih]; simp
      · rw [ih]

/-- `closeImpl` releases whatever a prefix has started and `initCache` does not still hold locally (`closeImpl`
    does not look at the local backends) -/
theorem closeImpl_live (pre : List Item) (loc : List Nat) (w : World)
    (hw : ∀ i ∈ w.live, i ∈ resIds 0 pre ∧ i ∉ (cacheAfter 0 pre ([], none)).1) :
    (closeImpl { (afterPrefix pre).1 with cacheLocal := loc } w).live = [] := by
  have hall := cacheAfter_all 0 pre ([], none)
  simp only [Option.getD_none, List.append_nil, List.nil_append] at hall
  simp only [afterPrefix, closeImpl_eq, List.filter_filter]
  refine List.filter_eq_nil_iff.mpr fun i hi => ?_
  obtain ⟨hr, hl⟩ := hw i hi
  rcases resIds_sub 0 pre i hr with h | h | h
  · simp [h]
  · simp [h]
  · rcases List.mem_append.mp (hall ▸ h) with h | h
    · simp [h]
    · exact absurd h hl

theorem live_after_fail (pre : List Item) (it : Item)
    (hloc : releasesLocal it.kind = true ∨ (afterPrefix pre).1.cacheLocal = []) :
    (closeImpl (failState pre it).1 (failState pre it).2).live = [] := by
  rw [failState_eq]
  split
  · -- the error path has closed the local backends
    refine closeImpl_live pre [] _ fun i hi => ?_
    simpa [closeBackends_eq, afterPrefix] using hi
  · refine closeImpl_live pre _ _ fun i hi => ⟨hi, ?_⟩
    have hloc' := hloc.resolve_left ‹_›
    simp only [afterPrefix] at hloc'
    rw [hloc']
    exact List.not_mem_nil

/-! ### staging: outside `initCache` there are no local backends -/

/-- whether `stagedFrom` is inside `initCache` after a prefix: decided by the prefix's last item (`b` if it is empty) -/
def inAfter : Bool → List Item → Bool
  | b, [] => b
  | _, it :: rest =>
    if it.kind = .memCache ∨ it.kind = .redisCache ∨ it.kind = .ipMarker then inAfter true rest
    else inAfter false rest

theorem staged_prefix (pre rest : List Item) (b : Bool) (st : List Nat × Option (List Nat)) (id : Nat)
    (hst : stagedFrom b (pre ++ rest) = true) (hb : b = false → st.1 = []) :
    stagedFrom (inAfter b pre) rest = true ∧
      (inAfter b pre = false → (cacheAfter id pre st).1 = []) := by
  induction pre generalizing b st id with
  | nil => exact ⟨hst, by simpa [inAfter, cacheAfter] using hb⟩
  | cons it pre ih =>
    simp only [List.cons_append, stagedFrom] at hst
    cases hk : it.kind <;> simp only [hk] at hst <;>
      simp only [inAfter, cacheAfter, hk, reduceCtorEq, or_false, or_true, if_true, if_false, or_self]
    case memCache =>
      simp only [Bool.and_eq_true] at hst
      exact ih true _ _ hst.2 nofun
    case redisCache | ipMarker => exact ih true _ _ hst nofun
    case cacheDone => exact ih false _ _ hst fun _ => rfl
    all_goals
      simp only [Bool.and_eq_true, Bool.not_eq_true'] at hst
      exact ih false _ _ hst.2 fun _ => hb hst.1

/-- in a staged configuration the precondition of `live_after_fail` holds at every failing position -/
theorem staged_local (pre post : List Item) (it : Item) (hst : staged (pre ++ it :: post) = true) :
    releasesLocal it.kind = true ∨ (afterPrefix pre).1.cacheLocal = [] := by
  obtain ⟨h1, h2⟩ := staged_prefix pre (it :: post) false ([], none) 0 (by simpa [staged] using hst) (fun _ => rfl)
  by_cases hb : inAfter false pre = false
  · exact Or.inr (by simpa [afterPrefix] using h2 hb)
  · -- inside `initCache` a staged configuration goes on with redis, the ip marker or `cacheDone` only
    have hb' : inAfter false pre = true := by simpa using hb
    rw [hb'] at h1
    simp only [stagedFrom] at h1
    cases hk : it.kind <;> simp [hk] at h1 <;> simp [releasesLocal]

theorem live_after_close (cfg : List Item) (hst : staged cfg = true) :
    (closeImpl (afterPrefix cfg).1 (afterPrefix cfg).2).live = [] := by
  obtain ⟨h1, h2⟩ := staged_prefix cfg [] false ([], none) 0 (by simpa [staged] using hst) (fun _ => rfl)
  simp only [stagedFrom, Bool.not_eq_true'] at h1
  refine closeImpl_live cfg _ _ fun i hi => ⟨hi, ?_⟩
  rw [h2 h1]
  exact List.not_mem_nil

end MosVerif.Startup
