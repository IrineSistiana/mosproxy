/-
  Tie by translation (C06): the integer / boolean tests of `ReuseConnTransport` (internal/upstream/transport/
  reuse_transport.go) that the step model (Model/Reuse.lean, `stepCoreG`) branches on — the pool guard `retry <= 5`,
  the retry condition `!isNewConn && retry <= 5 && !ctxIsDone(ctx)` (both fragments are shared with C14), the
  per-connection id `qid := c.nextQid; c.nextQid++` and the id check `r.Header.ID != qid` of `exchangeConn` — are
  translated mechanically from the current Go source (`Generated/Translated.lean`). For every state (and both
  `racy` / `adv` variants of the step function) the model's step is the step that branches on, resp. computes with,
  exactly the translated fragments.
  (`nextQid` is a `uint16` in Go; its wrap-around after 65536 queries on one connection is outside the model and
  outside the translation, which is type-unaware for `++`.)
-/
import MosVerif.Generated.Translated
import MosVerif.Lemmas.TranslatedTactics
import MosVerif.Model.Reuse
namespace MosVerif.Reuse
open MosVerif

theorem id_pure_c06 {α : Type} (x : α) : (pure x : Id α) = x := rfl

theorem reuse_poolCond_eq (retry : Nat) : Translated.reuse_poolCond retry = decide (retry ≤ 5) := by
  unfold Translated.reuse_poolCond
  bool_arith

theorem reuse_retryCond_eq (new : Bool) (retry : Nat) (done : Bool) :
    Translated.reuse_retryCond new retry done = (!new && decide (retry ≤ 5) && !done) := by
  unfold Translated.reuse_retryCond
  cases new <;> cases done <;> bool_arith

theorem c06_idTake_eq (n : Nat) : Translated.c06_idTake n = n := by
  unfold Translated.c06_idTake
  tr_val

theorem c06_idNext_eq (n : Nat) : Translated.c06_idNext n = n + 1 := by
  unfold Translated.c06_idNext
  tr_val

theorem c06_idMismatch_eq (a b : Nat) : Translated.c06_idMismatch a b = !decide (a = b) := by
  unfold Translated.c06_idMismatch
  bool_arith

/-- `getIdleConn` is consulted iff the translated pool guard `retry <= 5` holds -/
theorem getIdle_translated (racy adv : Bool) (s : State) (e : Nat) (pick : Option Nat)
    (hp : (s.caller e).phase = .get) :
    stepCoreG racy adv s (.getIdle e pick) =
      if !Translated.reuse_poolCond (s.caller e).retry then
        s.setCaller e { s.caller e with phase := .dialing, dial := .dialing }
      else if s.tclosed then s.finish e .err
      else
        match pick with
        | none =>
          if s.idle = [] then s.setCaller e { s.caller e with phase := .dialing, dial := .dialing } else s
        | some c =>
          if c ∈ s.idle then
            let s := { s with idle := s.idle.filter (· != c) }
            let k := s.conn c
            if k.closed then { s with all := s.all.filter (· != c) }
            else if k.serving then { s with fault := some .exitIdleBusy }
            else
              let s := s.setConn c { k with serving := true }
              if k.netClosed then { s with all := s.all.filter (· != c) }
              else if k.worker.isSome then { s with fault := some .twoOwners }
              else s.spawn e c false
          else s := by
  have h : (!Translated.reuse_poolCond (s.caller e).retry) = decide ((s.caller e).retry > 5) := by
    rw [reuse_poolCond_eq]
    bool_arith
  rw [h]
  unfold stepCoreG
  simp only [hp]
  rfl

/-- a failed attempt is retried iff the translated condition `!isNewConn && retry <= 5 && !ctxIsDone(ctx)` holds -/
theorem recvRes_translated (racy adv : Bool) (s : State) (e : Nat) (c : Nat) (new : Bool)
    (hp : (s.caller e).phase = .wait c new) (hc : s.chan e (s.caller e).retry = some .err) :
    stepCoreG racy adv s (.recvRes e) =
      if Translated.reuse_retryCond new (s.caller e).retry (s.caller e).cancelled then
        s.setCaller e { s.caller e with phase := .get, retry := (s.caller e).retry + 1 }
      else s.finish e .err := by
  rw [reuse_retryCond_eq]
  unfold stepCoreG
  simp only [hp, hc]

/-- the worker writes the query with the translated `qid := c.nextQid` and leaves the translated `c.nextQid++` -/
theorem workerWrite_translated (racy adv : Bool) (s : State) (c e a : Nat) (fail : Bool)
    (hw : (s.conn c).worker = some (.write e a)) :
    stepCoreG racy adv s (.workerWrite c fail) =
      let k := s.conn c
      let qid := Translated.c06_idTake k.nextQid
      let next := Translated.c06_idNext k.nextQid
      if k.netClosed || k.peerClosed || fail then
        (s.setConn c { k with nextQid := next, worker := some (.post e a .err) }).emit (.err c)
      else
        (s.setConn c { k with nextQid := next, pending := k.pending ++ [e], owed := k.owed ++ [(e, qid)],
                              worker := some (.read e a qid) }).emit (.wr c e qid) := by
  simp only [c06_idTake_eq, c06_idNext_eq]
  unfold stepCoreG
  simp only [hw]

/-- a good frame is accepted iff the translated `r.Header.ID != qid` is false -/
theorem workerReadOk_translated (racy adv : Bool) (s : State) (c e a qid : Nat) (f : Frame) (fs : List Frame)
    (hw : (s.conn c).worker = some (.read e a qid)) (hn : (s.conn c).netClosed = false)
    (hb : (s.conn c).inbuf = f :: fs) :
    stepCoreG racy adv s (.workerReadOk c) =
      let k := s.conn c
      let k' := { k with pending := k.pending.tail, inbuf := fs, halfRead := false }
      if !f.good then
        (s.setConn c { k' with worker := some (.post e a .err) }).emit (.bad c)
      else if Translated.c06_idMismatch f.id qid then
        (s.setConn c { k' with worker := some (.post e a .err) }).emit (.rd c f.q f.id)
      else
        (s.setConn c { k' with worker := some (.post e a (.ok f.q)) }).emit (.rd c f.q f.id) := by
  rw [c06_idMismatch_eq]
  unfold stepCoreG
  simp only [hw, hn, hb]
  by_cases hg : f.good <;> by_cases hi : f.id = qid <;> simp [hg, hi]

end MosVerif.Reuse
