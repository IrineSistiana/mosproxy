/-
  Wire codec (C02), on Lemmas/CodecBasic: the header flag word.  `Header.Pack` or-s disjoint bit fields
  together; `header.header()` extracts them again.  Extraction of a bit field (`fld`)
  distributes over `|||`, so each decoded field only sees its own contribution.  The other way round a
  16-bit word is determined by those fields, compared one at a time from the low end.
-/
import MosVerif.Lemmas.CodecBasic
namespace MosVerif.Wire

theorem lor_eq (x y : Nat) : Nat.lor x y = x ||| y := rfl

/-- the `w`-bit field starting at bit `a` -/
def fld (a w x : Nat) : Nat := x / 2 ^ a % 2 ^ w

theorem fld_or (a w x y : Nat) : fld a w (x ||| y) = fld a w x ||| fld a w y := by
  simp only [fld, Nat.or_div_two_pow, Nat.or_mod_two_pow]

theorem fld_ite (a w : Nat) (b : Bool) (m : Nat) :
    fld a w (if b = true then m else 0) = if b = true then fld a w m else 0 := by
  cases b <;> simp [fld]

/-- one `if flag { bits |= m }` step of `Header.Pack` -/
def orIf (b : Bool) (m x : Nat) : Nat := if b = true then Nat.lor x m else x

theorem orIf_eq (b : Bool) (m x : Nat) : orIf b m x = x ||| (if b = true then m else 0) := by
  cases b <;> simp [orIf]

theorem bitsOfHeader_orIf (h : Header) :
    bitsOfHeader h = orIf h.cd 16 (orIf h.ad 32 (orIf h.z 64 (orIf h.response 32768 (orIf h.authoritative 1024
      (orIf h.truncated 512 (orIf h.rd 256 (orIf h.ra 128
        ((h.opcode * 2048 % 65536) ||| (h.rcode % 65536))))))))) := rfl

theorem base_bits (op rc : Nat) (hop : op < 16) (hrc : rc < 16) :
    (op * 2048 % 65536) ||| (rc % 65536) = op * 2048 + rc := by
  have h1 : op * 2048 % 65536 = 2 ^ 11 * op := by omega
  have h2 : rc % 65536 = rc := by omega
  rw [h1, h2, ← Nat.two_pow_add_eq_or_of_lt (by omega) op]
  omega

theorem bitsOfHeader_eq (h : Header) (hop : h.opcode < 16) (hrc : h.rcode < 16) :
    bitsOfHeader h = (h.opcode * 2048 + h.rcode) ||| (if h.ra = true then 128 else 0)
      ||| (if h.rd = true then 256 else 0) ||| (if h.truncated = true then 512 else 0)
      ||| (if h.authoritative = true then 1024 else 0) ||| (if h.response = true then 32768 else 0)
      ||| (if h.z = true then 64 else 0) ||| (if h.ad = true then 32 else 0) ||| (if h.cd = true then 16 else 0) := by
  rw [bitsOfHeader_orIf]
  simp only [orIf_eq, base_bits _ _ hop hrc]

/-- one `if flag { bits |= m }` step keeps the word within 16 bits -/
theorem orIf_lt {b : Bool} {m x : Nat} (hx : x < 2 ^ 16) (hm : m < 2 ^ 16) : orIf b m x < 2 ^ 16 := by
  unfold orIf
  split
  · exact Nat.or_lt_two_pow hx hm
  · exact hx

theorem bitsOfHeader_lt (h : Header) : bitsOfHeader h < 65536 := by
  rw [bitsOfHeader_orIf]
  have base : (h.opcode * 2048 % 65536) ||| (h.rcode % 65536) < 2 ^ 16 :=
    Nat.or_lt_two_pow (Nat.mod_lt _ (by decide)) (Nat.mod_lt _ (by decide))
  exact orIf_lt (orIf_lt (orIf_lt (orIf_lt (orIf_lt (orIf_lt (orIf_lt (orIf_lt base (by decide)) (by decide))
    (by decide)) (by decide)) (by decide)) (by decide)) (by decide)) (by decide)

theorem testBit_fld (bits k : Nat) : testBit bits k = decide (fld k 1 bits = 1) := by
  simp [testBit, fld]

theorem ite_one_eq (b : Bool) : decide ((if b = true then 1 else 0) = 1) = b := by cases b <;> simp

theorem fld_base (op rc : Nat) (hop : op < 16) (hrc : rc < 16) :
    fld 15 1 (op * 2048 + rc) = 0 ∧ fld 10 1 (op * 2048 + rc) = 0 ∧ fld 9 1 (op * 2048 + rc) = 0 ∧
    fld 8 1 (op * 2048 + rc) = 0 ∧ fld 7 1 (op * 2048 + rc) = 0 ∧ fld 6 1 (op * 2048 + rc) = 0 ∧
    fld 5 1 (op * 2048 + rc) = 0 ∧ fld 4 1 (op * 2048 + rc) = 0 ∧ fld 11 4 (op * 2048 + rc) = op ∧
    fld 0 4 (op * 2048 + rc) = rc := by
  simp only [fld]
  omega

/-- ★ header level round trip: the flag word written by `Header.Pack` is read back by
    `header.header()` as the same header (opcode and rcode are 4-bit fields). -/
theorem headerOfBits_bitsOfHeader (h : Header) (hop : h.opcode < 16) (hrc : h.rcode < 16) :
    headerOfBits h.id (bitsOfHeader h) = h := by
  have hb := bitsOfHeader_eq h hop hrc
  obtain ⟨f15, f10, f9, f8, f7, f6, f5, f4, fop, frc⟩ := fld_base _ _ hop hrc
  have hop' : bitsOfHeader h / 2048 % 16 = fld 11 4 (bitsOfHeader h) := rfl
  have hrc' : bitsOfHeader h % 16 = fld 0 4 (bitsOfHeader h) := by simp [fld]
  unfold headerOfBits
  rw [hop', hrc']
  simp only [testBit_fld, hb, fld_or, fld_ite, f15, f10, f9, f8, f7, f6, f5, f4, fop, frc]
  cases h with
  | mk id qr op aa tc rd ra ad cd rc z =>
    simp [fld]

theorem testBit_eq (x k : Nat) : testBit x k = x.testBit k := by
  unfold testBit
  rw [Nat.testBit_eq_decide_div_mod_eq]

theorem mod_two_pow_succ_congr {x y k : Nat} (h : x % 2 ^ k = y % 2 ^ k) (hb : testBit x k = testBit y k) :
    x % 2 ^ (k + 1) = y % 2 ^ (k + 1) := by
  rw [testBit_eq, testBit_eq] at hb
  rw [Nat.pow_succ, Nat.mod_mul, Nat.mod_mul, h, ← Nat.toNat_testBit, ← Nat.toNat_testBit, hb]

/-- `header.header()` is injective on 16-bit flag words: every one of the 16 bits lands in a field.
    The words are compared from the low end, one field at a time. -/
theorem headerOfBits_inj (i j x y : Nat) (hx : x < 65536) (hy : y < 65536)
    (h : headerOfBits i x = headerOfBits j y) : x = y := by
  injection h with _ h15 hop h10 h9 h8 h7 h5 h4 hrc h6
  have m11 : x % 2 ^ 11 = y % 2 ^ 11 :=
    mod_two_pow_succ_congr (mod_two_pow_succ_congr (mod_two_pow_succ_congr (mod_two_pow_succ_congr
      (mod_two_pow_succ_congr (mod_two_pow_succ_congr (mod_two_pow_succ_congr (k := 4) hrc h4) h5) h6) h7) h8) h9) h10
  have m15 : x % (2 ^ 11 * 16) = y % (2 ^ 11 * 16) := by
    rw [Nat.mod_mul, Nat.mod_mul, m11, hop]
  have m16 := mod_two_pow_succ_congr (k := 15) m15 h15
  rwa [Nat.mod_eq_of_lt hx, Nat.mod_eq_of_lt hy] at m16

/-- ★ decode-then-encode of the flag word is the identity on ALL 16 bits (including the reserved
    bit Z): no header bit of an accepted message is lost. -/
theorem bitsOfHeader_headerOfBits (id bits : Nat) (hb : bits < 65536) :
    bitsOfHeader (headerOfBits id bits) = bits := by
  have hop : (headerOfBits id bits).opcode < 16 := by simp only [headerOfBits]; omega
  have hrc : (headerOfBits id bits).rcode < 16 := by simp only [headerOfBits]; omega
  have hlt := bitsOfHeader_lt (headerOfBits id bits)
  have hrt := headerOfBits_bitsOfHeader (headerOfBits id bits) hop hrc
  exact headerOfBits_inj _ _ _ _ hlt hb hrt
