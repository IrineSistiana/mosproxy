/-
  Tie by translation (C07): the integer / boolean logic of `internal/netlist` (`Ipv6.cmp`, the range tests of
  `contains`, `Add`, `Build`, `Lookup`), of `MemoryCache.Get`'s retry budgets, of `NewMemoryCache`'s size clamp and of
  `cacheCtl`'s lifetime cap (`QCache.clampTtl`), translated mechanically from the current Go source, equals what the models use.
-/
import MosVerif.Generated.Translated
import MosVerif.Lemmas.TranslatedC08
import MosVerif.Model.Netlist
import MosVerif.Model.MemCache
import MosVerif.Model.QCache
namespace MosVerif.Netlist
open MosVerif

theorem id_pure_any {α : Type} (x : α) : (pure x : Id α) = x := rfl

/-! ### internal/netlist -/

/-- ★ tie: `Ipv6.cmp` (whole function) on the uint64 halves -/
theorem c07_ipv6cmp_translated (a b : Ipv6) :
    a.cmp b = Translated.c07_ipv6cmp a.h.toNat a.l.toNat b.h.toNat b.l.toNat := by
  unfold Ipv6.cmp Translated.c07_ipv6cmp
  simp only [Id.run, id_pure_any, GT.gt, UInt64.lt_iff_toNat_lt]
  -- both sides are the lexicographic comparison by four tests; splitting them by hand is 16 cases of linear
  -- arithmetic and much dearer to check than letting `grind` find the contradictory ones
  grind

/-- ★ tie: `ipRange.contains` is the translated condition applied to the two `cmp` calls of the source (the calls
    are the fragment's parameters: another call in the source and the translation fails) -/
theorem c07_contains_translated {V} (r : Range V) (ip : Ipv6) :
    r.contains ip = if Translated.c07_containsCond (r.start.cmp ip) (ip.cmp r.stop) then some r.v else none := by
  unfold Range.contains Translated.c07_containsCond
  by_cases h1 : r.start.cmp ip ≤ 0 <;> by_cases h2 : ip.cmp r.stop ≤ 0 <;> simp [h1, h2] <;> omega

/-- ★ tie: `ListBuilder.Add` refuses exactly when the translated `r.start.cmp(r.end) > 0` says so -/
theorem c07_builderAdd_translated {V} (b : List (Range V)) (start stop : Addr) (v : V) :
    builderAdd b start stop v =
      if !start.isValid || !stop.isValid then none
      else if Translated.c07_addRangeBad ((addr2Ipv6 start).cmp (addr2Ipv6 stop)) then none
      else some (b ++ [{ start := addr2Ipv6 start, stop := addr2Ipv6 stop, v := v }]) := by
  unfold builderAdd Translated.c07_addRangeBad
  by_cases h0 : (!start.isValid || !stop.isValid) = true
  · simp only [h0, if_true]
  · by_cases h1 : (addr2Ipv6 start).cmp (addr2Ipv6 stop) > 0 <;> simp [h0, h1] <;> omega

/-- ★ tie: `Build`'s overlap test between neighbours -/
theorem c07_overlapAdj_translated {V} (a b : Range V) (rest : List (Range V)) :
    overlapAdj (a :: b :: rest) = (Translated.c07_overlapCond (a.stop.cmp b.start) || overlapAdj (b :: rest)) := by
  rw [overlapAdj]
  unfold Translated.c07_overlapCond
  by_cases h : a.stop.cmp b.start ≥ 0 <;> simp [h] <;> omega

/-- ★ tie: `Lookup`'s `if i == 0 { return }` -/
theorem c07_lookupNone_translated (i : Nat) : lookupNone i ↔ Translated.c07_lookupNone i = true := by
  unfold lookupNone Translated.c07_lookupNone
  simp only [decide_eq_true_eq]

/-! ### internal/cache/mem.go -/

/-- ★ tie: the loop condition of `MemoryCache.Get` -/
theorem c07_getBudget_translated (retry : Nat) : MemCache.getBudget retry ↔ Translated.c07_getBudget retry = true := by
  unfold MemCache.getBudget Translated.c07_getBudget
  simp only [decide_eq_true_eq]

/-- ★ tie: `if misses++; misses < 3 { continue }`, in both models of the loop -/
theorem c07_getMisses_translated (misses : Nat) :
    (MemCache.getMissesCond misses ↔ Translated.c07_getMisses misses = true) ∧
    (QCache.getMissesCond misses ↔ Translated.c07_getMisses misses = true) := by
  unfold MemCache.getMissesCond QCache.getMissesCond Translated.c07_getMisses
  simp only [decide_eq_true_eq, and_self]

/-- ★ tie: `if uint64(size) > math.MaxUint32 { size = math.MaxUint32 }` for every size ≥ 0 (the model's sizes are
    naturals — that IS the range hypothesis: for a negative `size` Go's `uint64(size)` wraps to ≥ 2⁶³ and clamps,
    which the translation, reading the conversion as the identity, does not follow). -/
theorem c07_clampSize_translated (size : Nat) :
    ((QCache.clampSize size : Nat) : Int) = Translated.c07_clampSize (size : Int) := by
  unfold QCache.clampSize Translated.c07_clampSize
  tr_val

example : Translated.c07_clampSize (-1) = -1 := by decide

/-! ### app/router/cache.go: the lifetime cap -/

theorem c07_ttlApply_eq (T m : Int) : Translated.c07_ttlApply T m = min T m := by
  unfold Translated.c07_ttlApply
  tr_val

theorem clampTtl_eq (mx ttl : Nat) : QCache.clampTtl mx ttl = min ttl (min mx 315360000) := by
  unfold QCache.clampTtl QCache.tenYears
  simp only [Nat.reduceMul]

/-- ★ tie: the model's `clampTtl` (whole seconds) is `initCache`'s limit (translated: `c08_initMaxTtl`) followed by
    `Store`'s `if ttl > c.maximumTtl { ttl = c.maximumTtl }`, for every positive configured maximum and every ttl
    (the translation multiplies in ℤ; the range hypothesis of the int64 product is `c08_initMaxTtl_translated`'s). -/
theorem c07_clampTtl_translated (old : Int) (mx ttl : Nat) (h0 : 0 < mx) :
    ((QCache.clampTtl mx ttl : Nat) : Int) * 1000000000 =
      Translated.c07_ttlApply ((ttl : Int) * 1000000000) (Translated.c08_initMaxTtl old (mx : Int)) := by
  rw [c07_ttlApply_eq, Ttl.c08_initMaxTtl_pos old mx (by omega), clampTtl_eq]
  omega

end MosVerif.Netlist
