/-
  C13 — a whole connection (segments and handler completions in any order): the mode machine
  simulates the reference semantics; and over segments alone the reference run is the reference
  parser applied to their concatenation.
-/
import MosVerif.Lemmas.GnetMachine
namespace MosVerif.Gnet

/-- the simulation relation between the modelled connection and the reference state -/
structure Sim (c : Conn) (r : Ref) : Prop where
  bad : c.bad = false
  log : c.log = r.log
  pending : c.pending = r.pending
  writes : c.writes = r.writes
  closed : c.closed = r.closed
  rest : c.closed = false → Rest c.cc c.inb r.rest ∧ c.cc.concurrent = r.running

theorem sim_init : Sim {} {} :=
  ⟨rfl, rfl, rfl, rfl, rfl, fun _ => ⟨Rest.idle 0 false 0, rfl⟩⟩

/-- handlers completing touch the pending list, the writes and the counter only, and both sides alike -/
theorem Sim.completion {c : Conn} {r : Ref} (hs : Sim c r) {p p' : List Bytes} {w w' : List (Bytes × Bool)} {k k' : Nat}
    (hp : p = p') (hw : w = w') (hk : c.cc.concurrent = r.running → k = k') :
    Sim { c with pending := p, writes := w, cc := { c.cc with concurrent := k } }
      { r with pending := p', writes := w', running := k' } :=
  ⟨hs.bad, hs.log, hp, hw, hs.closed, fun hcl =>
    ⟨(hs.rest hcl).1.set_concurrent k, hk (hs.rest hcl).2⟩⟩

/-- the frames a segment completes are all non-empty (zero-length frames are not queries: C01) -/
def opNoEmpty (r : Ref) : Op → Bool
  | .seg bs => !bs.isEmpty && (r.closed || (parse (r.rest ++ bs)).1.all (fun f => !f.isEmpty))
  | .rel _ => true

theorem noEmptyRun_cons (dec : Bytes → Bool) (max : Nat) (op : Op) (ops : List Op) (r : Ref) :
    noEmptyRun dec max (op :: ops) r = (opNoEmpty r op && noEmptyRun dec max ops (refStep dec max r op)) := by
  cases op <;> rfl

theorem opNoEmpty_seg (r : Ref) (bs : Bytes) :
    opNoEmpty r (.seg bs) = true ↔
      bs ≠ [] ∧ (r.closed = true ∨ ∀ f ∈ (parse (r.rest ++ bs)).1, f ≠ []) := by
  simp [opNoEmpty]

theorem sim_step (dec : Bytes → Bool) (max : Nat) (c : Conn) (r : Ref) (op : Op)
    (hs : Sim c r) (hne : opNoEmpty r op = true) :
    Sim (step dec max c op) (refStep dec max r op) := by
  cases op with
  | seg bs =>
    rw [step, refStep, ← hs.closed]
    cases hcl : c.closed with
    | true => exact hs
    | false =>
      obtain ⟨hrest, hrun⟩ := hs.rest hcl
      obtain ⟨hseg, hne'⟩ := (opNoEmpty_seg r bs).mp hne
      have g := good_step dec max _ hrest hseg (Nat.lt_succ_self _)
        (hne'.resolve_left (by rw [← hs.closed, hcl]; decide))
      rw [hrun] at g
      rw [if_neg Bool.false_ne_true, if_neg Bool.false_ne_true]
      dsimp only
      generalize onTraffic dec max ((c.inb ++ bs).length + 1) c.cc (c.inb ++ bs) = o at g ⊢
      generalize parse (r.rest ++ bs) = p at g ⊢
      obtain ⟨gev, gact, grest⟩ := g
      refine { bad := ?bad, log := ?log, pending := ?pending, writes := ?writes, closed := ?closed,
               rest := fun h => grest ?allDec }
      case bad =>
        rw [gact, hs.bad]
        cases p.1.all dec <;> rfl
      case log => rw [gev, hs.log]
      case pending => rw [gev, hs.pending]
      case writes => rw [gev, hs.writes]
      case closed =>
        rw [gact]
        cases p.1.all dec <;> rfl
      case allDec =>
        -- `h` says the new state is open; spelled out, that is `o.act = .none`
        have h : (o.act != .none) = false := h
        rw [gact] at h
        cases hall : p.1.all dec with
        | true => rfl
        | false =>
          rw [hall] at h
          exact absurd h (by decide)
  | rel j =>
    rw [step, refStep, ← hs.pending]
    cases hj : c.pending[j]? with
    | none => exact hs
    | some b =>
      exact hs.completion rfl (by rw [hs.writes]) fun h => by rw [h]

/-- ★ refinement: for every sequence of segments and handler completions the mode machine does
    exactly what the reference semantics (stream parser + admission counter) prescribes,
    and it neither panics nor runs out of loop fuel. -/
theorem run_refines (dec : Bytes → Bool) (max : Nat) (ops : List Op) (c : Conn) (r : Ref)
    (hs : Sim c r) (hne : noEmptyRun dec max ops r = true) :
    Sim (runOps dec max ops c) (refRun dec max ops r) := by
  induction ops generalizing c r with
  | nil => exact hs
  | cons op ops ih =>
    rw [noEmptyRun_cons, Bool.and_eq_true] at hne
    exact ih _ _ (sim_step dec max c r op hs hne.1) hne.2

theorem sim_drain {c : Conn} {r : Ref} (hs : Sim c r) : Sim (drain c) (refDrain r) := by
  exact hs.completion rfl (by rw [hs.writes, hs.pending]) fun h => by rw [h, hs.pending]

theorem takeWhile_of_all {α} (p : α → Bool) (xs : List α) (h : xs.all p = true) : xs.takeWhile p = xs := by
  have := List.takeWhile_append_of_pos (l₂ := []) (List.all_eq_true.mp h)
  rwa [List.append_nil, List.takeWhile_nil, List.append_nil] at this

theorem takeWhile_append_notall {α} (p : α → Bool) (xs ys : List α) (h : xs.all p = false) :
    (xs ++ ys).takeWhile p = xs.takeWhile p := by
  induction xs with
  | nil => exact Bool.noConfusion h
  | cons x xs ih =>
    rw [List.all_cons] at h
    rw [List.cons_append, List.takeWhile_cons, List.takeWhile_cons]
    cases hx : p x with
    | false => rfl
    | true => rw [hx, Bool.true_and] at h; rw [ih h]

theorem accepted_append (a b : List Event) : accepted (a ++ b) = accepted a ++ accepted b := by
  simp [accepted]

theorem refusedW_append (a b : List Event) : refusedW (a ++ b) = refusedW a ++ refusedW b := by
  simp [refusedW]

theorem refStep_seg_closed (dec : Bytes → Bool) (max : Nat) {r : Ref} (s : Bytes) (h : r.closed = true) :
    refStep dec max r (.seg s) = r := by
  rw [refStep, if_pos h]

theorem refStep_seg_open (dec : Bytes → Bool) (max : Nat) {r : Ref} (s : Bytes) (h : r.closed = false) :
    refStep dec max r (.seg s) =
      { r with rest := (parse (r.rest ++ s)).2
               running := (admission max r.running ((parse (r.rest ++ s)).1.takeWhile dec)).2
               log := r.log ++ (admission max r.running ((parse (r.rest ++ s)).1.takeWhile dec)).1
               pending := r.pending ++ accepted (admission max r.running ((parse (r.rest ++ s)).1.takeWhile dec)).1
               writes := r.writes ++ refusedW (admission max r.running ((parse (r.rest ++ s)).1.takeWhile dec)).1
               closed := !(parse (r.rest ++ s)).1.all dec } := by
  rw [refStep, if_neg (by rw [h]; decide)]

theorem refRun_segs_closed (dec : Bytes → Bool) (max : Nat) (segs : List Bytes) (r : Ref)
    (h : r.closed = true) : refRun dec max (segs.map Op.seg) r = r := by
  induction segs with
  | nil => rfl
  | cons s segs ih => rw [List.map_cons, refRun, List.foldl_cons, refStep_seg_closed dec max s h]; exact ih

/-- What of a reference state matters afterwards: once it is closed, the leftover and the counter do not.
    `RefAfter` below says the same of a state relative to where it started; as a tuple it is an equation,
    so that the induction over the segments chains by transitivity (`refRun_segs_view`). -/
def Ref.view (r : Ref) : List Event × List Bytes × List (Bytes × Bool) × Bool × Option (Bytes × Nat) :=
  (r.log, r.pending, r.writes, r.closed, if r.closed then none else some (r.rest, r.running))

/-- two segments in a row are as good as their concatenation in one (compositionality of `parse`) -/
theorem refStep_seg_seg (dec : Bytes → Bool) (max : Nat) (r : Ref) (s t : Bytes) (hc : r.closed = false) :
    (refStep dec max (refStep dec max r (.seg s)) (.seg t)).view = (refStep dec max r (.seg (s ++ t))).view := by
  rw [refStep_seg_open dec max (s ++ t) hc, ← List.append_assoc, parse_append]
  cases hall : (parse (r.rest ++ s)).1.all dec with
  | true =>
    have h1 : (refStep dec max r (.seg s)).closed = false := by rw [refStep_seg_open dec max s hc, hall]; rfl
    rw [refStep_seg_open dec max t h1, refStep_seg_open dec max s hc]
    simp only [List.takeWhile_append_of_pos (List.all_eq_true.mp hall), takeWhile_of_all dec _ hall,
      admission_append, accepted_append, refusedW_append, List.all_append, hall, List.append_assoc,
      Bool.true_and]
  | false =>
    have h1 : (refStep dec max r (.seg s)).closed = true := by rw [refStep_seg_open dec max s hc, hall]; rfl
    rw [refStep_seg_closed dec max t h1, refStep_seg_open dec max s hc]
    simp only [Ref.view, takeWhile_append_notall dec _ _ hall, List.all_append, hall, Bool.false_and,
      Bool.not_false, if_true]

theorem refRun_segs_view (dec : Bytes → Bool) (max : Nat) (segs : List Bytes) (r : Ref)
    (hc : r.closed = false) (hi : Incomplete r.rest) :
    (refRun dec max (segs.map Op.seg) r).view = (refStep dec max r (.seg segs.flatten)).view := by
  induction segs generalizing r with
  | nil =>
    rw [refStep_seg_open dec max _ hc, List.flatten_nil, List.append_nil, parse_of_incomplete hi]
    simp [refRun, Ref.view, admission, accepted, refusedW, hc]
  | cons s segs ih =>
    rw [List.flatten_cons, ← refStep_seg_seg dec max r s _ hc]
    show (refRun dec max (segs.map Op.seg) (refStep dec max r (.seg s))).view = _
    cases h1 : (refStep dec max r (.seg s)).closed with
    | true => rw [refRun_segs_closed dec max segs _ h1, refStep_seg_closed dec max _ h1]
    | false =>
      refine ih _ h1 ?_
      rw [refStep_seg_open dec max s hc]
      exact parse_rest_incomplete _

/-- `r'` is what the reference semantics reaches from `r` when the octets `S` arrive (in whatever
    segmentation): the reference parser applied to the leftover followed by `S`. -/
structure RefAfter (dec : Bytes → Bool) (max : Nat) (r r' : Ref) (S : Bytes) : Prop where
  log : r'.log = r.log ++ (admission max r.running ((parse (r.rest ++ S)).1.takeWhile dec)).1
  closed : r'.closed = !(parse (r.rest ++ S)).1.all dec
  pending : r'.pending = r.pending ++ accepted (admission max r.running ((parse (r.rest ++ S)).1.takeWhile dec)).1
  writes : r'.writes = r.writes ++ refusedW (admission max r.running ((parse (r.rest ++ S)).1.takeWhile dec)).1
  rest : (parse (r.rest ++ S)).1.all dec = true →
    r'.rest = (parse (r.rest ++ S)).2 ∧
    r'.running = (admission max r.running ((parse (r.rest ++ S)).1.takeWhile dec)).2

theorem refAfter_of_view (dec : Bytes → Bool) (max : Nat) {r r' : Ref} (S : Bytes) (hc : r.closed = false)
    (h : r'.view = (refStep dec max r (.seg S)).view) : RefAfter dec max r r' S := by
  rw [refStep_seg_open dec max S hc] at h
  simp only [Ref.view, Prod.mk.injEq] at h
  obtain ⟨hlog, hpend, hwr, hcl, hopt⟩ := h
  refine ⟨hlog, hcl, hpend, hwr, fun hall => ?_⟩
  rw [hcl, hall] at hopt
  exact Prod.mk.inj (Option.some.inj hopt)

theorem refAfter_step (dec : Bytes → Bool) (max : Nat) {r : Ref} (S : Bytes) (hc : r.closed = false) :
    RefAfter dec max r (refStep dec max r (.seg S)) S :=
  refAfter_of_view dec max S hc rfl

theorem ref_segs (dec : Bytes → Bool) (max : Nat) (segs : List Bytes) (r : Ref)
    (hc : r.closed = false) (hi : Incomplete r.rest) :
    RefAfter dec max r (refRun dec max (segs.map Op.seg) r) segs.flatten :=
  refAfter_of_view dec max _ hc (refRun_segs_view dec max segs r hc hi)

theorem noEmpty_segs (dec : Bytes → Bool) (max : Nat) (segs : List Bytes) (r : Ref)
    (hs : ∀ s ∈ segs, s ≠ [])
    (hf : r.closed = true ∨ ∀ f ∈ (parse (r.rest ++ segs.flatten)).1, f ≠ []) :
    noEmptyRun dec max (segs.map Op.seg) r = true := by
  induction segs generalizing r with
  | nil => rfl
  | cons s segs ih =>
    have hs' : ∀ t ∈ segs, t ≠ [] := fun t ht => hs t (List.mem_cons_of_mem _ ht)
    rw [List.map_cons, noEmptyRun_cons, Bool.and_eq_true, opNoEmpty_seg]
    cases hc : r.closed with
    | true =>
      rw [refStep_seg_closed dec max s hc]
      exact ⟨⟨hs s (List.mem_cons_self ..), .inl rfl⟩, ih r hs' (.inl hc)⟩
    | false =>
      have hf' := hf.resolve_left (by rw [hc]; decide)
      rw [List.flatten_cons, ← List.append_assoc, parse_append] at hf'
      refine ⟨⟨hs s (List.mem_cons_self ..), .inr fun f hfm => hf' f (List.mem_append_left _ hfm)⟩,
        ih _ hs' (.inr ?_)⟩
      rw [refStep_seg_open dec max s hc]
      exact fun f hfm => hf' f (List.mem_append_right _ hfm)

end MosVerif.Gnet
