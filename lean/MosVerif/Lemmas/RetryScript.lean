/-
  C14 — fault scripts as oracles (`oracleOf`: beyond its end a script reads as `defaultAttempt`) and
  the notions the executable specification of `Model/Retry.lean` is written with: what holds of a
  whole script or of its stale prefix holds of the oracle at the corresponding attempts.
  Rests on `Lemmas/RetryLoop.lean`; used by `Props/C14.lean` (`exchange_of_script`, `model_meets_spec`).
-/
import MosVerif.Lemmas.RetryLoop
namespace MosVerif.Retry

theorem poolLim_le (k : Kind) : k.poolLim ≤ 5 ∧ k.poolLim ≤ k.lim := by
  cases k <;> decide

theorem specView_ne_doh (k : Kind) (hk : k ≠ .doh) (l : List Attempt) : specView k l = l := by
  cases k with
  | doh => exact absurd rfl hk
  | _ => rfl

/-- beyond its end a script reads as `defaultAttempt`: what holds of every attempt of the script and of
    the default holds at every index -/
theorem oracleOf_all (q : Attempt → Bool) (l : List Attempt) (h : l.all q = true) (hd : q defaultAttempt = true)
    (i : Nat) : q (oracleOf l i) = true := by
  rw [oracleOf, List.getD_eq_getElem?_getD]
  cases hi : l[i]? with
  | none => exact hd
  | some a => exact List.all_eq_true.1 h a (List.mem_of_getElem? hi)

theorem oracleOf_takeWhile_all (p q : Attempt → Bool) (l : List Attempt) (h : (l.takeWhile p).all q = true)
    (i : Nat) (hi : i < (l.takeWhile p).length) : q (oracleOf l i) = true := by
  have hpre := List.takeWhile_prefix p (l := l)
  have hil : i < l.length := Nat.lt_of_lt_of_le hi hpre.length_le
  have := List.all_eq_true.1 h _ (List.getElem_mem hi)
  rw [hpre.getElem hi] at this
  simpa [oracleOf, List.getD, hil] using this

theorem oracleOf_takeWhile (p : Attempt → Bool) (l : List Attempt) (i : Nat) (hi : i < (l.takeWhile p).length) :
    p (oracleOf l i) = true :=
  oracleOf_takeWhile_all p p l List.all_takeWhile i hi

theorem oracleOf_takeWhile_length (p : Attempt → Bool) (l : List Attempt) (hd : p defaultAttempt = false) :
    p (oracleOf l (l.takeWhile p).length) = false := by
  induction l with
  | nil => exact hd
  | cons a t ih =>
    by_cases ha : p a = true
    · simpa [oracleOf, List.takeWhile_cons, ha] using ih
    · simp [oracleOf, ha]

theorem plainPrefix_connErr (k : Kind) (l : List Attempt) (h : plainPrefix k l = true) (hk : k = .quic)
    (i : Nat) (hi : i < (l.takeWhile isStale).length) : (oracleOf l i).connErr = false := by
  subst hk
  have h' : ((l.takeWhile isStale).all fun a => !a.connErr) = true := by
    simpa [plainPrefix, List.any_eq_true, List.all_eq_true] using h
  have := oracleOf_takeWhile_all isStale (fun a => !a.connErr) l h' i hi
  simp only [Bool.not_eq_true'] at this
  exact this

theorem dohView_default : dohView defaultAttempt = defaultAttempt := by
  simp [dohView, defaultAttempt, Get.isErr]

theorem oracleOf_map_dohView (l : List Attempt) (i : Nat) :
    oracleOf (l.map dohView) i = dohView (oracleOf l i) := by
  by_cases hi : i < l.length
  · simp [oracleOf, List.getD, hi]
  · simp [oracleOf, List.getD, List.getElem?_eq_none (Nat.le_of_not_lt hi), dohView_default]

theorem optLe {o : Option Nat} {n : Nat} :
    (∀ a, o = some a → a ≤ n) → (match o with | some a => decide (a ≤ n) | none => true) = true := by
  intro h
  cases o with
  | none => rfl
  | some a => simpa using h a rfl

end MosVerif.Retry
