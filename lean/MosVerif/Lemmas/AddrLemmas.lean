/-
  C17 — lemmas about the byte-string primitives and `net.SplitHostPort` on the
  supported address forms.

  The forms are used through what they exclude: `NoDelim` (no bracket, slash or '@'; true of both
  host forms and of ports), `PlainFacts` (also no colon, not empty) and `V6Facts` (two colons).
-/
import MosVerif.Model.Addr
namespace MosVerif.Addr

theorem indexOf_none {c : Char} {s : Str} (h : c ∉ s) : indexOf c s = none := by
  induction s with
  | nil => rfl
  | cons x xs ih =>
    rw [List.mem_cons, not_or] at h
    rw [indexOf, if_neg (Ne.symm h.1), ih h.2]
    rfl

theorem indexOf_append {c : Char} {a : Str} (b : Str) (h : c ∉ a) :
    indexOf c (a ++ c :: b) = some a.length := by
  induction a with
  | nil => exact if_pos rfl
  | cons x xs ih =>
    rw [List.mem_cons, not_or] at h
    rw [List.cons_append, indexOf, if_neg (Ne.symm h.1), ih h.2]
    rfl

theorem indexOf_of_mem {c : Char} {s : Str} (h : c ∈ s) : ∃ k, indexOf c s = some k := by
  induction s with
  | nil => cases h
  | cons x xs ih =>
    rw [indexOf]
    by_cases hx : x = c
    · exact ⟨0, if_pos hx⟩
    · obtain ⟨k, hk⟩ := ih ((List.mem_cons.mp h).resolve_left (Ne.symm hx))
      exact ⟨k + 1, by rw [if_neg hx, hk]; rfl⟩

theorem lastIndexOf_none {c : Char} {s : Str} (h : c ∉ s) : lastIndexOf c s = none := by
  induction s with
  | nil => rfl
  | cons x xs ih =>
    rw [List.mem_cons, not_or] at h
    rw [lastIndexOf, ih h.2]
    exact if_neg (Ne.symm h.1)

theorem lastIndexOf_append {c : Char} (a : Str) {b : Str} (h : c ∉ b) :
    lastIndexOf c (a ++ c :: b) = some a.length := by
  induction a with
  | nil =>
    rw [List.nil_append, lastIndexOf, lastIndexOf_none h]
    exact if_pos rfl
  | cons x xs ih =>
    rw [List.cons_append, lastIndexOf, ih]
    rfl

theorem exists_last_split {c : Char} {s : Str} (h : c ∈ s) :
    ∃ a b, s = a ++ c :: b ∧ c ∉ b := by
  induction s with
  | nil => cases h
  | cons x xs ih =>
    by_cases hm : c ∈ xs
    · obtain ⟨a, b, e, nb⟩ := ih hm
      exact ⟨x :: a, b, by rw [e, List.cons_append], nb⟩
    · obtain rfl : c = x := (List.mem_cons.mp h).resolve_right hm
      exact ⟨[], xs, rfl, hm⟩

theorem lastIndexOf_of_mem {c : Char} {s : Str} (h : c ∈ s) : ∃ k, lastIndexOf c s = some k := by
  obtain ⟨a, b, rfl, nb⟩ := exists_last_split h
  exact ⟨_, lastIndexOf_append a nb⟩

theorem head?_ne_of_not_mem {c : Char} {s : Str} (h : c ∉ s) : s.head? ≠ some c :=
  fun e => h (List.mem_of_head? e)

/-- a string ending in a non-empty part without `c` does not end in `c` -/
theorem getLast?_append_ne {c : Char} (a : Str) {b : Str} (hb : b ≠ []) (h : c ∉ b) :
    (a ++ b).getLast? ≠ some c := by
  intro e
  rw [List.getLast?_append] at e
  cases hl : b.getLast? with
  | none => exact hb (List.getLast?_eq_none_iff.mp hl)
  | some z =>
    rw [hl] at e
    cases e
    exact h (List.mem_of_getLast? hl)

structure NoDelim (s : Str) : Prop where
  lb : '[' ∉ s
  rb : ']' ∉ s
  slash : '/' ∉ s
  at_ : '@' ∉ s

/-- a byte outside the class of all bytes of `s` does not occur in `s` -/
theorem not_mem_of_all {p : Char → Bool} {s : Str} (h : s.all p = true) {c : Char} (hc : p c = false) :
    c ∉ s := fun m => by
  rw [List.all_eq_true.mp h c m] at hc
  cases hc

theorem noDelim_of_all {p : Char → Bool} {s : Str} (h : s.all p = true)
    (hp : p '[' = false ∧ p ']' = false ∧ p '/' = false ∧ p '@' = false) : NoDelim s :=
  ⟨not_mem_of_all h hp.1, not_mem_of_all h hp.2.1, not_mem_of_all h hp.2.2.1, not_mem_of_all h hp.2.2.2⟩

/-- a plain byte is a byte of an IPv6 body other than ':' -/
theorem plainChar_eq (c : Char) : plainChar c = (c != ':' && v6Char c) := by
  simp only [plainChar, v6Char, Bool.and_assoc]

/-- a class of bytes that contains none of the five delimiters consists of plain bytes -/
theorem plainChar_of {p : Char → Bool}
    (hp : p ':' = false ∧ p '[' = false ∧ p ']' = false ∧ p '/' = false ∧ p '@' = false)
    {c : Char} (h : p c = true) : plainChar c = true := by
  simp only [plainChar, Bool.and_eq_true, bne_iff_ne]
  -- were `c` one of the five, `h` would contradict `hp`
  refine ⟨⟨⟨⟨?_, ?_⟩, ?_⟩, ?_⟩, ?_⟩ <;> (rintro rfl; simp [h] at hp)

theorem digit_plain {c : Char} (h : isDigit c = true) : plainChar c = true :=
  plainChar_of (by decide) h

theorem alpha_plain {c : Char} (h : isAlpha c = true) : plainChar c = true :=
  plainChar_of (by decide) h

theorem plain_v6 {c : Char} (h : plainChar c = true) : v6Char c = true := by
  rw [plainChar_eq, Bool.and_eq_true] at h
  exact h.2

theorem all_imp {p q : Char → Bool} {l : Str} (h : ∀ c, p c = true → q c = true)
    (hl : l.all p = true) : l.all q = true := by
  rw [List.all_eq_true] at hl ⊢
  exact fun c hc => h c (hl c hc)

structure PlainFacts (h : Str) : Prop extends NoDelim h where
  ne : h ≠ []
  colon : ':' ∉ h

theorem plainHost_facts {h : Str} (hp : isPlainHost h = true) : PlainFacts h := by
  simp only [isPlainHost, Bool.and_eq_true, Bool.not_eq_true'] at hp
  exact ⟨noDelim_of_all hp.2 (by decide), List.isEmpty_eq_false_iff.mp hp.1, not_mem_of_all hp.2 (by decide)⟩

theorem port_facts {p : Str} (hp : isPort p = true) : PlainFacts p :=
  plainHost_facts hp

structure V6Facts (x : Str) : Prop extends NoDelim x where
  two : 2 ≤ x.count ':'

theorem v6_facts {x : Str} (hx : isV6Body x = true) : V6Facts x := by
  simp only [isV6Body, Bool.and_eq_true, decide_eq_true_eq] at hx
  exact ⟨noDelim_of_all hx.1 (by decide), hx.2⟩

theorem V6Facts.colon {x : Str} (h : V6Facts x) : ':' ∈ x :=
  List.count_pos_iff.mp (Nat.lt_of_lt_of_le Nat.zero_lt_two h.two)

theorem V6Facts.ne {x : Str} (h : V6Facts x) : x ≠ [] :=
  List.ne_nil_of_mem h.colon

/-- no colon at all: "missing port in address" -/
theorem splitHostPort_noColon {s : Str} (h : ':' ∉ s) : splitHostPort s = .error .missingPort := by
  rw [splitHostPort, lastIndexOf_none h]

/-- `host:port` with a bracket-free, colon-free host -/
theorem splitHostPort_plain {h p : Str} (hh : PlainFacts h) (hp : PlainFacts p) :
    splitHostPort (h ++ ':' :: p) = .ok (h, p) := by
  have m1 : '[' ∉ h ++ ':' :: p := by simp [hh.lb, hp.lb]
  have m2 : ']' ∉ h ++ ':' :: p := by simp [hh.rb, hp.rb]
  simp only [splitHostPort, lastIndexOf_append h hp.colon, head?_ne_of_not_mem m1, if_false,
    List.take_left', hh.colon, m1, m2]
  -- the port is what follows `h` and the colon
  simp

/-- a bare (unbracketed) IPv6 literal: "too many colons in address" -/
theorem splitHostPort_v6bare {x : Str} (hx : V6Facts x) :
    splitHostPort x = .error .tooManyColons := by
  obtain ⟨a, b, e, nb⟩ := exists_last_split hx.colon
  have hd : x.head? ≠ some '[' := head?_ne_of_not_mem hx.lb
  have ca : ':' ∈ a := by
    have h2 := hx.two
    rw [e, List.count_append, List.count_cons_self, List.count_eq_zero_of_not_mem nb] at h2
    exact List.count_pos_iff.mp (by omega)
  subst e
  simp only [splitHostPort, lastIndexOf_append a nb, hd, if_false, List.take_left', ca, if_true]

/-- `[x]` without a port: "missing port in address" -/
theorem splitHostPort_v6brackets {x : Str} (hx : V6Facts x) :
    splitHostPort ('[' :: x ++ [']']) = .error .missingPort := by
  obtain ⟨i, hi⟩ := lastIndexOf_of_mem (c := ':') (s := '[' :: x ++ [']']) (by simp [hx.colon])
  have hb := indexOf_append (c := ']') (a := '[' :: x) [] (by simp [hx.rb])
  simp only [List.cons_append] at hi hb
  -- the ']' found is the last byte: nothing follows it, so no port
  simp [splitHostPort, hi, hb]

/-- `[x]:port` -/
theorem splitHostPort_v6port {x p : Str} (hx : V6Facts x) (hp : PlainFacts p) :
    splitHostPort ('[' :: x ++ ']' :: ':' :: p) = .ok (x, p) := by
  have li : lastIndexOf ':' ('[' :: x ++ ']' :: ':' :: p) = some (x.length + 2) := by
    have := lastIndexOf_append ('[' :: x ++ [']']) hp.colon
    simpa using this
  have ii : indexOf ']' ('[' :: x ++ ']' :: ':' :: p) = some (x.length + 1) :=
    indexOf_append (a := '[' :: x) (':' :: p) (by simp [hx.rb])
  have m1 : '[' ∉ x ++ ']' :: ':' :: p := by simp [hx.lb, hp.lb]
  simp only [List.cons_append] at li ii
  -- the last colon stands right after the ']': host `s[1:e]`, port what follows the colon
  simp [splitHostPort, li, ii, m1, hp.rb]

end MosVerif.Addr
