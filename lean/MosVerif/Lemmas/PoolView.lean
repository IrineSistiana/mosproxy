/-
  C20 — what the DoH GET decode of Model/PoolView shows of a pooled buffer: the view `buf[:n]` is the
  decoded octets whatever the previous owner left (`viewFixed_eq`), the whole-buffer view is not.
-/
import MosVerif.Model.PoolView
namespace MosVerif.PoolView

/-- ★ the parsed view is exactly the decoded octets, whatever the buffer held before -/
theorem viewFixed_eq (dirty decoded : Bytes) (h : decoded.length ≤ dirty.length) :
    viewFixed dirty decoded = some decoded := by
  simp [viewFixed, decodeInto, h]

/-- ★ non-interference: two requests that decode to the same octets are parsed alike, whatever two previous
    owners left in the two buffers (of any sizes that fit) -/
theorem viewFixed_independent (d₁ d₂ decoded : Bytes) (h₁ : decoded.length ≤ d₁.length) (h₂ : decoded.length ≤ d₂.length) :
    viewFixed d₁ decoded = viewFixed d₂ decoded := by
  rw [viewFixed_eq d₁ decoded h₁, viewFixed_eq d₂ decoded h₂]

/-- the whole-buffer view is NOT independent of the previous owner as soon as the decoder skipped something
    (`decoded.length < dirty.length`): the tail is the previous owner's data (D60) -/
theorem viewWhole_leaks (decoded tail₁ tail₂ : Bytes) (_hlen : tail₁.length = tail₂.length) (hne : tail₁ ≠ tail₂) :
    viewWhole (decoded ++ tail₁) decoded ≠ viewWhole (decoded ++ tail₂) decoded := by
  simp [viewWhole, decodeInto, hne]

/-- and it shows the previous owner's octets verbatim -/
theorem viewWhole_shows_tail (junk decoded tail : Bytes) (h : junk.length = decoded.length) :
    viewWhole (junk ++ tail) decoded = some (decoded ++ tail) := by
  simp [viewWhole, decodeInto, h]

example : viewWhole [9, 9, 7, 7] [1, 2] = some [1, 2, 7, 7] ∧ viewFixed [9, 9, 7, 7] [1, 2] = some [1, 2] := by decide

end MosVerif.PoolView
