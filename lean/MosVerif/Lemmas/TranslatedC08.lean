/-
  Tie by translation (C08): the cache's time arithmetic, translated mechanically from the current Go source, equals
  the model's (`Model/Ttl.lean`, `Model/RedisCache.lean`): the lifetime switch of `cacheCtl.Store` (`storeTtl`), the
  configured maximum of `initCache` (`initMaxTtl`), `msgRrMinTtl` and `negativeResp`, one iteration of the loops of
  `GetMinimalTTL` and `SubtractTTL`, and the instants handed to the backends.
  `Store_ttl` and `storeTtl` are the same two steps — the `switch` on the rcode, then floor and cap of its result —:
  each is compared with `floorCap (switchTtl …)`.
-/
import MosVerif.Generated.Translated
import MosVerif.Lemmas.TranslatedTactics
import MosVerif.Model.Ttl
import MosVerif.Model.RedisCache
namespace MosVerif.Ttl
open MosVerif

/-- the value of `ttl` after the `switch resp.RCode` -/
def switchTtl (rcode : Int) (hasRr : Bool) (mm : Int) : Int :=
  if rcode = 3 then (if hasRr then min (second * 30) mm else second * 30)
  else if rcode = 2 then (if hasRr then min (second * 1) mm else second * 1)
  else if rcode = 0 then (if hasRr then mm else second * 30)
  else (if hasRr then min (second * 5) mm else second * 5)

/-- `if ttl <= 0 { ttl = time.Second }; if ttl > c.maximumTtl { ttl = c.maximumTtl }` -/
def floorCap (ttl maximumTtl : Int) : Int :=
  if (if ttl ≤ 0 then second else ttl) > maximumTtl then maximumTtl else if ttl ≤ 0 then second else ttl

theorem id_pure_int (x : Int) : (pure x : Id Int) = x := rfl
theorem id_pure_bool (x : Bool) : (pure x : Id Bool) = x := rfl
theorem id_pure_any {α : Type} (x : α) : (pure x : Id α) = x := rfl

theorem Store_ttl_eq (rcode : Int) (hasRr : Bool) (mm maximumTtl : Int) :
    Translated.Store_ttl rcode hasRr mm maximumTtl = floorCap (switchTtl rcode hasRr mm) maximumTtl := by
  unfold Translated.Store_ttl
  -- the `let`s of the `do` block in the order `extract_lets` meets them: `ttl := 0`, the continuation `return ttl`,
  -- `ttl := maximumTtl`, the continuation that caps, `ttl := 1000000000`, the continuation that floors and then caps.
  -- Every branch of the switch ends in a call of this sixth one, which is proved to be `floorCap` once
  -- (a further statement between the switch and the `return` shifts the count)
  extract_lets _ _ _ _ _ tail
  have htail : ∀ x : Int, (tail () x).run = floorCap x maximumTtl := by
    intro x
    simp +zetaDelta only [floorCap, second, Id.run, pure, decide_eq_true_eq]
    (repeat' split) <;> omega
  simp only [apply_ite Id.run, htail, ← apply_ite (floorCap · maximumTtl)]
  congr 1
  simp +zetaDelta only [switchTtl, second, decide_eq_true_eq] <;> (repeat' split) <;> omega

theorem storeTtl_switch (m : Msg) (maximumTtl : Int) :
    storeTtl m maximumTtl =
      floorCap (switchTtl (m.rcode : Int) (getMinimalTTL m).2 (durOfSeconds (getMinimalTTL m).1)) maximumTtl := by
  unfold storeTtl switchTtl floorCap
  rcases m.rcode with _ | _ | _ | _ | n
  · rfl
  · rfl
  · rfl
  · rfl
  · have h3 : ((n + 1 + 1 + 1 + 1 : Nat) : Int) ≠ 3 := by omega
    have h2 : ((n + 1 + 1 + 1 + 1 : Nat) : Int) ≠ 2 := by omega
    have h0 : ((n + 1 + 1 + 1 + 1 : Nat) : Int) ≠ 0 := by omega
    simp only [h3, h2, h0, ↓reduceIte]

/-- ★ tie: the model's lifetime policy IS the translated Go code, for every message and every cap -/
theorem Store_ttl_translated (m : Msg) (maximumTtl : Int) :
    storeTtl m maximumTtl =
      Translated.Store_ttl (m.rcode : Int) (getMinimalTTL m).2 (durOfSeconds (getMinimalTTL m).1) maximumTtl := by
  rw [Store_ttl_eq, storeTtl_switch]

/-! ### initCache: the configured maximum (multiplication, default, ten-year limit) -/

/-- ★ tie: `initMaxTtl` IS the translated statements `c.maximumTtl = time.Duration(cfg.MaximumTTL) * time.Second` …
    `if c.maximumTtl > maxCacheTtlLimit {…}` of `router.initCache`, whatever `c.maximumTtl` held before. The
    translation multiplies in ℤ; Go multiplies in int64, which the model writes as `wrap64`: the range hypothesis
    (seconds·10⁹ fits int64) is exactly where the two could part. -/
theorem c08_initMaxTtl_translated (old cfgMax : Int)
    (h1 : -9223372036854775808 ≤ cfgMax * second) (h2 : cfgMax * second < 9223372036854775808) :
    initMaxTtl cfgMax = Translated.c08_initMaxTtl old cfgMax := by
  unfold initMaxTtl Translated.c08_initMaxTtl
  rw [show wrap64 (cfgMax * second) = cfgMax * second from by
    unfold wrap64; rw [Int.emod_eq_of_lt (by omega) (by omega)]; omega]
  simp only [Id.run, id_pure_int, decide_eq_true_eq, defaultMaxCacheTtl, maxCacheTtlLimit, second]
  (repeat' split) <;> omega

/-- for a positive configured maximum the default branch is not taken -/
theorem c08_initMaxTtl_pos (old M : Int) (h0 : 0 < M) :
    Translated.c08_initMaxTtl old M = min (M * 1000000000) 315360000000000000 := by
  unfold Translated.c08_initMaxTtl
  tr_val

/-- non-vacuity and the other side: outside the range the int64 product wraps (D41/D42's family) and the model
    follows Go, not ℤ -/
example : initMaxTtl 9223372037 ≠ Translated.c08_initMaxTtl 0 9223372037 := by decide
example : initMaxTtl 7 = Translated.c08_initMaxTtl 12345 7 := by decide

/-! ### cacheCtl.Store: `msgRrMinTtl := time.Duration(u) * time.Second`, `negativeResp := …` -/

/-- ★ tie: the duration of the smallest record TTL. `u` is a uint32, so the int64 product cannot wrap: no range
    hypothesis is needed beyond the type. -/
theorem c08_minDur_translated (u : UInt32) : durOfSeconds u = Translated.c08_minDur (u.toNat : Int) := by
  have h := u.toNat_lt
  unfold durOfSeconds wrap64 second Translated.c08_minDur
  simp only [Id.run, id_pure_int]
  omega

/-- ★ tie: which responses are stored set-if-absent -/
theorem c08_negativeResp_translated (rcode : Nat) : negativeResp rcode = Translated.c08_negativeResp rcode := by
  unfold negativeResp Translated.c08_negativeResp
  simp only [Id.run, id_pure_bool]
  by_cases h : rcode = 0 <;> simp [h]

/-- ★ tie: AsyncStore drops a SET whose relative ttl is `ttlMs <= 10` -/
theorem c08_redisTtlTooShort_translated (ttlMs : Int) :
    RedisCache.redisTtlTooShort ttlMs = Translated.c08_redisTtlTooShort ttlMs := by
  unfold RedisCache.redisTtlTooShort Translated.c08_redisTtlTooShort
  bool_arith

/-! ### internal/dnsutils/msg_ttl.go: one iteration of each loop (uint32 arithmetic) -/

/-- ★ tie: the body of GetMinimalTTL's inner loop (`if hdr.Type == TypeOPT { continue }; hasRecord = true;
    if ttl := hdr.TTL; ttl < minTTL { minTTL = ttl }`) as a function of (minTTL, hasRecord) IS `minStep`, on both
    variables, for every record and every uint32 accumulator. -/
theorem c08_minStep_translated (acc : UInt32 × Bool) (rr : RR) :
    (minStep acc rr).1.toNat = Translated.c08_minStep_min rr.typ rr.ttl.toNat acc.1.toNat acc.2 ∧
    (minStep acc rr).2 = Translated.c08_minStep_has rr.typ rr.ttl.toNat acc.1.toNat acc.2 := by
  unfold minStep Translated.c08_minStep_min Translated.c08_minStep_has
  simp only [Id.run, id_pure_any, typeOPT, UInt32.lt_iff_toNat_lt]
  by_cases h : rr.typ = 41
  · simp [h]
  · by_cases h2 : rr.ttl.toNat < acc.1.toNat <;> simp [h, h2] <;> omega

/-- ★ tie: the body of SubtractTTL's inner loop IS `subRR`. The model subtracts in `UInt32` (wraps exactly as Go's
    `hdr.TTL -= delta`), the translation in ℕ (truncated): they agree for ALL uint32 values because the subtraction
    is guarded by `hdr.TTL > delta` — drop or weaken the guard in the source and this theorem fails (D41/D42's family:
    a wrapped TTL). The type `UInt32` is the range hypothesis. -/
theorem c08_subRR_translated (d : UInt32) (rr : RR) :
    (subRR d rr).ttl.toNat = Translated.c08_subRR_ttl rr.typ rr.ttl.toNat d.toNat ∧ (subRR d rr).typ = rr.typ := by
  unfold subRR Translated.c08_subRR_ttl
  simp only [Id.run, id_pure_any, typeOPT, GT.gt, UInt32.lt_iff_toNat_lt]
  by_cases h : rr.typ = 41
  · simp [h]
  · by_cases h2 : d.toNat < rr.ttl.toNat
    · have : d ≤ rr.ttl := by rw [UInt32.le_iff_toNat_le]; omega
      simp [h, h2, UInt32.toNat_sub_of_le _ _ this] <;> omega
    · simp [h, h2] <;> omega

/-! ### instants: `expireTime := now.Add(ttl)`, `time.Until(expireTime)`, AsyncStore's `ttlMs`

  Translated with the translator's arithmetic reading of time.Time / time.Duration (spec option `time`): instants
  and durations are integer nanoseconds, ℤ arithmetic. Go's Until/Sub saturate and Add wraps at ±2⁶³ ns (≈ 292
  years); lifetimes are at most ten years (`C08.lifetime_le_ten_years`), far inside. -/

/-- ★ tie: the expire time handed to the backends -/
theorem c08_expireAt_translated (now ttl : Int) : expireAt now ttl = Translated.c08_expireAt now ttl := by
  unfold expireAt Translated.c08_expireAt
  tr_val

/-- ★ tie: MemoryCache.Store's relative ttl `time.Until(expireTime)` -/
theorem c08_memUntil_translated (expire now : Int) : timeUntil expire now = Translated.c08_memUntil expire now := by
  unfold timeUntil Translated.c08_memUntil
  tr_val

/-- ★ tie: AsyncStore's `ttlMs := time.Until(expireTime).Milliseconds()` (division truncating toward zero) -/
theorem c08_redisTtlMs_translated (expire now : Int) :
    RedisCache.redisTtlMs expire now = Translated.c08_redisTtlMs expire now := by
  unfold RedisCache.redisTtlMs timeUntil Translated.c08_redisTtlMs
  simp only [Id.run, id_pure_any]

end MosVerif.Ttl
