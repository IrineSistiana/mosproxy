/-
  C13 — every decoded query gets exactly one response (for every interleaving of segments and
  handler completions), and the model's observables are the reference ones.
-/
import MosVerif.Lemmas.GnetRun
namespace MosVerif.Gnet

/-- a decoded query together with the kind of response it is due -/
def Event.tag (e : Event) : Bytes × Bool := (e.body, e.isRefused)

theorem perm_cons_eraseIdx {α} (l : List α) (j : Nat) (b : α) (h : l[j]? = some b) :
    (b :: l.eraseIdx j).Perm l := by
  induction l generalizing j with
  | nil => exact nomatch h
  | cons x xs ih =>
    cases j with
    | zero =>
      obtain rfl : x = b := Option.some.inj h
      exact .refl _
    | succ j => exact (List.Perm.swap x b _).trans ((ih j h).cons x)

theorem refusedW_map_tag (evs : List Event) : refusedW evs = (evs.filter Event.isRefused).map Event.tag :=
  List.map_congr_left fun e he => by rw [Event.tag, (List.mem_filter.mp he).2]

theorem accepted_map_tag (evs : List Event) :
    (accepted evs).map (fun b => (b, false)) = (evs.filter (fun e => !e.isRefused)).map Event.tag := by
  rw [accepted, List.map_map]
  refine List.map_congr_left fun e he => ?_
  have : e.isRefused = false := by simpa using (List.mem_filter.mp he).2
  rw [Event.tag, this]
  rfl

theorem split_perm (evs : List Event) :
    (refusedW evs ++ (accepted evs).map (fun b => (b, false))).Perm (evs.map Event.tag) := by
  rw [refusedW_map_tag, accepted_map_tag, ← List.map_append]
  exact (List.filter_append_perm Event.isRefused evs).map _

/-- invariant: the responses written so far plus the handlers still running account for exactly the
    decoded queries, each with the kind of response it is due -/
def Accounted (c : Conn) : Prop :=
  (c.writes ++ c.pending.map (fun b => (b, false))).Perm (c.log.map Event.tag)

theorem accounted_step (dec : Bytes → Bool) (max : Nat) (c : Conn) (op : Op) (h : Accounted c) :
    Accounted (step dec max c op) := by
  cases op with
  | seg bs =>
    rw [step]
    split
    · exact h
    · -- the new events go to the writes (REFUSED) or to the pending list
      rw [Accounted]
      dsimp only
      generalize onTraffic dec max ((c.inb ++ bs).length + 1) c.cc (c.inb ++ bs) = o
      rw [List.map_append, List.map_append, List.append_assoc]
      refine ((List.perm_append_comm_assoc _ _ _).append_left _).trans ?_
      rw [← List.append_assoc]
      exact h.append (split_perm o.evs)
  | rel j =>
    rw [step]
    cases hj : c.pending[j]? with
    | none => exact h
    | some b =>
      rw [Accounted]
      dsimp only
      rw [List.append_assoc]
      exact (((perm_cons_eraseIdx c.pending j b hj).map _).append_left _).trans h

theorem accounted_run (dec : Bytes → Bool) (max : Nat) (ops : List Op) (c : Conn) (h : Accounted c) :
    Accounted (runOps dec max ops c) := by
  induction ops generalizing c with
  | nil => exact h
  | cons op ops ih => exact ih _ (accounted_step dec max c op h)

theorem obs_of_sim {c : Conn} {r : Ref} (h : Sim c r) :
    obsOf c.log c.writes c.closed = obsOf r.log r.writes r.closed := by
  rw [h.log, h.writes, h.closed]

end MosVerif.Gnet
