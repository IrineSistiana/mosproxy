/-
  C05 — the script-level model that `mvmodel` runs against the implementation's logs
  (`runOp`, `runOps` of Model/Pipeline.lean) only ever performs steps of the step semantics:
  every state it goes through is `exec` of some step list, so all the theorems about
  arbitrary step sequences apply to it.  At the end: the state a script starts from, after its `pre`
  prefix of exchanges, satisfies `Inv` (`scriptInit_inv`).
-/
import MosVerif.Lemmas.PipelineDeliver
namespace MosVerif.Pipeline

theorem exec_append (cfg : Cfg) (s : State) (a b : List Step) :
    exec cfg s (a ++ b) = exec cfg (exec cfg s a) b := by
  induction a generalizing s with
  | nil => rfl
  | cons x t ih => exact ih (step cfg s x)

def Reach (cfg : Cfg) (s s' : State) : Prop := ∃ steps, s' = exec cfg s steps

theorem Reach.refl (cfg : Cfg) (s : State) : Reach cfg s s := ⟨[], rfl⟩
theorem Reach.one (cfg : Cfg) (s : State) (st : Step) : Reach cfg s (step cfg s st) := ⟨[st], rfl⟩
theorem Reach.trans {cfg : Cfg} {a b c : State} (h1 : Reach cfg a b) (h2 : Reach cfg b c) : Reach cfg a c := by
  obtain ⟨l1, e1⟩ := h1
  obtain ⟨l2, e2⟩ := h2
  exact ⟨l1 ++ l2, by rw [exec_append, ← e1, e2]⟩
theorem Reach.then_step {cfg : Cfg} {a b : State} (h : Reach cfg a b) (st : Step) : Reach cfg a (step cfg b st) :=
  h.trans (Reach.one cfg b st)

theorem foldl_reach {cfg : Cfg} {α σ : Type} (π : σ → State) (f : σ → α → σ)
    (hf : ∀ acc x, Reach cfg (π acc) (π (f acc x))) (l : List α) (init : σ) :
    Reach cfg (π init) (π (l.foldl f init)) := by
  induction l generalizing init with
  | nil => exact Reach.refl _ _
  | cons x t ih => exact (hf init x).trans (ih (f init x))

theorem regStart_reach (cfg : Cfg) (r : RunSt) (known : List Nat) (e c : Nat) :
    Reach cfg r.s (regStart cfg r known e c).s := by
  unfold regStart
  dsimp only
  split
  · exact (Reach.one _ _ _).then_step _
  · exact Reach.one _ _ _

theorem stallStart_s (r : RunSt) (e : Nat) : (stallStart r e).1.s = r.s := by
  unfold stallStart
  split
  · split
    · rfl
    · rfl
  · rfl

theorem writeStart_reach (cfg : Cfg) (r : RunSt) (e : Nat) : Reach cfg r.s (writeStart cfg r e).1.s := by
  unfold writeStart
  dsimp only
  -- whether or not `e` ends up waiting, the state is that after `.write e true false`
  split
  · dsimp only
    exact Reach.one cfg r.s (.write e true false)
  · dsimp only
    exact Reach.one cfg r.s (.write e true false)

theorem doStart_reach (cfg : Cfg) (r : RunSt) (known : List Nat) (e c : Nat) :
    Reach cfg r.s (doStart cfg r known e c).1.s := by
  unfold doStart
  dsimp only
  split
  · rw [stallStart_s]; exact regStart_reach cfg r known e c
  · exact (regStart_reach cfg r known e c).trans (writeStart_reach cfg _ e)

theorem drain_reach (cfg : Cfg) (r : RunSt) (known : List Nat) : Reach cfg r.s (drain cfg r known).1.s := by
  unfold drain
  apply foldl_reach (fun a : RunSt × List Tok => a.1.s)
  intro acc e
  obtain ⟨r', toks⟩ := acc
  dsimp only
  split
  · split
    · dsimp only; exact (Reach.one _ _ _).then_step _
    · exact Reach.refl _ _
  · exact Reach.refl _ _

theorem inject_reach (cfg : Cfg) (r : RunSt) (known : List Nat) (c id p : Nat) :
    Reach cfg r.s (inject cfg r known c id p).1.s := by
  unfold inject
  split
  · exact (Reach.one cfg r.s (.srvReply c id p)).trans (drain_reach cfg _ _)
  · exact Reach.refl _ _

theorem startGroup_reach (cfg : Cfg) (r : RunSt) (known es : List Nat) (g : List Tok) :
    Reach cfg r.s (startGroup cfg r known es g).1.s := by
  unfold startGroup
  dsimp only
  refine Reach.trans ?_ (foldl_reach (fun a : RunSt × List Tok => a.1.s) _ ?_ _ _)
  · exact foldl_reach (fun a : RunSt × List Tok => a.1.s) _ (fun acc x => by obtain ⟨r', t⟩ := acc; exact doStart_reach cfg r' known _ _) _ _
  · intro acc e
    obtain ⟨r', t⟩ := acc
    exact doStart_reach cfg r' known _ _

theorem holdGroup_reach (cfg : Cfg) (r : RunSt) (known es : List Nat) (g : List Tok) :
    Reach cfg r.s (holdGroup cfg r known es g).1.s := by
  unfold holdGroup
  dsimp only
  refine Reach.trans (startGroup_reach cfg r known _ g) (foldl_reach (fun a : RunSt × List Tok => a.1.s) _ ?_ _ _)
  intro acc e
  obtain ⟨r', t⟩ := acc
  dsimp only
  split
  · -- end of life: `.addQ` registered nothing and `e` gives up
    dsimp only
    exact (Reach.one _ _ (.addQ e _)).then_step (.giveUp e)
  · -- `.addQ`, then `.write`, whether or not `e` ends up waiting
    split
    · dsimp only
      exact (Reach.one _ _ (.addQ e _)).then_step (.write e true false)
    · dsimp only
      exact (Reach.one _ _ (.addQ e _)).then_step (.write e true false)

theorem killVictims_reach (cfg : Cfg) (r : RunSt) (vs : List Nat) : Reach cfg r.s (killVictims cfg r vs).s := by
  unfold killVictims
  exact foldl_reach RunSt.s _ (fun acc e => by dsimp only; exact ((Reach.one _ _ _).then_step _).then_step _) _ _

theorem giveUpAll_reach (cfg : Cfg) (r : RunSt) (vs : List Nat) : Reach cfg r.s (giveUpAll cfg r vs).s := by
  unfold giveUpAll
  exact foldl_reach RunSt.s _ (fun acc e => by dsimp only; exact Reach.one _ _ _) _ _

theorem settle_reach (cfg : Cfg) (r : RunSt) (known victims : List Nat) (g : List Tok) :
    Reach cfg r.s (settle cfg r known victims g).1.s := by
  unfold settle
  dsimp only
  refine Reach.trans ?_ (startGroup_reach cfg _ _ _ _)
  dsimp only
  exact giveUpAll_reach cfg _ _

theorem killConn_reach (cfg : Cfg) (r : RunSt) (known : List Nat) (c : Nat) (g : List Tok) :
    Reach cfg r.s (killConn cfg r known c g).1.s := by
  unfold killConn
  dsimp only
  refine Reach.trans ?_ (settle_reach cfg _ _ _ _)
  dsimp only
  refine Reach.trans ?_ (killVictims_reach cfg _ _)
  exact Reach.one cfg r.s (.close c)

theorem openGate_reach (cfg : Cfg) (r : RunSt) (known : List Nat) : Reach cfg r.s (openGate cfg r known).1.s := by
  unfold openGate
  dsimp only
  refine Reach.trans ?_ (drain_reach cfg _ known)
  refine Reach.trans ?_ (foldl_reach (fun a : RunSt × List Tok => a.1.s) _ ?_ _ _)
  · exact Reach.refl _ _
  · -- each stalled or pending write completes: `.write e true false`, whether or not `e` ends up waiting
    intro acc e
    split
    · dsimp only
      exact Reach.one _ _ (.write e true false)
    · dsimp only
      exact Reach.one _ _ (.write e true false)

theorem failGate_reach (cfg : Cfg) (r : RunSt) (known : List Nat) (k : Nat) (g : List Tok) :
    Reach cfg r.s (failGate cfg r known k g).1.s := by
  unfold failGate
  split
  · exact Reach.refl _ _
  · split
    · dsimp only
      refine Reach.trans ?_ (settle_reach cfg _ _ _ _)
      exact killVictims_reach cfg { r with gated := false, held := [] } _
    · refine Reach.trans ?_ (foldl_reach (fun a : RunSt × List Tok => a.1.s) _ ?_ _ _)
      · exact Reach.refl _ _
      · intro acc c
        exact killConn_reach cfg acc.1 known c g

theorem runOp_reach (cfg : Cfg) (r : RunSt) (known : List Nat) (op : Op) (g : List Tok) :
    Reach cfg r.s (runOp cfg r known op g).1.s := by
  unfold runOp
  cases op with
  | start e cid => exact startGroup_reach _ _ _ _ _
  | burst es => exact startGroup_reach _ _ _ _ _
  | hold es => exact holdGroup_reach _ _ _ _ _
  | reply e p =>
    dsimp only
    split
    · exact Reach.refl _ _
    · split
      · exact inject_reach _ _ _ _ _ _
      · exact Reach.refl _ _
  | raw c id p => exact inject_reach _ _ _ _ _ _
  | cancel e =>
    dsimp only
    split
    · dsimp only; exact ((Reach.one _ _ _).then_step _).then_step _
    · split
      · exact Reach.refl _ _
      · dsimp only; exact ((Reach.one _ _ _).then_step _).then_step _
    · exact Reach.refl _ _
  | kill c =>
    dsimp only
    split
    · refine Reach.trans ?_ (openGate_reach cfg _ known)
      exact killConn_reach cfg { r with gated := false } known c g
    · exact Reach.refl _ _
  | idle c =>
    dsimp only
    split
    · refine Reach.trans ?_ (openGate_reach cfg _ known)
      exact killConn_reach cfg { r with gated := false } known c g
    · exact Reach.refl _ _
  | frame c id p inner => exact inject_reach _ _ _ _ _ _
  | fhead c id p inner =>
    -- nothing is dispatched before the frame is complete
    dsimp only
    split
    · exact Reach.refl _ _
    · exact Reach.refl _ _
  | ftail c =>
    dsimp only
    split
    · exact inject_reach cfg _ known _ _ _
    · exact Reach.refl _ _
  | gate => exact Reach.refl _ _
  | ungate =>
    dsimp only
    split
    · exact openGate_reach _ _ _
    · exact Reach.refl _ _
  | fail k => exact failGate_reach _ _ _ _ _

/-- every state the script-level model goes through … -/
def runStates (cfg : Cfg) (known : List Nat) : RunSt → List Op → List (List Tok) → List State
  | r, [], _ => [r.s]
  | r, op :: ops, gs => r.s :: runStates cfg known (runOp cfg r known op (gs.headD [])).1 ops gs.tail

/-- … is reached from the initial one by steps of the model, whatever the log `gs` (the oracle) says. -/
theorem runStates_reach (cfg : Cfg) (known : List Nat) (r : RunSt) (ops : List Op) (gs : List (List Tok)) :
    ∀ s ∈ runStates cfg known r ops gs, Reach cfg r.s s := by
  induction ops generalizing r gs with
  | nil => intro s hs; simp [runStates] at hs; subst hs; exact Reach.refl _ _
  | cons op rest ih =>
    intro s hs
    simp only [runStates, List.mem_cons] at hs
    rcases hs with hs | hs
    · subst hs; exact Reach.refl _ _
    · exact (runOp_reach cfg r known op _).trans (ih _ _ s hs)

/-! ### the prefix -/

theorem preStep_ok (cs : List Conn) (cur : Conn) (h1 : ∀ c ∈ cs, c.nextQid ≤ 65536 ∧ c.queue = [])
    (h2 : cur.nextQid ≤ 65536 ∧ cur.queue = []) : ∀ c ∈ preStep cs cur, c.nextQid ≤ 65536 ∧ c.queue = [] := by
  have add : ∀ x : Conn, x.nextQid ≤ 65536 ∧ x.queue = [] → ∀ c ∈ cs ++ [x], c.nextQid ≤ 65536 ∧ c.queue = [] :=
    fun x hx c hc => (List.mem_append.mp hc).elim (h1 c) fun h => List.mem_singleton.mp h ▸ hx
  unfold preStep
  cases hadd : cur.addQueueC 0 with
  | mk c' o =>
    cases o with
    | none =>
      obtain ⟨a2, a3, _⟩ := addQueueC_none hadd
      exact add c' ⟨a2 ▸ h2.1, a3 ▸ h2.2⟩
    | some q =>
      obtain ⟨a1, _, a3, a4, _⟩ := addQueueC_some hadd
      exact add _ ⟨by rw [deleteQueueC_nextQid, a3]; omega, by simp [deleteQueueC_queue, a4, h2.2, qput, qdel]⟩

/-- the connections left by the prefix have no waiter and a counter within bounds -/
theorem preRun_ok (n : Nat) (cs : List Conn) (h : ∀ c ∈ cs, c.nextQid ≤ 65536 ∧ c.queue = []) :
    ∀ c ∈ preRun n cs, c.nextQid ≤ 65536 ∧ c.queue = [] := by
  have fresh : (({} : Conn).reserve).nextQid ≤ 65536 ∧ (({} : Conn).reserve).queue = [] := by
    simp [reserve_nextQid, reserve_queue]
  induction n generalizing cs with
  | zero => exact h
  | succ n ih =>
    unfold preRun
    split
    · rename_i c0 hl
      have hc0 : c0 ∈ cs := List.mem_of_getLast? hl
      split
      · exact ih _ (preStep_ok _ _ (fun c hc => h c (List.dropLast_subset cs hc)) (h c0 hc0))
      · exact ih _ (preStep_ok _ _ h fresh)
    · exact ih _ (preStep_ok _ _ h fresh)

theorem scriptInit_inv (cids : List (Nat × Nat)) (pre : Nat) :
    Inv (scriptCfg cids (preRun pre [])) (scriptInit (preRun pre [])) ∧
    GInv (scriptCfg cids (preRun pre [])) (scriptInit (preRun pre [])) := by
  have hp := preRun_ok pre [] (by simp)
  have hc : ∀ c, ((preRun pre []).getD c {}).nextQid ≤ 65536 ∧ ((preRun pre []).getD c {}).queue = [] := by
    intro c
    by_cases hlt : c < (preRun pre []).length
    · have : (preRun pre []).getD c {} = (preRun pre [])[c] := by simp [List.getD, hlt]
      rw [this]; exact hp _ (List.getElem_mem hlt)
    · have : (preRun pre []).getD c {} = {} := by
        have hge : (preRun pre []).length ≤ c := Nat.le_of_not_lt hlt
        simp [List.getD, hge]
      rw [this]; exact ⟨by decide, rfl⟩
  constructor
  · exact inv_clean _ _ rfl (fun _ => rfl) (fun c => (hc c).2) (fun c => (hc c).1) (fun c => Nat.le_refl _)
  · exact ginv_clean _ _ rfl rfl (fun _ => rfl) (fun _ => rfl)

end MosVerif.Pipeline
