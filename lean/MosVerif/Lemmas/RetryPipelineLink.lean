/-
  C14 — link to C05's interleaving model of the pipelined connection (`Model/Pipeline.lean`):
  in that model too a closed connection stays closed, and `closeWithErr` or an aborting failed write
  closes it. (That the closed connection wakes every exchange waiting on it is
  `C14.dead_conn_wakes_all_interleaved`, which rests on these.)
-/
import MosVerif.Lemmas.PipelineBasic
namespace MosVerif.Retry
open MosVerif

theorem pl_move_closed {cfg : Pipeline.Cfg} {s s' : Pipeline.State} (m : Pipeline.Move cfg s s') {c : Nat}
    (h : (s.conns c).closed = true) : (s'.conns c).closed = true := by
  cases m with
  | conn conns hn hq hc => exact hc c h
  | register e c' k q hpc hk =>
    show (Pipeline.upd s.conns c' k c).closed = true
    by_cases hcc : c = c'
    · rw [hcc, Pipeline.upd_same, (Pipeline.addQueueC_some hk).2.2.2.2]; exact hcc ▸ h
    · rwa [Pipeline.upd_other _ _ _ _ hcc]
  | _ => exact h

/-- in C05's model a closed connection stays closed, whatever any exchange, read loop or server does -/
theorem pl_exec_closed_mono (cfg : Pipeline.Cfg) (s : Pipeline.State) (l : List Pipeline.Step) (c : Nat)
    (h : (s.conns c).closed = true) : ((Pipeline.exec cfg s l).conns c).closed = true :=
  Pipeline.exec_preserves (P := fun t => (t.conns c).closed = true) (fun h m => pl_move_closed m h) h l

theorem pl_close_closes (cfg : Pipeline.Cfg) (s : Pipeline.State) (c : Nat) :
    ((Pipeline.step cfg s (.close c)).conns c).closed = true := by
  simp [Pipeline.step, Pipeline.upd]

/-- a failed write that aborts the connection (`closes = true`) closes it as well -/
theorem pl_write_fail_closes (cfg : Pipeline.Cfg) (s : Pipeline.State) (e c q ch : Nat)
    (h : s.pcs e = .registered c q ch) :
    ((Pipeline.step cfg s (.write e false true)).conns c).closed = true := by
  simp [Pipeline.step, h, Pipeline.upd]

end MosVerif.Retry
