/-
  C15: the model and the executable specification read a configuration and an address alike
  (defaults; key = client subnet), and clause 2 of the specification: nobody is refused while his
  own subnet is within budget.  Rests on `LimiterTable`.  (Clause 1 is in `LimiterClock`.)
-/
import MosVerif.Lemmas.LimiterTable
namespace MosVerif.Limiter

theorem Opts.ite_eq (p : Prop) [Decidable p] (a b : Opts) : (if p then a else b) =
    ⟨if p then a.limit else b.limit, if p then a.burst else b.burst,
     if p then a.v4Mask else b.v4Mask, if p then a.v6Mask else b.v6Mask⟩ := by
  split <;> rfl

theorem setDefault_eq (c : Opts) : c.setDefault =
    ⟨if c.limit ≤ 0 then 20 else c.limit,
     if c.burst ≤ 0 then (if c.limit ≤ 0 then 20 else c.limit) else c.burst,
     if c.v4Mask ≤ 0 ∨ c.v4Mask > 32 then 24 else c.v4Mask,
     if c.v6Mask ≤ 0 ∨ c.v6Mask > 128 then 48 else c.v6Mask⟩ := by
  simp only [Opts.setDefault, Opts.ite_eq, ite_self]
  rfl

theorem setDefault_limit (c : Opts) : (c.setDefault).limit = if c.limit ≤ 0 then 20 else c.limit := by
  rw [setDefault_eq]

theorem setDefault_burst (c : Opts) :
    (c.setDefault).burst = if c.burst ≤ 0 then (if c.limit ≤ 0 then 20 else c.limit) else c.burst := by
  rw [setDefault_eq]

theorem setDefault_v4 (c : Opts) :
    (c.setDefault).v4Mask = if c.v4Mask ≤ 0 ∨ c.v4Mask > 32 then 24 else c.v4Mask := by
  rw [setDefault_eq]

theorem setDefault_v6 (c : Opts) :
    (c.setDefault).v6Mask = if c.v6Mask ≤ 0 ∨ c.v6Mask > 128 then 48 else c.v6Mask := by
  rw [setDefault_eq]

theorem specLimit_pos (c : Opts) : 0 < specLimit c := by
  unfold specLimit; split <;> omega

theorem limit_of_opts (c : Opts) (cl : ClientLimiter) (h : cl.opts = c.setDefault) : cl.limit = specLimit c := by
  rw [ClientLimiter.limit, h, setDefault_limit, specLimit]
  split <;> split <;> omega

theorem burst_of_opts (c : Opts) (cl : ClientLimiter) (h : cl.opts = c.setDefault) : cl.burst = specBurst c := by
  rw [ClientLimiter.burst, h, setDefault_burst, specBurst, specLimit]
  repeat' split
  all_goals omega

/-- `saneBurst` in the limiter's own terms -/
theorem sane_of_opts (c : Opts) (cl : ClientLimiter) (h : cl.opts = c.setDefault) (hs : saneBurst c = true) :
    cl.burst * nano ≤ cl.limit * maxDuration := by
  rw [limit_of_opts c cl h, burst_of_opts c cl h]
  exact of_decide_eq_true hs

theorem specBits4_range (c : Opts) : 1 ≤ specBits4 c ∧ specBits4 c ≤ 32 := by
  unfold specBits4; split <;> omega

theorem specBits6_range (c : Opts) : 1 ≤ specBits6 c ∧ specBits6 c ≤ 128 := by
  unfold specBits6; split <;> omega

theorem setDefault_v4_spec (c : Opts) : (c.setDefault).v4Mask = (specBits4 c : Int) := by
  rw [setDefault_v4, specBits4]
  split <;> split <;> omega

theorem setDefault_v6_spec (c : Opts) : (c.setDefault).v6Mask = (specBits6 c : Int) := by
  rw [setDefault_v6, specBits6]
  split <;> split <;> omega

theorem mask_v4 (c : Opts) (a : Nat) : mask c.setDefault (.v4 a) = .v4 (maskBits 32 (specBits4 c) a) := by
  have := specBits4_range c
  simp only [mask, Addr.unmap, prefixMaskedAddr, setDefault_v4_spec]
  rw [if_pos (by omega)]
  rfl

/-- the key of an address in terms of the specification's reading of the address -/
def specKey (c : Opts) (x : Addr) : Addr :=
  match specClient x with
  | none => .zero
  | some (true, a) => .v4 (maskBits 32 (specBits4 c) a)
  | some (false, a) => .v6 (maskBits 128 (specBits6 c) a) ""

theorem mask_eq_specKey (c : Opts) (x : Addr) : mask c.setDefault x = specKey c x := by
  cases x with
  | zero => rfl
  | v4 a => exact mask_v4 c a
  | v6 a z =>
    by_cases h : a / 2 ^ 32 = 0xffff
    · have hu : (Addr.v6 a z).unmap = .v4 (a % 2 ^ 32) := if_pos h
      have hs : specClient (.v6 a z) = some (true, a % 2 ^ 32) := if_pos h
      rw [specKey, hs]
      show _ = Addr.v4 _
      rw [← mask_v4]
      unfold mask
      rw [hu]
      rfl
    · have h6 := specBits6_range c
      have hu : (Addr.v6 a z).unmap = .v6 a z := if_neg h
      have hs : specClient (.v6 a z) = some (false, a) := if_neg h
      rw [specKey, hs, mask, hu]
      simp only [prefixMaskedAddr, setDefault_v6_spec]
      rw [if_pos (by omega)]
      rfl

theorem maskBits_eq_iff (w b x y : Nat) : maskBits w b x = maskBits w b y ↔ x / 2 ^ (w - b) = y / 2 ^ (w - b) :=
  Nat.mul_right_cancel_iff (Nat.pow_pos (by decide))

theorem maskBits_idem (w b a : Nat) : maskBits w b (maskBits w b a) = maskBits w b a := by
  unfold maskBits
  rw [Nat.mul_div_cancel _ (Nat.pow_pos (by decide))]

/-- masking an IPv6 address that is not IPv4-mapped never produces an IPv4-mapped one -/
theorem maskBits_not_mapped (b a : Nat) (hb : 1 ≤ b ∧ b ≤ 128) (ha : a / 2 ^ 32 ≠ 0xffff) :
    maskBits 128 b a / 2 ^ 32 ≠ 0xffff := by
  unfold maskBits
  by_cases hj : 128 - b ≤ 32
  · -- the mask keeps the top 96 bits
    have hq : (2:Nat) ^ 32 = 2 ^ (128 - b) * 2 ^ (32 - (128 - b)) := by
      rw [← Nat.pow_add]; congr 1; omega
    rw [hq, ← Nat.div_div_eq_div_mul, Nat.mul_div_cancel _ (Nat.pow_pos (by decide)), Nat.div_div_eq_div_mul, ← hq]
    exact ha
  · -- the masked value is a multiple of 2^33
    have hp : (2:Nat) ^ (128 - b) = 2 ^ (128 - b - 33) * 2 * 2 ^ 32 := by
      rw [Nat.mul_assoc, ← Nat.pow_succ', ← Nat.pow_add]; congr 1; omega
    rw [hp, ← Nat.mul_assoc, Nat.mul_div_cancel _ (Nat.pow_pos (by decide)), ← Nat.mul_assoc]
    omega

/-- the specification's subnet relation is "same key" -/
theorem specSame_eq (c : Opts) (x y : Addr) :
    specSame c x y = decide (mask c.setDefault x = mask c.setDefault y) := by
  rw [mask_eq_specKey, mask_eq_specKey]
  unfold specSame subnetId specKey
  -- id and key are computed alike from the specification's reading of an address: no address,
  -- or family and leading bits (the id keeps them as a quotient, the key as a masked address)
  cases hx : specClient x with
  | none =>
    cases hy : specClient y with
    | none => simp
    | some q =>
      -- no address against an address: `none` ≠ `some _`, `.zero` ≠ `.v4 _`, `.v6 _ _`
      obtain ⟨f, b⟩ := q
      cases f <;> simp
  | some p =>
    obtain ⟨f, a⟩ := p
    cases hy : specClient y with
    | none => cases f <;> simp
    | some q =>
      obtain ⟨g, b⟩ := q
      cases f with
      | false =>
        cases g with
        | false => simp [maskBits_eq_iff, Bool.beq_eq_decide_eq]   -- IPv6 both: same masked address iff same quotient
        | true => simp                                             -- different families
      | true =>
        cases g with
        | false => simp
        | true => simp [maskBits_eq_iff, Bool.beq_eq_decide_eq]    -- IPv4 both

theorem subnetId_beq_toS (c : Opts) (a0 : Addr) (e : Ev) :
    (subnetId c a0 == (e.toS c).id) = decide (mask c.setDefault a0 = mask c.setDefault e.addr) :=
  specSame_eq c a0 e.addr

/-- arrival times are non-decreasing and not before `τ` -/
def sortedEvs (τ : Nat) : List Ev → Prop
  | [] => True
  | e :: es => τ ≤ e.t ∧ sortedEvs e.t es

theorem sortedEvs_of_sortedTimes : ∀ (es : List Ev), sortedTimes es = true → sortedEvs 0 es
  | [], _ => trivial
  | [e], _ => ⟨Nat.zero_le _, trivial⟩
  | e :: e' :: es, h => by
    simp only [sortedTimes, Bool.and_eq_true, decide_eq_true_eq] at h
    exact ⟨Nat.zero_le _, h.1, (sortedEvs_of_sortedTimes (e' :: es) h.2).2⟩

theorem evs_sorted_of_ops : ∀ (os : List Op) (τ : Nat), sortedFrom τ os → sortedEvs τ (Op.evs os)
  | [], _, _ => trivial
  | .gc now _ :: os, τ, h => by
    have := evs_sorted_of_ops os now h.2
    simp only [Op.evs]
    cases hh : Op.evs os with
    | nil => trivial
    | cons e es => rw [hh] at this; exact ⟨Nat.le_trans h.1 this.1, this.2⟩
  | .allow e :: os, τ, h => ⟨h.1, evs_sorted_of_ops os e.t h.2⟩

theorem evs_inRange : ∀ (os : List Op), timesInRange os = true → ∀ e ∈ Op.evs os, e.t ≤ maxDuration
  | [], _, _, he => by simp [Op.evs] at he
  | .gc _ _ :: os, h, e, he => by
    simp only [timesInRange, List.all_cons, Bool.and_eq_true] at h
    exact evs_inRange os h.2 e he
  | .allow e' :: os, h, e, he => by
    simp only [timesInRange, List.all_cons, Bool.and_eq_true, decide_eq_true_eq] at h
    simp only [Op.evs, List.mem_cons] at he
    rcases he with rfl | he
    · exact h.1
    · exact evs_inRange os h.2 e he

theorem specBudget_add (c : Opts) (d d' : Int) :
    specBudget c (d + d') = specBudget c d + (specLimit c : Int) * d' := by
  unfold specBudget
  rw [Int.mul_add]; omega

/-- looking back from a later instant with correspondingly more cost is the same scan -/
theorem specScan_shift (c : Opts) (slack : Int) (a : Option (Bool × Nat)) (t te : Nat) :
    ∀ (ps : List (SEv × Bool)) (x : Int),
      specScan c slack a te (x - (specLimit c : Int) * ((t : Int) - te)) ps = specScan c slack a t x ps := by
  intro ps
  induction ps with
  | nil => intro x; rfl
  | cons p ps ih =>
    intro x
    obtain ⟨p, d⟩ := p
    simp only [specScan]
    split
    · have hb : specBudget c ((t : Int) - p.t) =
          specBudget c ((te : Int) - p.t) + (specLimit c : Int) * ((t : Int) - te) := by
        rw [← specBudget_add]; congr 1; omega
      have hx : x - (specLimit c : Int) * ((t : Int) - te) + (if d = true then ((p.n * nano : Nat) : Int) else 0)
          = x + (if d = true then ((p.n * nano : Nat) : Int) else 0) - (specLimit c : Int) * ((t : Int) - te) := by
        omega
      rw [hx, ih, hb]
      congr 1
      apply decide_eq_decide.mpr
      constructor <;> intro h <;> omega
    · exact ih x

/-- every shortfall of `k`'s bucket is explained by a window of `k`'s own past arrivals:
    whoever asks at `t` for more (`x` nano-tokens) than the bucket holds would exceed
    `burst + rate·window` for the window starting now or at one of the past arrivals of `k`.
    The scan compares subnet ids, the table keys: `a` is any address of key `k`, there to name
    the id.  `t ≤ maxDuration` keeps the elapsed time of `Bucket.elapsed` from saturating.
    The `slack ≥ 0` that the lemmas below assume is used where a shortfall against a full
    bucket is turned into `x + slack > specBudget c 0`. -/
def Tight (c : Opts) (slack : Int) (cl : ClientLimiter) (k : Addr) (past : List (SEv × Bool)) (τ : Nat) : Prop :=
  ∀ (t : Nat) (x : Int) (a : Addr), τ ≤ t → t ≤ maxDuration → mask cl.opts a = k →
    (cl.bucketOf k).avail cl.limit cl.burst t < x →
    x + slack > specBudget c 0 ∨ specScan c slack (subnetId c a) t x past = true

theorem specBudget_zero (c : Opts) : specBudget c 0 = ((specBurst c * nano : Nat) : Int) := by
  rw [specBudget, Int.mul_zero, Int.add_zero]

theorem tight_new (c : Opts) (slack : Int) (hslack : 0 ≤ slack) (hs : saneBurst c = true) (k : Addr) (τ : Nat) :
    Tight c slack (ClientLimiter.new c) k [] τ := by
  intro t x a _ _ _ hx
  left
  rw [ClientLimiter.bucketOf_new, Bucket.avail_fresh_full _ _ t (sane_of_opts c _ rfl hs), burst_of_opts c _ rfl] at hx
  rw [specBudget_zero]
  omega

theorem tight_step (c : Opts) (slack : Int) (hslack : 0 ≤ slack) (cl : ClientLimiter) (hopts : cl.opts = c.setDefault)
    (past : List (SEv × Bool)) (τ : Nat) (e : Ev) (hte : τ ≤ e.t) (k : Addr) (h : Tight c slack cl k past τ) :
    Tight c slack (cl.allowNAt e.addr e.t e.n).2 k ((e.toS c, (cl.allowNAt e.addr e.t e.n).1) :: past) e.t := by
  have hL := limit_of_opts c cl hopts
  have hB := burst_of_opts c cl hopts
  intro t x a ht htM ha hx
  simp only [ClientLimiter.allowN_opts, ClientLimiter.allowN_limit, ClientLimiter.allowN_burst] at ha hx
  have hid : (subnetId c a == (e.toS c).id) = decide (k = mask cl.opts e.addr) := by rw [subnetId_beq_toS, ← hopts, ha]
  have hpt : (e.toS c).t = e.t := rfl
  have hpn : (e.toS c).n = e.n := rfl
  simp only [specScan, hid, hpt, hpn]
  by_cases hk : mask cl.opts e.addr = k
  · -- an arrival of this key
    subst hk
    rw [ClientLimiter.bucketOf_allowNAt_same] at hx
    simp only [decide_true, if_true, Bool.or_eq_true, decide_eq_true_eq]
    cases hd : (cl.allowNAt e.addr e.t e.n).1 with
    | false =>
      rw [ClientLimiter.allowNAt_fst] at hd
      rw [(Bucket.allowN_false hd).2] at hx
      rcases h t x a (Nat.le_trans hte ht) htM ha hx with h1 | h1
      · exact Or.inl h1
      · exact Or.inr (Or.inr (by simpa using h1))
    | true =>
      rw [ClientLimiter.allowNAt_fst] at hd
      -- what the new bucket holds at `t`: what was left at `e.t` and the refill since, capped
      have hcast : ((cl.limit * (t - e.t) : Nat) : Int) = (specLimit c : Int) * ((t : Int) - e.t) := by
        rw [Int.natCast_mul, Int.natCast_sub ht, hL]
      rw [(Bucket.allowN_true hd).2.2, Bucket.avail_mk _ _ _ _ _ ht (Nat.le_trans (Nat.sub_le _ _) htM), hcast] at hx
      by_cases hcap : ((cl.burst * nano : Nat) : Int) < x
      · left
        rw [specBudget_zero, ← hB]; omega
      · -- the shortfall at `t` is a shortfall at `e.t` of `e.n` more, less the refill since
        have hx' : (cl.bucketOf (mask cl.opts e.addr)).avail cl.limit cl.burst e.t
            < x + ((e.n * nano : Nat) : Int) - (specLimit c : Int) * ((t : Int) - e.t) := by
          omega
        right
        rcases h e.t _ a hte (Nat.le_trans ht htM) ha hx' with h1 | h1
        · left
          have := specBudget_add c 0 ((t : Int) - e.t)
          rw [Int.zero_add] at this
          rw [if_pos rfl, this]
          omega
        · right
          rw [specScan_shift] at h1
          simpa using h1
  · -- an arrival of another key: the bucket is untouched, the scan skips it
    rw [ClientLimiter.bucketOf_allowNAt_other _ _ _ _ _ hk] at hx
    rw [decide_eq_false fun hc => hk hc.symm, if_neg Bool.false_ne_true]
    exact h t x a (Nat.le_trans hte ht) htM ha hx

theorem specNoSpur_ok (c : Opts) (slack : Int) (hslack : 0 ≤ slack) :
    ∀ (es : List Ev) (cl : ClientLimiter) (past : List (SEv × Bool)) (τ : Nat), cl.opts = c.setDefault →
      (∀ k, Tight c slack cl k past τ) → sortedEvs τ es → (∀ e ∈ es, e.t ≤ maxDuration) →
      specNoSpuriousRefusalS c slack past (es.map (Ev.toS c)) (cl.runAt es) = true := by
  intro es
  induction es with
  | nil => intro cl past τ _ _ _ _; rfl
  | cons e es ih =>
    intro cl past τ hopts ht hs hM
    have hB := burst_of_opts c cl hopts
    have hLpos : 0 < cl.limit := limit_of_opts c cl hopts ▸ specLimit_pos c
    have IH := ih (cl.allowNAt e.addr e.t e.n).2 ((e.toS c, (cl.allowNAt e.addr e.t e.n).1) :: past) e.t
      hopts
      (fun k => tight_step c slack hslack cl hopts past τ e hs.1 k (ht k)) hs.2
      (fun e' he' => hM e' (List.mem_cons_of_mem _ he'))
    simp only [ClientLimiter.runAt, List.map, specNoSpuriousRefusalS, IH, Bool.and_true]
    cases hd : (cl.allowNAt e.addr e.t e.n).1 with
    | true => rfl
    | false =>
      rw [ClientLimiter.allowNAt_fst] at hd
      have hno := (Bucket.allowN_false hd).1
      have hpt : (e.toS c).t = e.t := rfl
      have hpn : (e.toS c).n = e.n := rfl
      have hpi : (e.toS c).id = subnetId c e.addr := rfl
      simp only [Bool.false_or, specExhausted, Bool.or_eq_true, decide_eq_true_eq, hpt, hpn, hpi]
      by_cases hn : e.n ≤ cl.burst
      · have hlt : (cl.bucketOf (mask cl.opts e.addr)).avail cl.limit cl.burst e.t < ((e.n * nano : Nat) : Int) := by
          have : ¬ (-((cl.bucketOf (mask cl.opts e.addr)).avail cl.limit cl.burst e.t - ((e.n * nano : Nat) : Int))
              < (cl.limit : Int)) := fun h => hno ⟨hn, h⟩
          omega
        rcases ht _ e.t _ e.addr hs.1 (hM e List.mem_cons_self) rfl hlt with h1 | h1
        · left; exact h1
        · right; exact h1
      · left
        rw [specBudget_zero, ← hB]
        have : cl.burst * nano < e.n * nano := Nat.mul_lt_mul_of_pos_right (by omega) (by decide)
        omega

end MosVerif.Limiter
