/-
  C11 — the model of `MixMatcher` / the loader refines the declarative
  specification of `Model/DomainSet.lean`.  `Sem re m es` says that on well-formed
  names the matcher `m` answers as the specification does over the entries `es`;
  every well-formed rule extends it by its entry (`add_sem`), hence so do files and groups.
  Two facts beside that: whatever `ParseReadable` accepts leaves a buffer that scans
  (`parseReadable_scans`), and the name an entry denotes ignores the case of its letters
  (`specName_lower`).
-/
import MosVerif.Model.DomainSet
import MosVerif.Lemmas.TextLemmas
import MosVerif.Lemmas.TrieLemmas
import MosVerif.Lemmas.ReadableLemmas
namespace MosVerif.DomainSet
open MosVerif.Text MosVerif.Trie

/-! ### `bytes.IndexByte` against the declarative splitting -/

theorem splitDots_of_index_none (s : Bytes) (h : indexByte 46 s = none) : splitDots s = [s] := by
  induction s with
  | nil => rfl
  | cons x xs ih =>
    by_cases hx : x = 46
    · simp [indexByte, hx] at h
    · simp only [indexByte, hx, ↓reduceIte, Option.map_eq_none_iff] at h
      simp [splitDots, hx, ih h]

theorem splitDots_of_index_some (s : Bytes) (i : Nat) (h : indexByte 46 s = some i) :
    splitDots s = s.take i :: splitDots (s.drop (i + 1)) ∧ i < s.length := by
  induction s generalizing i with
  | nil => simp [indexByte] at h
  | cons x xs ih =>
    by_cases hx : x = 46
    · simp only [indexByte, hx, ↓reduceIte, Option.some.injEq] at h
      subst h
      simp [splitDots, hx]
    · simp only [indexByte, hx, ↓reduceIte, Option.map_eq_some_iff] at h
      obtain ⟨j, hj, rfl⟩ := h
      obtain ⟨h1, h2⟩ := ih j hj
      simp [splitDots, hx, h1, h2]

theorem nameOctets_eq_wireLen (ls : List Label) : nameOctets ls = wireLen ls := by
  induction ls with
  | nil => rfl
  | cons l ls ih =>
    simp only [nameOctets, List.map_cons, List.sum_cons, wireLen] at ih ⊢
    omega

theorem goodLabels_of_all (ls : List Label) (h : ls.all goodLabel = true) : GoodLabels ls := by
  intro l hl
  have := List.all_eq_true.mp h l hl
  simpa [goodLabel] using this

/-! ### `ParseReadable` on a dotted text whose pieces are labels -/

theorem parseLoop_nil (fuel : Nat) (b : Builder) : parseLoop fuel [] b = some b := by
  cases fuel <;> simp [parseLoop]

theorem appendLabel_eq (b : Builder) (s : Bytes) :
    b.appendLabel s =
      if 1 ≤ s.length ∧ s.length ≤ 63 ∧ b.data.length + 1 + s.length ≤ 253 then
        some ⟨b.data ++ UInt8.ofNat s.length :: s⟩
      else none := by
  simp only [Builder.appendLabel, labelMax, builderMax, beq_iff_eq]
  by_cases h0 : s.length = 0
  · rw [if_pos h0, if_neg (by omega)]
  · by_cases h63 : s.length > 63
    · simp only [h0, h63, ↓reduceIte]
      rw [if_neg (by omega)]
    · by_cases hw : b.data.length + 1 + s.length > 253
      · simp only [h0, h63, hw, ↓reduceIte]
        rw [if_neg (by omega)]
      · simp only [h0, h63, hw, ↓reduceIte]
        rw [if_pos (by omega)]

theorem appendLabel_some {b b' : Builder} {s : Bytes} (h : b.appendLabel s = some b') :
    (1 ≤ s.length ∧ s.length ≤ 63 ∧ b.data.length + 1 + s.length ≤ 253) ∧
      b' = ⟨b.data ++ UInt8.ofNat s.length :: s⟩ := by
  rw [appendLabel_eq] at h
  split at h
  · exact ⟨‹_›, (Option.some.inj h).symm⟩
  · cases h

theorem ne_nil_of_good (s : Bytes) (hg : GoodLabels (splitDots s)) : s ≠ [] := by
  rintro rfl
  exact absurd (hg [] (List.mem_singleton.mpr rfl)).1 (by decide)

theorem parseLoop_good (fuel : Nat) (rest : Bytes) (b : Builder) (hf : rest.length ≤ fuel)
    (hg : GoodLabels (splitDots rest)) (hw : b.data.length + wireLen (splitDots rest) ≤ 253) :
    parseLoop fuel rest b = some ⟨b.data ++ encode (splitDots rest)⟩ := by
  have hne := ne_nil_of_good rest hg
  induction fuel generalizing rest b with
  | zero => exact absurd (List.eq_nil_of_length_eq_zero (Nat.le_zero.mp hf)) hne
  | succ f ih =>
    simp only [parseLoop, List.isEmpty_iff, hne, ↓reduceIte]
    cases hi : indexByte 46 rest with
    | none =>
      rw [splitDots_of_index_none rest hi] at hg hw ⊢
      have ⟨h1, h63⟩ := hg.head
      simp only [wireLen] at hw
      simp only [appendLabel_eq, h1, h63, show b.data.length + 1 + rest.length ≤ 253 by omega,
        and_self, ↓reduceIte, List.drop_eq_nil_of_le (Nat.le_succ rest.length), parseLoop_nil,
        encode, List.append_nil]
    | some i =>
      obtain ⟨hs, hlt⟩ := splitDots_of_index_some rest i hi
      rw [hs] at hg hw ⊢
      have ⟨h1, h63⟩ := hg.head
      have hlen : (rest.take i).length = i := List.length_take_of_le (Nat.le_of_lt hlt)
      rw [hlen] at h1 h63
      obtain ⟨j, rfl⟩ : ∃ j, i = j + 1 := ⟨i - 1, by omega⟩
      simp only [wireLen, hlen] at hw
      simp only [appendLabel_eq, hlen, h1, h63, show b.data.length + 1 + (j + 1) ≤ 253 by omega,
        and_self, ↓reduceIte]
      rw [ih _ _ (by rw [List.length_drop]; omega) hg.tail
        (by simp only [List.length_append, List.length_cons, hlen]; omega)
        (ne_nil_of_good _ hg.tail)]
      simp only [encode, hlen, List.append_assoc, List.cons_append]

/-- `ParseReadable` followed by `ToLowerName` and a scan, on a well-formed entry name:
    exactly the lower-cased labels the specification reads. -/
theorem parseReadable_spec (x : Bytes) (ls : List Label) (h : specName x = some ls) :
    ∃ b, parseReadable x = some b ∧ toLowerName b.data = encode ls ∧ GoodLabels ls ∧
      wireLen ls ≤ 253 := by
  unfold specName at h
  unfold parseReadable dropTrailingDot
  generalize (if x.getLast? = some 46 then x.dropLast else x) = y at h ⊢
  by_cases hy : y = []
  · subst hy
    obtain rfl : [] = ls := by simpa using h
    exact ⟨{}, by simp, by decide, .nil, by decide⟩
  · simp only [hy, ↓reduceIte, Bool.and_eq_true, decide_eq_true_eq] at h
    split at h
    · rename_i hc
      simp only [Option.some.injEq] at h
      subst h
      have hg := goodLabels_of_all _ hc.1
      have hw : wireLen (splitDots y) ≤ 253 := by rw [← nameOctets_eq_wireLen]; exact hc.2
      have hl : (y.length == 0) = false := by simp [hy]
      refine ⟨⟨encode (splitDots y)⟩, ?_, ?_, goodLabels_lower _ hg, by rw [wireLen_lower]; exact hw⟩
      · simp only [hl, Bool.false_eq_true, ↓reduceIte]
        rw [parseLoop_good y.length y {} (Nat.le_refl _) hg (by simpa using hw)]
        simp
      · exact toLowerName_encode _ hg (by omega)
    · simp at h

/-! ### the three sub-matchers on a well-formed query name -/

theorem wf_of_good (ls : List Label) (hg : GoodLabels ls) : WF ls := by
  intro l hl h
  have := (hg l hl).1
  simp [h] at this

theorem dm_match_encode (m : DM) (q : List Label) (hg : GoodLabels q) (hw : wireLen q ≤ 254) :
    m.match (encode q) = m.matchLabels q := by
  unfold DM.match DM.matchLabels
  rw [scan_encode q hg hw]
  cases m.rootMatched <;> simp

theorem dm_add_match (m : DM) (ls q : List Label) (hls : GoodLabels ls) (hg : GoodLabels q)
    (hw : wireLen q ≤ 254) :
    (m.add ls).match (encode q) = (m.match (encode q) || ls.isSuffixOf q) := by
  rw [dm_match_encode _ q hg hw, dm_match_encode _ q hg hw, Bool.eq_iff_iff,
    matchLabels_add m ls (wf_of_good ls hls) q, Bool.or_eq_true, List.isSuffixOf_iff_suffix]

theorem fullMatch_fullAdd (m : List Bytes) (n w : Bytes) :
    fullMatch (fullAdd m n) w = (fullMatch m w || w == n) := by
  unfold fullMatch fullAdd
  split
  · rename_i hc
    by_cases hw : w = n
    · rw [hw, hc, beq_self_eq_true, Bool.or_true]
    · rw [beq_false_of_ne hw, Bool.or_false]
  · rw [List.contains_cons, Bool.or_comm]

theorem regexpMatch_eq (re : Re) (m : List Bytes) (q : List Label) (hg : GoodLabels q)
    (hw : wireLen q ≤ 254) :
    regexpMatch re m (encode q) = m.any (fun r => re.isMatch r (specText q)) := by
  unfold regexpMatch
  rw [toReadable_encode q hg hw]
  cases m <;> simp

theorem regexpAdd_spec (re : Re) (m : List Bytes) (p : Bytes) (hc : re.compiles p = true) :
    ∃ m', regexpAdd re m p = some m' ∧
      ∀ t, m'.any (fun r => re.isMatch r t) = (m.any (fun r => re.isMatch r t) || re.isMatch p t) := by
  unfold regexpAdd
  split
  · rename_i hm
    refine ⟨m, rfl, fun t => ?_⟩
    cases ht : re.isMatch p t with
    | false => rw [Bool.or_false]
    | true =>
      rw [Bool.or_true, List.any_eq_true]
      exact ⟨p, List.contains_iff_mem.mp hm, ht⟩
  · exact ⟨p :: m, rfl, fun t => by rw [List.any_cons, Bool.or_comm]⟩

/-! ### `MixMatcher.Add` and `specRule` on the four rule shapes

  Both split the rule at the first `:`; on a literal prefix either splitting evaluates. -/

theorem indexByte_of_not_contains (c : UInt8) (s : Bytes) (h : s.contains c = false) :
    indexByte c s = none := by
  induction s with
  | nil => rfl
  | cons x xs ih =>
    simp only [List.contains_cons, Bool.or_eq_false_iff, beq_eq_false_iff_ne, ne_eq] at h
    rw [indexByte, if_neg (fun e => h.1 e.symm), ih h.2, Option.map_none]

theorem add_full (re : Re) (m : Mix) (t : Bytes) :
    m.add re (pfxFull ++ t) = (match parseReadable t with
      | none => none
      | some b => some { m with full := fullAdd m.full (toLowerName b.data) }) := by
  rfl

theorem add_domain (re : Re) (m : Mix) (t : Bytes) :
    m.add re (pfxDomain ++ t) = (match parseReadable t with
      | none => none
      | some b => match scan (toLowerName b.data) with
        | none => some m
        | some labels => some { m with domain := m.domain.add labels }) := by
  rfl

theorem add_regexp (re : Re) (m : Mix) (t : Bytes) :
    m.add re (pfxRegexp ++ t) = (match regexpAdd re m.regexp t with
      | none => none
      | some r => some { m with regexp := r }) := by
  rfl

/-- a rule without `:` is a `domain:` rule. -/
theorem add_bare (re : Re) (m : Mix) (t : Bytes) (h : t.contains 58 = false) :
    m.add re t = m.add re (pfxDomain ++ t) := by
  rw [add_domain, Mix.add, indexByte_of_not_contains 58 t h]
  rfl

theorem specRule_full (re : Re) (t : Bytes) :
    specRule re (pfxFull ++ t) = (specName t).map .full := by
  rfl

theorem specRule_domain (re : Re) (t : Bytes) :
    specRule re (pfxDomain ++ t) = (specName t).map .domain := by
  rfl

theorem specRule_regexp (re : Re) (t : Bytes) :
    specRule re (pfxRegexp ++ t) = if re.compiles t then some (.regexp t) else none := by
  rfl

theorem not_prefix_of_no_colon (p x : Bytes) (hp : (58 : UInt8) ∈ p) (hc : x.contains 58 = false) :
    p.isPrefixOf x = false := by
  rw [← Bool.not_eq_true, List.isPrefixOf_iff_prefix]
  rintro ⟨t, rfl⟩
  have : (58 : UInt8) ∈ p ++ t := List.mem_append_left t hp
  rw [← List.contains_iff_mem, hc] at this
  exact Bool.false_ne_true this

theorem specRule_bare (re : Re) (x : Bytes) (h : x.contains 58 = false) :
    specRule re x = specRule re (pfxDomain ++ x) := by
  rw [specRule_domain, specRule, not_prefix_of_no_colon pfxFull x (by decide) h,
    not_prefix_of_no_colon pfxDomain x (by decide) h,
    not_prefix_of_no_colon pfxRegexp x (by decide) h, h]
  rfl

/-! ### what a matcher means, one rule at a time -/

/-- what a matcher means on well-formed names: the declarative match over `es`. -/
def Sem (re : Re) (m : Mix) (es : List Entry) : Prop :=
  ∀ q, GoodLabels q → wireLen q ≤ 254 → m.match re (encode q) = specMatch re es q

theorem sem_empty (re : Re) : Sem re {} [] := by
  intro q hg hw
  -- no full name, an empty trie, no pattern: each of the three tests is `false`
  simp [Mix.match, fullMatch, dm_match_encode _ q hg hw, DM.matchLabels, matchWalk_empty,
    regexpMatch, specMatch]

/-- a matcher that matches what `m` matched and what `e` matches means one entry more. -/
theorem Sem.snoc {re : Re} {m m' : Mix} {es : List Entry} (e : Entry) (hs : Sem re m es)
    (h : ∀ q, GoodLabels q → wireLen q ≤ 254 →
      m'.match re (encode q) = (m.match re (encode q) || entryMatches re q e)) :
    Sem re m' (es ++ [e]) := by
  intro q hg hw
  rw [h q hg hw, hs q hg hw, specMatch, specMatch, List.any_append, List.any_cons, List.any_nil,
    Bool.or_false]

theorem sem_full_step (re : Re) (m : Mix) (es : List Entry) (x : Bytes) (e : Entry)
    (hs : Sem re m es) (hr : specRule re (pfxFull ++ x) = some e) :
    ∃ m', m.add re (pfxFull ++ x) = some m' ∧ Sem re m' (es ++ [e]) := by
  rw [specRule_full, Option.map_eq_some_iff] at hr
  obtain ⟨ls, hx, rfl⟩ := hr
  obtain ⟨b, hp, hl, hg, hw⟩ := parseReadable_spec x ls hx
  refine ⟨{ m with full := fullAdd m.full (encode ls) }, by simp only [add_full, hp, hl],
    hs.snoc _ fun q hgq hwq => ?_⟩
  have he : (encode q == encode ls) = (ls == q) :=
    Bool.eq_iff_iff.mpr (by
      rw [beq_iff_eq, beq_iff_eq]
      exact ⟨fun h => (encode_injective q ls hgq hg h).symm, fun h => h ▸ rfl⟩)
  -- both sides are the `||` of the same four tests, in a different order
  simp only [Mix.match, entryMatches, fullMatch_fullAdd, he, Bool.or_assoc, Bool.or_comm,
    Bool.or_left_comm]

theorem sem_domain_step (re : Re) (m : Mix) (es : List Entry) (x : Bytes) (e : Entry)
    (hs : Sem re m es) (hr : specRule re (pfxDomain ++ x) = some e) :
    ∃ m', m.add re (pfxDomain ++ x) = some m' ∧ Sem re m' (es ++ [e]) := by
  rw [specRule_domain, Option.map_eq_some_iff] at hr
  obtain ⟨ls, hx, rfl⟩ := hr
  obtain ⟨b, hp, hl, hg, hw⟩ := parseReadable_spec x ls hx
  refine ⟨{ m with domain := m.domain.add ls }, ?_, hs.snoc _ fun q hgq hwq => ?_⟩
  · simp only [add_domain, hp, hl, scan_encode ls hg (Nat.le_succ_of_le hw)]
  · -- both sides are the `||` of the same four tests, in a different order
    simp only [Mix.match, entryMatches, dm_add_match m.domain ls q hg hgq hwq, Bool.or_comm,
      Bool.or_left_comm]

theorem sem_regexp_step (re : Re) (m : Mix) (es : List Entry) (p : Bytes) (e : Entry)
    (hs : Sem re m es) (hr : specRule re (pfxRegexp ++ p) = some e) :
    ∃ m', m.add re (pfxRegexp ++ p) = some m' ∧ Sem re m' (es ++ [e]) := by
  rw [specRule_regexp] at hr
  split at hr
  · rename_i hc
    obtain rfl := Option.some.inj hr
    obtain ⟨r, hr, hany⟩ := regexpAdd_spec re m.regexp p hc
    refine ⟨{ m with regexp := r }, by simp only [add_regexp, hr], hs.snoc _ fun q hgq hwq => ?_⟩
    simp only [Mix.match, entryMatches, regexpMatch_eq re _ q hgq hwq, hany, Bool.or_assoc]
  · cases hr

/-- one well-formed rule: `Add` succeeds and the matcher means one entry more. -/
theorem add_sem (re : Re) (m : Mix) (es : List Entry) (rule : Bytes) (e : Entry)
    (hs : Sem re m es) (hr : specRule re rule = some e) :
    ∃ m', m.add re rule = some m' ∧ Sem re m' (es ++ [e]) := by
  by_cases hf : pfxFull.isPrefixOf rule
  · obtain ⟨t, rfl⟩ := List.isPrefixOf_iff_prefix.mp hf
    exact sem_full_step re m es t e hs hr
  by_cases hd : pfxDomain.isPrefixOf rule
  · obtain ⟨t, rfl⟩ := List.isPrefixOf_iff_prefix.mp hd
    exact sem_domain_step re m es t e hs hr
  by_cases hx : pfxRegexp.isPrefixOf rule
  · obtain ⟨t, rfl⟩ := List.isPrefixOf_iff_prefix.mp hx
    exact sem_regexp_step re m es t e hs hr
  have hc : rule.contains 58 = false := Bool.eq_false_iff.mpr fun hc => by
    rw [specRule, if_neg hf, if_neg hd, if_neg hx, if_pos hc] at hr
    cases hr
  rw [specRule_bare re rule hc] at hr
  rw [add_bare re m rule hc]
  exact sem_domain_step re m es rule e hs hr

/-! ### files, groups, cases -/

theorem takeWhile_eq_stripComment (line : Bytes) :
    line.takeWhile (· ≠ 35) = stripComment line := by
  unfold stripComment
  induction line with
  | nil => rfl
  | cons x xs ih =>
    by_cases hx : x = 35
    · simp [indexByte, hx]
    · simp only [List.takeWhile_cons, ne_eq, hx, not_false_eq_true, decide_true, ↓reduceIte,
        indexByte]
      rw [ih]
      cases indexByte 35 xs <;> simp

theorem specLine_ignored (re : Re) (line : Bytes) (h : specLine re line = .ignored) :
    loaderLine line = none := by
  unfold specLine at h
  unfold loaderLine
  rw [takeWhile_eq_stripComment] at h
  by_cases hb : trimSpace (stripComment line) = []
  · simp [hb]
  · simp only [hb, ↓reduceIte] at h
    split at h <;> simp at h

theorem specLine_entry (re : Re) (line : Bytes) (e : Entry) (h : specLine re line = .entry e) :
    ∃ b, loaderLine line = some b ∧ specRule re b = some e := by
  unfold specLine at h
  unfold loaderLine
  rw [takeWhile_eq_stripComment] at h
  by_cases hb : trimSpace (stripComment line) = []
  · simp [hb] at h
  · simp only [hb, ↓reduceIte] at h
    refine ⟨trimSpace (stripComment line), by simp [hb], ?_⟩
    split at h
    · rename_i e' he
      simp only [LineKind.entry.injEq] at h
      rw [he, h]
    · simp at h

theorem specGroupEntries_load_cons (re : Re) (line : Bytes) (rest : List Bytes) :
    specGroupEntries re (.load (line :: rest)) =
      (match specLine re line, specGroupEntries re (.load rest) with
      | .ignored, some es => some es
      | .entry e, some es => some (e :: es)
      | _, _ => none) := by
  rfl

theorem specGroupEntries_adds_cons (re : Re) (r : Bytes) (rest : List Bytes) :
    specGroupEntries re (.adds (r :: rest)) =
      (match specRule re r, specGroupEntries re (.adds rest) with
      | some e, some es => some (e :: es)
      | _, _ => none) := by
  rfl

theorem loadLines_sem (re : Re) (lines : List Bytes) (el : List Entry)
    (h : specGroupEntries re (.load lines) = some el) (m : Mix) (es : List Entry)
    (hs : Sem re m es) :
    ∃ m', loadLines re m lines = (m', true) ∧ Sem re m' (es ++ el) := by
  induction lines generalizing m es el with
  | nil =>
    obtain rfl := Option.some.inj h
    exact ⟨m, rfl, by rwa [List.append_nil]⟩
  | cons line rest ih =>
    rw [specGroupEntries_load_cons] at h
    split at h
    · rename_i er hl hr
      obtain rfl := Option.some.inj h
      rw [loadLines, specLine_ignored re line hl]
      exact ih er hr m es hs
    · rename_i e er hl hr
      obtain rfl := Option.some.inj h
      obtain ⟨b, hb, hrule⟩ := specLine_entry re line e hl
      obtain ⟨m1, hadd, hs1⟩ := add_sem re m es b e hs hrule
      obtain ⟨m', hm', hs'⟩ := ih er hr m1 (es ++ [e]) hs1
      exact ⟨m', by simp only [loadLines, hb, hadd, hm'], by rwa [List.append_cons]⟩
    · cases h

theorem runAdds_sem (re : Re) (rules : List Bytes) (el : List Entry)
    (h : specGroupEntries re (.adds rules) = some el) (m : Mix) (es : List Entry)
    (hs : Sem re m es) :
    ∃ m', runAdds re m rules = (m', rules.map (fun _ => true)) ∧ Sem re m' (es ++ el) := by
  induction rules generalizing m es el with
  | nil =>
    obtain rfl := Option.some.inj h
    exact ⟨m, rfl, by rwa [List.append_nil]⟩
  | cons r rest ih =>
    rw [specGroupEntries_adds_cons] at h
    split at h
    · rename_i e er hl hr
      obtain rfl := Option.some.inj h
      obtain ⟨m1, hadd, hs1⟩ := add_sem re m es r e hs hl
      obtain ⟨m', hm', hs'⟩ := ih er hr m1 (es ++ [e]) hs1
      exact ⟨m', by simp only [runAdds, hadd, hm', List.map_cons], by rwa [List.append_cons]⟩
    · cases h

theorem runGroups_sem (re : Re) (gs : List Group) (el : List Entry)
    (h : specEntries re gs = some el) (m : Mix) (es : List Entry) (hs : Sem re m es) :
    ∃ m', runGroups re m gs = (m', gs.map allLoaded) ∧ Sem re m' (es ++ el) := by
  induction gs generalizing m es el with
  | nil =>
    obtain rfl := Option.some.inj h
    exact ⟨m, rfl, by rwa [List.append_nil]⟩
  | cons g rest ih =>
    rw [specEntries] at h
    split at h
    · rename_i eg er hg hr
      obtain rfl := Option.some.inj h
      cases g with
      | load lines =>
        obtain ⟨m1, h1, hs1⟩ := loadLines_sem re lines eg hg m es hs
        obtain ⟨m', hm', hs'⟩ := ih er hr m1 (es ++ eg) hs1
        exact ⟨m', by simp only [runGroups, h1, hm', List.map_cons, allLoaded],
          by rwa [← List.append_assoc]⟩
      | adds rules =>
        obtain ⟨m1, h1, hs1⟩ := runAdds_sem re rules eg hg m es hs
        obtain ⟨m', hm', hs'⟩ := ih er hr m1 (es ++ eg) hs1
        exact ⟨m', by simp only [runGroups, h1, hm', List.map_cons, allLoaded],
          by rwa [← List.append_assoc]⟩
    · cases h

theorem goodName_good (ls : List Label) (h : goodName ls = true) :
    GoodLabels ls ∧ wireLen ls ≤ 254 := by
  simp only [goodName, Bool.and_eq_true, decide_eq_true_eq] at h
  exact ⟨goodLabels_of_all ls h.1, by rw [← nameOctets_eq_wireLen]; exact h.2⟩

theorem specQueries_sem (re : Re) (m : Mix) (es : List Entry) (hs : Sem re m es)
    (qs : List Query) :
    specQueries re es qs (qs.map (fun q => m.match re q.toWire)) = true := by
  induction qs with
  | nil => rfl
  | cons q rest ih =>
    simp only [List.map_cons, specQueries, ih, Bool.and_true]
    cases q with
    | wire n => rfl
    | labels ls =>
      simp only [specQuery, Query.toWire]
      split
      · rename_i hc
        simp only [Bool.and_eq_true] at hc
        obtain ⟨hg, hw⟩ := goodName_good ls hc.1
        simp [hs ls hg hw]
      · rfl

/-! ### the builder's data always scans (the `none` branch of the model's `Mix.add` is dead) -/

/-- what the loop appends to `buf[:l]` is the wire form of labels of 1..63 octets, and
    `AppendLabel` keeps the buffer within 253 octets. -/
theorem parseLoop_some (fuel : Nat) (rest : Bytes) (b b' : Builder)
    (h : parseLoop fuel rest b = some b') :
    ∃ ls, b'.data = b.data ++ encode ls ∧ GoodLabels ls ∧
      (b.data.length ≤ 253 → b'.data.length ≤ 253) := by
  induction fuel generalizing rest b with
  | zero =>
    obtain rfl := Option.some.inj h
    exact ⟨[], (List.append_nil _).symm, .nil, id⟩
  | succ f ih =>
    simp only [parseLoop] at h
    split at h
    · obtain rfl := Option.some.inj h
      exact ⟨[], (List.append_nil _).symm, .nil, id⟩
    · split at h
      · cases h
      · rename_i b1 hb1
        obtain ⟨hs, rfl⟩ := appendLabel_some hb1
        obtain ⟨ls, hd, hg, hl⟩ := ih _ _ h
        refine ⟨_ :: ls, hd.trans ?_, .cons hs.1 hs.2.1 hg, fun _ => hl ?_⟩
        · rw [List.append_assoc]
          rfl
        · rw [List.length_append, List.length_cons]
          omega

/-- whatever `ParseReadable` accepts — including the ill-formed texts it does not reject —
    leaves a buffer that scans without error, before and after `ToLowerName`. -/
theorem parseReadable_scans (x : Bytes) (b : Builder) (h : parseReadable x = some b) :
    ∃ ls, GoodLabels ls ∧ wireLen ls ≤ 253 ∧ b.data = encode ls ∧
      scan (toLowerName b.data) = some (ls.map lowerLabel) := by
  obtain ⟨ls, hd, hg, hl⟩ : ∃ ls, b.data = encode ls ∧ GoodLabels ls ∧ b.data.length ≤ 253 := by
    unfold parseReadable at h
    simp only at h
    split at h
    · obtain rfl := Option.some.inj h
      exact ⟨[], rfl, .nil, Nat.zero_le _⟩
    · obtain ⟨ls, hd, hg, hl⟩ := parseLoop_some _ _ _ _ h
      exact ⟨ls, hd, hg, hl (by decide)⟩
  have hw : wireLen ls ≤ 253 := by rw [← encode_length, ← hd]; exact hl
  refine ⟨ls, hg, hw, hd, ?_⟩
  rw [hd, toLowerName_encode ls hg (by omega),
    scan_encode _ (goodLabels_lower ls hg) (by rw [wireLen_lower]; omega)]

/-! ### entries are case-insensitive -/

theorem splitDots_lower (y : Bytes) :
    splitDots (y.map lowerByte) = (splitDots y).map lowerLabel := by
  induction y with
  | nil => rfl
  | cons c cs ih =>
    by_cases hc : c = 46
    · subst hc
      simp [splitDots, ih, lowerLabel, show lowerByte 46 = 46 from by decide]
    · have hc' : ¬ lowerByte c = 46 := fun h => hc ((lowerByte_eq_dot c).mp h)
      simp only [List.map_cons, splitDots, hc, hc', ↓reduceIte, ih]
      cases splitDots cs with
      | nil => simp [lowerLabel]
      | cons h t => simp [lowerLabel]

theorem all_goodLabel_lower (ls : List Label) :
    (ls.map lowerLabel).all goodLabel = ls.all goodLabel := by
  induction ls with
  | nil => rfl
  | cons l ls ih => simp [goodLabel, lowerLabel_length, ih]

theorem nameOctets_lower (ls : List Label) : nameOctets (ls.map lowerLabel) = nameOctets ls := by
  rw [nameOctets_eq_wireLen, nameOctets_eq_wireLen, wireLen_lower]

theorem getLast?_lower (x : Bytes) :
    ((x.map lowerByte).getLast? = some 46) ↔ (x.getLast? = some 46) := by
  rw [List.getLast?_map]
  cases x.getLast? with
  | none => simp
  | some c => simp [lowerByte_eq_dot]

/-- the name an entry denotes does not depend on the case of its letters. -/
theorem specName_lower (x : Bytes) : specName (x.map lowerByte) = specName x := by
  have hdot : (if (x.map lowerByte).getLast? = some 46 then (x.map lowerByte).dropLast
      else x.map lowerByte) = (if x.getLast? = some 46 then x.dropLast else x).map lowerByte := by
    simp only [getLast?_lower, List.dropLast_eq_take, List.length_map]
    split
    · exact List.map_take.symm
    · rfl
  unfold specName
  simp only [hdot]
  generalize (if x.getLast? = some 46 then x.dropLast else x) = y
  simp only [List.map_eq_nil_iff, splitDots_lower, all_goodLabel_lower, nameOctets_lower,
    List.map_map, show lowerLabel ∘ lowerLabel = lowerLabel from funext lowerLabel_idem]

theorem specName_case (x x' : Bytes) (h : x.map lowerByte = x'.map lowerByte) :
    specName x = specName x' := by
  rw [← specName_lower x, h, specName_lower]

end MosVerif.DomainSet
