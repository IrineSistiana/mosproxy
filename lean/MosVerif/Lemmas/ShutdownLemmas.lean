/-
  C18 — the upstream side of the shutdown scenario (Model/Shutdown.lean): for every upstream kind and every number
  of queries in flight, each of them and the query after the close fails, and no connection stays open
  (`upstream_side`).  The scenario's theorem itself is `C18.shutdown_model_meets_spec`.
-/
import MosVerif.Model.Shutdown
import MosVerif.Lemmas.CloseSpec
import MosVerif.Lemmas.StartupLemmas
namespace MosVerif.Shutdown
open MosVerif.Close

theorem resOf_spec (s : St) (e : Nat) (h : ∃ x ∈ s.exs, x.id = e) :
    ∃ y ∈ s.exs, y.id = e ∧ resOf s e = y.res := by
  obtain ⟨x, hx, hid⟩ := h
  unfold resOf
  cases hf : s.exs.find? (·.id == e) with
  | none =>
    have := List.find?_eq_none.mp hf x hx
    simp [hid] at this
  | some y =>
    have hy := List.mem_of_find?_eq_some hf
    have hp := List.find?_some hf
    exact ⟨y, hy, by simpa using hp, rfl⟩

/-- the operations before the first Close in the shutdown script -/
def beforeOps (warm : Bool) (n : Nat) : List Op :=
  (if warm then [.start 0 false, .reply 0] else []) ++ (List.range n).map (fun i => Op.start (i + 1) false)

theorem script_split (warm : Bool) (n : Nat) :
    fullOps true (script warm n) =
      beforeOps warm n ++ Op.close :: [.close, .start (n + 1) false, .close] := by
  simp [fullOps, script, beforeOps]

/-- before the Close the script answers the warm-up query and starts the queries `0 … n` -/
theorem before_cases (warm : Bool) (n : Nat) (op : Op) (h : op ∈ beforeOps warm n) :
    op = .reply 0 ∨ ∃ e, e ≤ n ∧ op = .start e false := by
  rcases List.mem_append.mp h with h | h
  · split at h
    · rcases List.mem_cons.mp h with rfl | h
      · exact Or.inr ⟨0, Nat.zero_le n, rfl⟩
      · exact Or.inl (List.mem_singleton.mp h)
    · cases h
  · obtain ⟨i, hi, rfl⟩ := List.mem_map.mp h
    exact Or.inr ⟨i + 1, List.mem_range.mp hi, rfl⟩

/-- the upstream side of the shutdown scenario: every query in flight fails, the query after close fails,
    nothing is left open -/
theorem upstream_side (k : Kind) (warm : Bool) (n : Nat) :
    let s := runScript k true (script warm n)
    (∀ i, i < n → resOf s (i + 1) = some .err) ∧ resOf s (n + 1) = some .err ∧
    s.conns.filter (·.isOpen) = [] := by
  intro s
  have hcl : (fullOps true (script warm n)).contains .close = true := by
    rw [script_split]; simp
  obtain ⟨hnone, hopen, hnew, hokf, _⟩ := script_facts k true (script warm n) hcl
  have hbefore : (fullOps true (script warm n)).takeWhile (· != .close) = beforeOps warm n := by
    rw [script_split, List.takeWhile_append_of_pos fun op hop => ?_]
    · simp
    · rcases before_cases warm n op hop with rfl | ⟨_, _, rfl⟩ <;> rfl
  rw [hbefore] at hnew hokf
  refine ⟨fun i hi => ?_, ?_, hopen⟩
  · have hmem : Op.start (i + 1) false ∈ beforeOps warm n :=
      List.mem_append_right _ (List.mem_map.mpr ⟨i, List.mem_range.mpr hi, rfl⟩)
    obtain ⟨y, hy, hid, hres⟩ := resOf_spec _ _
      (runScript_exists k (script warm n) (i + 1) false (List.mem_append_left _ hmem))
    rw [hres]
    cases hr : y.res with
    | none => exact absurd hr (hnone y hy)
    | some v =>
      cases v with
      | err => rfl
      | ok =>
        rcases before_cases warm n _ (hokf y hy hr) with h | ⟨_, _, h⟩
        · rw [hid] at h
          cases h
        · cases h
      | ctx =>
        rcases List.mem_append.mp (runScript_ctx k true _ y hy hr) with h | h
        · rcases before_cases warm n _ h with h | ⟨_, _, h⟩ <;> cases h
        · simp at h
  · obtain ⟨y, hy, hid, hres⟩ := resOf_spec _ _
      (runScript_exists k (script warm n) (n + 1) false
        (List.mem_append_right _ (List.mem_cons_of_mem _ (List.mem_cons_of_mem _ List.mem_cons_self))))
    rw [hres]
    refine (hnew y hy).resolve_left fun h => ?_
    obtain ⟨op, hop, hs⟩ := List.mem_filterMap.mp h
    rcases before_cases warm n op hop with rfl | ⟨e, he, rfl⟩
    · cases hs
    · cases hs
      omega

end MosVerif.Shutdown
