/-
  C11 — the text form: `ToReadable` computes the specification's `specText`,
  and `specText` is injective on well-formed names (the escape is a prefix code).
-/
import MosVerif.Model.DomainSet
import MosVerif.Lemmas.TextLemmas
namespace MosVerif.DomainSet
open MosVerif.Text

/-! ### model = specification, octet by octet -/

/-- `appendEscapedLabel`'s step is the escape of the property text, for every octet:
    the model computes on `UInt8`, the specification on `Nat`. -/
theorem escapeByte_eq_spec (b : UInt8) : escapeByte b = specEscape b := by
  have hlt := b.toNat_lt
  -- the three digits: below 256 `UInt8.ofNat` commutes with `/` and `%`
  have d2 : UInt8.ofNat (48 + b.toNat / 100) = 48 + b / 100 := by
    rw [UInt8.ofNat_add, UInt8.ofNat_div hlt (by decide), UInt8.ofNat_toNat]
    rfl
  have d1 : UInt8.ofNat (48 + b.toNat / 10 % 10) = 48 + b / 10 % 10 := by
    rw [UInt8.ofNat_add, UInt8.ofNat_mod (Nat.lt_of_le_of_lt (Nat.div_le_self ..) hlt) (by decide),
      UInt8.ofNat_div hlt (by decide), UInt8.ofNat_toNat]
    rfl
  have d0 : UInt8.ofNat (48 + b.toNat % 10) = 48 + b % 10 := by
    rw [UInt8.ofNat_add, UInt8.ofNat_mod hlt (by decide), UInt8.ofNat_toNat]
    rfl
  -- the tests: `≤` and `=` on `UInt8` are those on `toNat`
  simp only [escapeByte, specEscape, isPrintableLabelChar, Bool.or_eq_true, Bool.and_eq_true,
    decide_eq_true_eq, beq_iff_eq, UInt8.le_iff_toNat_le, ← UInt8.toNat_inj, or_assoc, d2, d1, d0]
  rfl

theorem appendEscapedLabel_eq (dst : Bytes) (l : Label) :
    appendEscapedLabel dst l = dst ++ l.flatMap specEscape := by
  unfold appendEscapedLabel
  induction l generalizing dst with
  | nil => simp
  | cons b bs ih =>
    rw [List.foldl_cons, ih, escapeByte_eq_spec, List.flatMap_cons, List.append_assoc]

theorem readableLoop_true (b : Bytes) (ls : List Label) :
    readableLoop true b ls = b ++ ls.flatMap (fun l => 46 :: l.flatMap specEscape) := by
  induction ls generalizing b with
  | nil => simp [readableLoop]
  | cons l ls ih => simp [readableLoop, ih, appendEscapedLabel_eq]

theorem joinDots_cons (x : Bytes) (xs : List Bytes) :
    joinDots (x :: xs) = x ++ xs.flatMap (fun y => 46 :: y) := by
  induction xs generalizing x with
  | nil => simp [joinDots]
  | cons y ys ih => simp [joinDots, ih]

theorem readableLoop_false (ls : List Label) (hne : ls ≠ []) :
    readableLoop false [] ls = joinDots (ls.map (fun l => l.flatMap specEscape)) := by
  cases ls with
  | nil => exact absurd rfl hne
  | cons l ls =>
    simp [readableLoop, readableLoop_true, appendEscapedLabel_eq, joinDots_cons, List.flatMap_map]

/-- `ToReadable` on a well-formed name is the text form of the property. -/
theorem toReadable_encode (ls : List Label) (hg : GoodLabels ls) (hw : wireLen ls ≤ 254) :
    toReadable (encode ls) = some (specText ls) := by
  unfold toReadable specText
  cases ls with
  | nil => simp [encode]
  | cons l rest =>
    have hlen : ((encode (l :: rest)).length == 0) = false := by simp [encode]
    simp only [hlen, Bool.false_eq_true, ↓reduceIte, scan_encode _ hg hw, Option.map_some]
    rw [readableLoop_false _ (List.cons_ne_nil l rest), if_neg (List.cons_ne_nil l rest)]

/-! ### the escape is uniquely decodable

  The text of a name is a sequence of symbols, a separator in front of every label and the
  octets of the label after it, each symbol written in its code.  Both layers have a left
  inverse, so both are injective. -/

/-- a symbol of the text form: an octet of a label, or the dot between two labels. -/
def code : Option UInt8 → Bytes
  | none => [46]
  | some b => specEscape b

/-- reads the first symbol off a text: a left inverse of `code` in front of anything. -/
def decodeSym : Bytes → Option (Option UInt8 × Bytes)
  | [] => none
  | c :: rest =>
    if c = 46 then some (none, rest)
    else if c ≠ 92 then some (some c, rest)
    else match rest with
      | [] => none
      | d :: rest' =>
        if d = 46 ∨ d = 92 then some (some d, rest')
        else match rest' with
          | e :: f :: r =>
            some (some (UInt8.ofNat (100 * (d.toNat - 48) + 10 * (e.toNat - 48) + (f.toNat - 48))), r)
          | _ => none

theorem digits_eq (n : Nat) : 100 * (n / 100) + 10 * (n / 10 % 10) + n % 10 = n := by
  have h1 : n % 100 / 10 = n / 10 % 10 := Nat.mod_mul_right_div_self n 10 10
  have h0 : n % 100 % 10 = n % 10 := Nat.mod_mod_of_dvd n (by decide)
  rw [← h1, ← h0, Nat.add_assoc, Nat.div_add_mod, Nat.div_add_mod]

theorem toNat_digit {k : Nat} (hk : k < 10) : (UInt8.ofNat (48 + k)).toNat = 48 + k :=
  UInt8.toNat_ofNat_of_lt' (Nat.lt_trans (Nat.add_lt_add_left hk 48) (by decide))

theorem decodeSym_code (s : Option UInt8) (x : Bytes) : decodeSym (code s ++ x) = some (s, x) := by
  cases s with
  | none => rfl
  | some b =>
    have h2 : b.toNat / 100 < 10 := Nat.div_lt_of_lt_mul (Nat.lt_trans b.toNat_lt (by decide))
    have hd : ¬ (48 + b.toNat / 100 = 46 ∨ 48 + b.toNat / 100 = 92) := by omega
    simp only [code, specEscape]
    split
    · have h46 : ¬ b.toNat = 46 := by omega
      have h92 : ¬ b.toNat = 92 := by omega
      simp only [decodeSym, List.cons_append, List.nil_append, ← UInt8.toNat_inj, UInt8.reduceToNat,
        h46, h92, ne_eq, not_false_eq_true, if_true, if_false]
    · split
      · rename_i h
        obtain rfl := (UInt8.toNat_inj (b := 46)).mp h
        rfl
      · split
        · rename_i h
          obtain rfl := (UInt8.toNat_inj (b := 92)).mp h
          rfl
        · -- `\DDD`: the first digit is `0`, `1` or `2`, and the digits give the octet back
          simp only [decodeSym, List.cons_append, List.nil_append, ← UInt8.toNat_inj,
            toNat_digit h2, toNat_digit (Nat.mod_lt (b.toNat / 10) (by decide)),
            toNat_digit (Nat.mod_lt b.toNat (by decide)), UInt8.reduceToNat, hd,
            Nat.add_sub_cancel_left, digits_eq, UInt8.ofNat_toNat]
          rfl

theorem flatMap_code_injective (ts us : List (Option UInt8))
    (h : ts.flatMap code = us.flatMap code) : ts = us := by
  induction ts generalizing us with
  | nil =>
    cases us with
    | nil => rfl
    | cons u us =>
      have := decodeSym_code u (us.flatMap code)
      rw [← List.flatMap_cons, ← h] at this
      cases this
  | cons t ts ih =>
    cases us with
    | nil =>
      have := decodeSym_code t (ts.flatMap code)
      rw [← List.flatMap_cons, h] at this
      cases this
    | cons u us =>
      have h1 := decodeSym_code t (ts.flatMap code)
      rw [← List.flatMap_cons, h, List.flatMap_cons, decodeSym_code] at h1
      obtain ⟨rfl, hts⟩ := Prod.mk.inj (Option.some.inj h1)
      rw [ih us hts.symm]

/-- the symbols of a name: a separator in front of every label, then its octets. -/
def symsOf (ls : List Label) : List (Option UInt8) := ls.flatMap (fun l => none :: l.map some)

theorem flatMap_code_symsOf (ls : List Label) :
    (symsOf ls).flatMap code = ls.flatMap (fun l => 46 :: l.flatMap specEscape) := by
  simp [symsOf, List.flatMap_assoc, List.flatMap_map, code]

/-- splits symbols at the separators: the octets before the first separator, and the labels
    after it. -/
def labelsOf : List (Option UInt8) → Label × List Label
  | [] => ([], [])
  | none :: t => ([], (labelsOf t).1 :: (labelsOf t).2)
  | some c :: t => (c :: (labelsOf t).1, (labelsOf t).2)

theorem labelsOf_append (l : Label) (t : List (Option UInt8)) :
    labelsOf (l.map some ++ t) = (l ++ (labelsOf t).1, (labelsOf t).2) := by
  induction l with
  | nil => rfl
  | cons c l ih => simp only [List.map_cons, List.cons_append, labelsOf, ih]

theorem labelsOf_symsOf (ls : List Label) : labelsOf (symsOf ls) = ([], ls) := by
  induction ls with
  | nil => rfl
  | cons l ls ih =>
    rw [symsOf, List.flatMap_cons, List.cons_append, labelsOf, labelsOf_append, ← symsOf, ih,
      List.append_nil]

theorem symsOf_injective (a b : List Label) (h : symsOf a = symsOf b) : a = b := by
  have := congrArg (fun s => (labelsOf s).2) h
  simpa only [labelsOf_symsOf] using this

theorem dot_specText (ls : List Label) (hne : ls ≠ []) :
    46 :: specText ls = (symsOf ls).flatMap code := by
  cases ls with
  | nil => exact absurd rfl hne
  | cons l rest =>
    simp [specText, joinDots_cons, flatMap_code_symsOf, List.flatMap_map]

/-- only the root reads `.`: any other name with this text would have two empty labels. -/
theorem specText_eq_root (ls : List Label) (hg : GoodLabels ls) (h : specText ls = [46]) :
    ls = [] := by
  by_cases hne : ls = []
  · exact hne
  · have h2 : (symsOf ls).flatMap code = (symsOf [[], []]).flatMap code := by
      rw [← dot_specText ls hne, h]
      rfl
    have := symsOf_injective _ _ (flatMap_code_injective _ _ h2)
    have := (hg [] (by simp [this])).1
    simp at this

/-- different well-formed names have different text forms (the root included). -/
theorem specText_injective (a b : List Label) (ha : GoodLabels a) (hb : GoodLabels b)
    (h : specText a = specText b) : a = b := by
  by_cases ha0 : a = []
  · subst ha0
    exact (specText_eq_root b hb h.symm).symm
  · by_cases hb0 : b = []
    · subst hb0
      exact specText_eq_root a ha h
    · apply symsOf_injective
      apply flatMap_code_injective
      rw [← dot_specText a ha0, ← dot_specText b hb0, h]

end MosVerif.DomainSet
