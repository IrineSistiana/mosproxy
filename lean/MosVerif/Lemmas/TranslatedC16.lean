/-
  Tie by translation (C16): the fallback condition `r.Header.Truncated` of `udpWithFallback.ExchangeContext`
  (internal/upstream/upstream.go) and the header-only TC test `err != nil && n >= 12 && b[2]&(1<<1) != 0` of
  `dnsutils.ReadMsgFromUDP` (internal/dnsutils/net_io.go, the third octet as a parameter) are translated
  mechanically from the current Go source (`Generated/Translated.lean`); the model's `exchange` branches on exactly
  the first, the model's `udpTcHeaderOnly` is the second, for all arguments.  `cutReply_eq`: the cut-reply
  scenario as a function of the TC bit and the length.
-/
import MosVerif.Generated.Translated
import MosVerif.Lemmas.TranslatedTactics
import MosVerif.Model.Fallback
namespace MosVerif.Fallback
open MosVerif

theorem id_pure_c16 {α : Type} (x : α) : (pure x : Id α) = x := rfl

/-- `exchange` goes to the TCP leg iff the translated condition holds of the UDP reply's TC flag -/
theorem exchange_translated (q : Nat) (u t : Leg) :
    exchange q u t =
      match u with
      | .err => ⟨.err, 0, none⟩
      | .msg tag tc => if Translated.c16_fallbackCond tc then ⟨t, 1, some q⟩ else ⟨.msg tag tc, 0, none⟩ := by
  cases u with
  | err => rfl
  | msg tag tc => rfl

/-- the header-only TC test, for every datagram length and every third octet -/
theorem udpTcHeaderOnly_translated (unpackFailed : Bool) (n b2 : Nat) :
    udpTcHeaderOnly unpackFailed n b2 = Translated.c16_tcHeaderCond unpackFailed n b2 := by
  unfold udpTcHeaderOnly Translated.c16_tcHeaderCond
  cases unpackFailed <;> simp only [Nat.reduceShiftLeft] <;> bool_arith

/-- the test looks at nothing but bit 1 (TC) of the third octet: a cut TC reply of at least a header is handed on
    as a TC message, a cut reply without TC or shorter than a header is not -/
theorem cutReply_eq (tag : Nat) (tc : Bool) (n : Nat) :
    cutReply tag tc n = if tc && decide (n ≥ 12) then .msg tag true else .err := by
  unfold cutReply udpTcHeaderOnly
  -- the third octet is 0x81 or 0x83: its bit 1 is `tc`
  have h0 : (129 + 0 &&& 2 != 0) = false := rfl
  have h1 : (129 + 2 &&& 2 != 0) = true := rfl
  cases tc
  · simp only [Bool.false_eq_true, if_false, h0, Bool.and_false, Bool.false_and]
  · simp only [if_true, h1, Bool.and_true]

end MosVerif.Fallback
