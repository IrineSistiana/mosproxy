/-
  Tie by translation (C02/C09): the DNS wire ENCODER, `Question.pack`, `ResourceHdr.pack` and the per-type packers of
  rr.go.  Every theorem: the buffer view of the model's packer (`Wire.packQuestionBuf` / `packResourceBuf`, i.e. the
  octets of `packQuestion` / `packResource` written with `writeAt`) is EQUAL to the function regenerated from the Go
  source, for all buffers, offsets, compression tables and field values, on top of the tie of `Name.pack`
  (`Name_pack_translated`).
-/
import MosVerif.Lemmas.TranslatedEncName
namespace MosVerif.Wire
open MosVerif

/-- the buffer view of a packer whose octets are `a ++ b`: write `a`, then `b` -/
theorem writeRes_append (msg : Bytes) (off : Nat) (a b : Bytes) (t : Option Table) :
    writeRes msg off (.ok (a ++ b, t)) =
      (writeRes msg off (.ok (a, t)) >>= fun r => writeAt r.1 r.2.2 b >>= fun w => .ok (w.1, t, w.2)) := by
  simp only [writeRes, writeAt_append]
  cases h : writeAt msg off a with
  | ok r =>
    simp only [Res.bind_ok']
    cases h2 : writeAt r.1 r.2 b <;> rfl
  | err => rfl
  | panic => rfl

theorem writeRes_err (msg : Bytes) (off : Nat) : writeRes msg off .err = .err := rfl

/-- a write never panics; whatever follows, if it always fails the whole fails -/
theorem writeAt_bind_err {α : Type} (b : Bytes) (off : Nat) (bs : Bytes) (f : Bytes × Nat → Res α)
    (h : ∀ a, f a = .err) : (writeAt b off bs >>= f) = .err := by
  unfold writeAt
  by_cases hf : off + bs.length ≤ b.length
  · simp only [hf, if_true, Res.bind_ok', h]
  · simp only [hf, if_false, Res.bind_err']

theorem Question_pack_tied (msg : Bytes) (off : Nat) (tbl : Option Table) (q : Question) :
    packQuestionBuf msg off tbl q = Translated.Question_pack q.name q.qtype q.qclass msg off tbl := by
  unfold packQuestionBuf packQuestion Translated.Question_pack
  rw [← Name_pack_translated]
  unfold packNameBuf
  cases hp : packName off tbl q.name with
  | err => rfl
  | panic => rfl
  | ok r =>
    obtain ⟨nb, tbl'⟩ := r
    simp only [Res.bind_ok']
    show writeRes msg off (.ok (nb ++ enc16 q.qtype ++ enc16 q.qclass, tbl')) = _
    simp only [writeRes_ok, writeAt_append, ← packUint16_translated, Res.bind_assoc', Res.bind_ok', Res.pure_eq]

/-- canonical form of `ResourceHdr.pack`: the owner name, then type, class, TTL and the given RDLENGTH -/
theorem ResourceHdr_pack_tied (name : Name) (ty cls ttl : Nat) (msg : Bytes) (off : Nat)
    (tbl : Option Table) (dl : Nat) :
    Translated.ResourceHdr_pack name ty cls ttl msg off tbl dl =
      writeRes msg off ((packName off tbl name) >>= fun r =>
        .ok (r.1 ++ enc16 ty ++ enc16 cls ++ enc32 ttl ++ enc16 dl, r.2)) := by
  unfold Translated.ResourceHdr_pack
  rw [← Name_pack_translated]
  unfold packNameBuf
  cases hp : packName off tbl name with
  | err => rfl
  | panic => rfl
  | ok r =>
    obtain ⟨nb, tbl'⟩ := r
    simp only [writeRes_ok, writeAt_append, ← packUint16_translated, ← packUint32_translated, Res.bind_assoc',
      Res.bind_ok', Res.pure_eq]

/-- `A.pack` (`r.A` is a `[4]byte`) -/
theorem A_pack_tied (msg : Bytes) (off : Nat) (tbl : Option Table)
    (name : Name) (ty cls ttl : Nat) (b : Bytes) (hb : b.length = 4) :
    packResourceBuf msg off tbl ⟨name, ty, cls, ttl, .a b⟩ = Translated.A_pack name ty cls ttl b msg off tbl := by
  unfold packResourceBuf packResource Translated.A_pack
  rw [ResourceHdr_pack_tied]
  cases hp : packName off tbl name with
  | err => rfl
  | panic => rfl
  | ok r =>
    obtain ⟨nb, tbl'⟩ := r
    simp only [packRData, hb, writeRes_ok, writeAt_append, ← packBytes_translated, Res.bind_assoc', Res.bind_ok',
      Res.pure_eq]

/-- `AAAA.pack` (`r.AAAA` is a `[16]byte`) -/
theorem AAAA_pack_tied (msg : Bytes) (off : Nat) (tbl : Option Table)
    (name : Name) (ty cls ttl : Nat) (b : Bytes) (hb : b.length = 16) :
    packResourceBuf msg off tbl ⟨name, ty, cls, ttl, .aaaa b⟩ = Translated.AAAA_pack name ty cls ttl b msg off tbl := by
  unfold packResourceBuf packResource Translated.AAAA_pack
  rw [ResourceHdr_pack_tied]
  cases hp : packName off tbl name with
  | err => rfl
  | panic => rfl
  | ok r =>
    obtain ⟨nb, tbl'⟩ := r
    simp only [packRData, hb, writeRes_ok, writeAt_append, ← packBytes_translated, Res.bind_assoc', Res.bind_ok',
      Res.pure_eq]

/-- `RawResource.pack`: any RDATA up to 65535 octets, `errResTooLong` beyond -/
theorem Raw_pack_tied (msg : Bytes) (off : Nat) (tbl : Option Table)
    (name : Name) (ty cls ttl : Nat) (d : Bytes) :
    packResourceBuf msg off tbl ⟨name, ty, cls, ttl, .raw d⟩ = Translated.RawResource_pack name ty cls ttl d msg off tbl := by
  unfold packResourceBuf packResource Translated.RawResource_pack
  rw [← Name_pack_translated]
  unfold packNameBuf
  cases hp : packName off tbl name with
  | err => rfl
  | panic => rfl
  | ok r =>
    obtain ⟨nb, tbl'⟩ := r
    by_cases hd : d.length > 65535
    · simp only [packRData, hd, if_true, writeRes_ok, ← packUint16_translated, ← packUint32_translated,
        Res.bind_assoc', Res.bind_ok', Res.pure_eq, Res.bind_err', writeRes_err, GoSem.len, decide_true]
      symm
      apply writeAt_bind_err; intro _
      apply writeAt_bind_err; intro _
      apply writeAt_bind_err; intro _
      apply writeAt_bind_err; intro _
      rfl
    · simp only [packRData, hd, if_false, writeRes_ok, writeAt_append, ← packUint16_translated,
        ← packUint32_translated, ← packBytes_translated, Res.bind_assoc', Res.bind_ok', Res.pure_eq, GoSem.len,
        decide_false, Bool.false_eq_true]

end MosVerif.Wire
