/-
  C05 — every move preserves the invariant: the exchange that moves gets its `PcOk` afresh,
  all others keep theirs by `PcOk.extend`.
-/
import MosVerif.Lemmas.PipelineInv
namespace MosVerif.Pipeline

section steps
variable {cfg : Cfg} {s : State}

theorem Inv.record (h : Inv cfg s) {ev : Ev} {pcs : Nat → Pc} (hne : ∀ e c id, ev ≠ .assign e c id)
    (hok : okEv cfg ev s.hist = true) (hp : ∀ e, PcOk { s with hist := ev :: s.hist, pcs := pcs } e (pcs e)) :
    Inv cfg { s with hist := ev :: s.hist, pcs := pcs } :=
  .of_pcOk h.nq_le h.base_le (fun e c id hm => h.asg_lt e c id (List.mem_of_ne_of_mem (fun he => hne e c id he.symm) hm)) h.qch_lt
    (by rw [spec, hok, h.sp]; rfl) hp

theorem Inv.discard (h : Inv cfg s) (c i p : Nat) : Inv cfg { s with hist := .reply c i p :: s.hist } :=
  h.record nofun rfl fun _ => (h.pcOk rfl).extend (keeps_cons _ nofun nofun) (Nat.le_refl _) (fun _ _ _ _ => id) (fun _ _ _ => id)

theorem Inv.move (h : Inv cfg s) {s' : State} (m : Move cfg s s') : Inv cfg s' := by
  cases m with
  | conn conns hn hq hc =>
    exact .of_pcOk (fun c => hn c ▸ h.nq_le c) (fun c => hn c ▸ h.base_le c) (fun e c i hm => hn c ▸ h.asg_lt e c i hm)
      (fun c q ch hg => h.qch_lt c q ch (hq c q ch hg)) h.sp
      fun e => (h.pcOk rfl).extend (.refl _ _) (Nat.le_refl _) (fun c q ch _ => hq c q ch) (fun _ _ _ => id)
  | register e c k q hpc hk =>
    obtain ⟨a1, a2, a3, a4, _⟩ := addQueueC_some hk
    have hn' : ∀ c', (s.conns c').nextQid ≤ (upd s.conns c k c').nextQid := fun c' => by
      by_cases hc' : c' = c
      · rw [hc', upd_same, a3]; exact Nat.le_succ _
      · rw [upd_other _ _ _ _ hc']; exact Nat.le_refl _
    have hq' : ∀ c' a ch, qget a (upd s.conns c k c').queue = some ch →
        (c' = c ∧ a = q ∧ ch = s.nchan) ∨ qget a (s.conns c').queue = some ch := fun c' a ch hg => by
      by_cases hc' : c' = c
      · rw [hc', upd_same, a4, qget_qput] at hg
        split at hg
        · rename_i ha; cases hg; exact .inl ⟨hc', ha, rfl⟩
        · rw [hc']; exact .inr hg
      · rw [upd_other _ _ _ _ hc'] at hg; exact .inr hg
    have hold : ∀ c' a ch, ch < s.nchan → qget a (upd s.conns c k c').queue = some ch → qget a (s.conns c').queue = some ch :=
      fun c' a ch hlt hg => (hq' c' a ch hg).resolve_left fun ⟨_, _, he⟩ => Nat.lt_irrefl _ (he ▸ hlt)
    have hnr : returned e s.hist = false := h.pcOk hpc
    refine .of_pcOk (fun c' => ?nq_le) (fun c' => Nat.le_trans (h.base_le c') (hn' c')) (fun x c' i hm => ?asg_lt)
      (fun c' a ch hg => ?qch_lt) ?sp
      (pcOk_upd (pc := .registered c q s.nchan)
        { noret := ?noret, cur := ?cur, ch_lt := Nat.lt_succ_self _, own := fun c' a hg => ?own, buf := fun p k' hf => ?buf }
        fun x hx => ?others)
    case nq_le =>
      show (upd s.conns c k c').nextQid ≤ 65536
      by_cases hc' : c' = c
      · rw [hc', upd_same, a3]; exact Nat.succ_le_succ a1
      · rw [upd_other _ _ _ _ hc']; exact h.nq_le c'
    case asg_lt =>
      rcases List.mem_cons.mp hm with h1 | h1
      · cases h1
        show q < (upd s.conns c k c).nextQid
        rw [upd_same, a3, a2]; exact Nat.lt_succ_self _
      · exact Nat.lt_of_lt_of_le (h.asg_lt x c' i h1) (hn' c')
    case qch_lt =>
      rcases hq' c' a ch hg with ⟨_, _, h1⟩ | h1
      · exact h1 ▸ Nat.lt_succ_self _
      · exact Nat.lt_succ_of_lt (h.qch_lt c' a ch h1)
    case sp =>
      -- `q` is the counter of `c`, every id handed out on `c` is below it
      have hu : idUsed c q s.hist = false := by
        cases hu : idUsed c q s.hist with
        | false => rfl
        | true =>
          obtain ⟨e', he'⟩ := (idUsed_eq_true_iff c q s.hist).mp hu
          exact absurd (h.asg_lt e' c q he') (a2 ▸ Nat.lt_irrefl _)
      have hb := h.base_le c
      have hlt : q < 65536 := by omega
      have hle : cfg.base c ≤ q := by omega
      show spec cfg (.assign e c q :: s.hist) = true
      simp [spec, okEv, h.sp, hnr, hu, hlt, hle]
    case noret => exact (returned_cons_of_not_ret e (.assign e c q) _ nofun).trans hnr
    case cur =>
      show curAssign e (.assign e c q :: s.hist) = some (c, q)
      simp [curAssign]
    case own =>
      -- the channel is new: only the entry just made can hold it
      rcases hq' c' a _ hg with ⟨h1, h2, _⟩ | h1
      · exact ⟨h1.symm, h2.symm⟩
      · exact absurd (h.qch_lt c' a _ h1) (Nat.lt_irrefl _)
    case buf =>
      have : upd s.chans s.nchan Slot.empty s.nchan = .full p k' := hf
      rw [upd_same] at this
      cases this
    case others =>
      exact (h.pcOk rfl).extend (keeps_cons _ (fun _ _ he => hx (by cases he; rfl)) nofun) (Nat.le_succ _) hold
        fun _ _ _ => upd_empty_full
  | sent e c q ch hpc =>
    have hh : Holding s e c q ch := h.pcOk hpc
    exact h.record nofun (by simp [okEv, hh.cur])
      (pcOk_upd (pc := .waiting c q ch) (hh.extend (keeps_cons _ nofun nofun) (Nat.le_refl _) (fun _ _ => id) (fun _ _ => id))
        fun x _ => (h.pcOk rfl).extend (keeps_cons _ nofun nofun) (Nat.le_refl _) (fun _ _ _ _ => id) (fun _ _ _ => id))
  | abandon e c q ch hpc =>
    have hh : Holding s e c q ch := hpc.elim h.pcOk h.pcOk
    exact .of_pcOk h.nq_le h.base_le h.asg_lt h.qch_lt h.sp
      (pcOk_upd (pc := .leaving c q none) ⟨hh.noret, hh.cur, nofun⟩ fun x _ =>
        (h.pcOk rfl).extend (.refl _ _) (Nat.le_refl _) (fun _ _ _ _ => id) (fun _ _ _ => id))
  | discard c i p => exact h.discard c i p
  | deliver c i p ch hq hch =>
    -- of the fields of `Inv` only `buf` looks at the channels: the others are those of the state without the delivery
    have hb := h.discard c i p
    refine { hb with buf := fun e c' q' ch' p' k hp hf => ?_ }
    by_cases hc : ch' = ch
    · rw [hc] at hp
      have : upd s.chans ch (.full p s.hist.length) ch' = .full p' k := hf
      rw [hc, upd_same] at this
      cases this
      obtain ⟨h1, h2⟩ := h.own c i ch e c' q' hq hp
      rw [h1, h2]
      exact replySince_reply _ _ _ _ _
    · have : upd s.chans ch (.full p s.hist.length) ch' = .full p' k := hf
      rw [upd_other _ _ _ _ hc] at this
      exact hb.buf e c' q' ch' p' k hp this
  | take e c q ch p k hpc hch =>
    have hh : Holding s e c q ch := h.pcOk hpc
    exact .of_pcOk h.nq_le h.base_le h.asg_lt h.qch_lt h.sp
      (pcOk_upd (pc := .leaving c q (some p)) ⟨hh.noret, hh.cur, fun p' hp' => by cases hp'; exact hh.buf p k hch⟩
        fun x _ => (h.pcOk rfl).extend (.refl _ _) (Nat.le_refl _) (fun _ _ _ _ => id) fun _ _ _ => upd_empty_full)
  | retire e c q hpc =>
    have hl : Leaving s e c q none := h.pcOk hpc
    exact .of_pcOk h.nq_le h.base_le h.asg_lt h.qch_lt h.sp
      (pcOk_upd (pc := .idle) hl.noret fun x _ =>
        (h.pcOk rfl).extend (.refl _ _) (Nat.le_refl _) (fun _ _ _ _ => id) (fun _ _ _ => id))
  | giveUp e hpc =>
    have hi : returned e s.hist = false := h.pcOk hpc
    exact h.record nofun (by simp [okEv, hi]) (pcOk_upd (pc := .done) trivial fun x hx =>
      (h.pcOk rfl).extend (keeps_cons _ nofun fun _ he => hx (by cases he; rfl)) (Nat.le_refl _) (fun _ _ _ _ => id) (fun _ _ _ => id))
  | «return» e c q p hpc =>
    have hl : Leaving s e c q (some p) := h.pcOk hpc
    exact h.record nofun (by simp [okEv, hl.noret, hl.cur, hl.got p rfl]) (pcOk_upd (pc := .done) trivial fun x hx =>
      (h.pcOk rfl).extend (keeps_cons _ nofun fun _ he => hx (by cases he; rfl)) (Nat.le_refl _) (fun _ _ _ _ => id) (fun _ _ _ => id))

theorem inv_step (h : Inv cfg s) (st : Step) : Inv cfg (step cfg s st) :=
  step_preserves (fun h m => h.move m) h st

theorem inv_exec (h : Inv cfg s) (steps : List Step) : Inv cfg (exec cfg s steps) :=
  exec_preserves (fun h m => h.move m) h steps

end steps
end MosVerif.Pipeline
