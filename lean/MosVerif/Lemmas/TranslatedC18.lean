/-
  Tie by translation (C18, counting / limit conditions): the close model (Model/Close.lean) abstracts a pipelined
  connection's id counter as `left` = the number of wire ids it has left = `idSpace - nextQid`. Under that reading
  its two tests — `0 < c.left` in `usable` (the pool picks the connection: `Status().Available`, nothing reserved)
  and `c.left = 0 && no query in flight` in `sweep` (`deleteQueueC`: `eol := c.nextQid > 65535 && len(c.queue) ==
  0`) — are, for every value of the counter, the conditions translated mechanically from the current Go source
  (fragments shared with C05: internal/upstream/transport/pipeline_conn.go).
-/
import MosVerif.Lemmas.TranslatedC05
import MosVerif.Model.Close
namespace MosVerif.Close
open MosVerif

theorem id_pure_c18 {α : Type} (x : α) : (pure x : Id α) = x := rfl

/-- `usable`: a pipelined connection is picked iff it is open, tracked and `Status().Available` (translated) -/
theorem usable_pipe_translated (c : Conn) (nextQid : Nat) (a : Bool) (h : c.left = idSpace - nextQid) :
    usable .pipe c = (c.isOpen && c.tracked && Translated.c05_status_avail a nextQid 0) := by
  rw [Pipeline.c05_status_avail_eq]
  unfold usable idSpace at *
  by_cases h1 : nextQid ≤ 65535
  · have : 0 < c.left := by omega
    simp [h1, this]
  · have : ¬ 0 < c.left := by omega
    simp [h1, this]

/-- the counter test of `addQueueC` (end of life: no id is handed out) is `left = 0` -/
theorem left_zero_translated (nextQid : Nat) :
    decide (idSpace - nextQid = 0) = Translated.c05_addQ_eol nextQid := by
  unfold Translated.c05_addQ_eol idSpace
  bool_arith

/-- `sweep`: the connection closes itself iff the translated `eol` holds of its counter and of the number of
    its queries in flight (`len(c.queue)`) -/
theorem sweep_cond_translated (c : Conn) (exs : List Ex) (nextQid : Nat) (h : c.left = idSpace - nextQid) :
    (decide (c.left = 0) && !(exs.any (fun x => x.res.isNone && x.loc == .conn c.id))) =
      Translated.c05_delQ_eol nextQid (exs.filter (fun x => x.res.isNone && x.loc == .conn c.id)).length := by
  rw [Pipeline.c05_delQ_eol_eq, h, left_zero_translated, Pipeline.c05_addQ_eol_eq]
  have hl : (!(exs.any (fun x => x.res.isNone && x.loc == .conn c.id))) =
      decide ((exs.filter (fun x => x.res.isNone && x.loc == .conn c.id)).length = 0) := by
    generalize (fun x : Ex => x.res.isNone && x.loc == .conn c.id) = p
    induction exs with
    | nil => simp
    | cons x xs ih => cases hp : p x <;> simp_all [List.filter]
  rw [hl]

end MosVerif.Close
