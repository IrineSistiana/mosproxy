/-
  C18 — history lemmas about the close-protocol model: what a step does to the exchanges (`step_shape`), and
  from it where exchange ids, successes, context errors and blocked callers come from.  Used by the theorem that
  the model meets the executable specification.  Then: no stubborn dial without a stubborn start (`NoStub`), and
  scripts — what `expand` makes of an operation, the split at the first `close`.
-/
import MosVerif.Lemmas.CloseLemmas
namespace MosVerif.Close

/-- What a step may do to one exchange `y`: it keeps its id, and its result — unless it had none and now fails,
    succeeds through its `reply` while a connection is open, or ends with its context through its `cancel`. -/
inductive Moved (s : St) (op : Op) (y : Ex) : Ex → Prop
  | same {x : Ex} (hid : x.id = y.id) (hr : x.res = y.res) : Moved s op y x
  | failed {x : Ex} (hid : x.id = y.id) (hn : y.res = none) (hr : x.res = some .err) : Moved s op y x
  | replied {x : Ex} (hid : x.id = y.id) (hn : y.res = none) (hr : x.res = some .ok) (hop : op = .reply y.id)
      (c : Conn) (hc : c ∈ s.conns) (ho : c.isOpen = true) : Moved s op y x
  | cancelled {x : Ex} (hid : x.id = y.id) (hn : y.res = none) (hr : x.res = some .ctx)
      (hop : op = .cancel y.id) : Moved s op y x

theorem Moved.id_eq {s : St} {op : Op} {y x : Ex} (h : Moved s op y x) : x.id = y.id := by
  cases h <;> assumption

theorem Moved.err (s : St) (op : Op) (y : Ex) (l : Loc) :
    Moved s op y { y with res := y.res.or (some .err), loc := l } := by
  cases h : y.res with
  | none => exact .failed rfl h rfl
  | some r => exact .same rfl h.symm

/-- The exchanges after a step are those before it, in their order and each `Moved`, followed by the exchange
    the step has started, if it has: that one fails at once on a closed transport and waits otherwise. -/
def Shape (s : St) (op : Op) (s' : St) : Prop :=
  ∃ (f : Ex → Ex) (new : List Ex), s'.exs = s.exs.map f ++ new ∧ (∀ y, Moved s op y (f y)) ∧
    ∀ x ∈ new, startId op = some x.id ∧ x.res = if s.closed then some .err else none

theorem Shape.same {s s' : St} (op : Op) (h : s'.exs = s.exs) : Shape s op s' :=
  ⟨id, [], by rw [h, List.map_id, List.append_nil], fun _ => .same rfl rfl, fun _ h => nomatch h⟩

theorem Shape.map {s s' : St} (op : Op) (f : Ex → Ex) (h : s'.exs = s.exs.map f) (hf : ∀ y, Moved s op y (f y)) :
    Shape s op s' :=
  ⟨f, [], by rw [h, List.append_nil], hf, fun _ h => nomatch h⟩

theorem Shape.add {s s' : St} (op : Op) (x : Ex) (h : s'.exs = s.exs ++ [x])
    (hx : startId op = some x.id ∧ x.res = if s.closed then some .err else none) : Shape s op s' :=
  ⟨id, [x], by rw [h, List.map_id], fun _ => .same rfl rfl, fun _ h => List.mem_singleton.mp h ▸ hx⟩

theorem Shape.sweep {s s' : St} {op : Op} (h : Shape s op s') : Shape s op (sweep s') :=
  sweep_eq s' ▸ h

theorem step_shape (s : St) (op : Op) : Shape s op (step s op) := by
  cases op with
  | trunc e => exact .same _ rfl
  | burn k => exact Shape.sweep (burn_eq s k ▸ .same _ rfl)
  | timer =>
    refine ite_ind (fun _ => .same _ rfl) fun _ => ?_
    split <;> exact .same _ rfl
  | start e b =>
    refine ite_ind (fun _ => .same _ rfl) fun _ =>
      ite_ind (fun hc => .add _ _ rfl ⟨rfl, (if_pos hc).symm⟩) fun hc => ?_
    -- the new exchange goes on a usable connection, waits for the shared dial, or dials
    split
    · exact .add _ _ rfl ⟨rfl, (if_neg hc).symm⟩
    · split
      · exact .add _ _ rfl ⟨rfl, (if_neg hc).symm⟩
      · exact .add _ _ rfl ⟨rfl, (if_neg hc).symm⟩
  | cancel e =>
    refine Shape.sweep (.map _ _ rfl fun y => ite_ind (fun h => ?_) fun _ => .same rfl rfl)
    simp only [Bool.and_eq_true, decide_eq_true_eq, Option.isNone_iff_eq_none] at h
    exact .cancelled rfl h.2 rfl (by rw [h.1])
  | reply e =>
    refine Shape.sweep ?_
    unfold replyOp
    split
    · split
      · refine ite_ind (fun hopen => ?_) fun _ => .same _ rfl
        obtain ⟨c, hc, ho⟩ := List.any_eq_true.mp hopen
        refine .map _ _ rfl fun y => ite_ind (fun hid => ?_) fun _ => .same rfl rfl
        cases h : y.res with
        | none => exact .replied rfl h rfl (by rw [hid]) c hc (Bool.and_eq_true_iff.mp ho).2
        | some r => exact .same rfl h.symm
      · exact .same _ rfl
    · exact .same _ rfl
  | dialErr d =>
    exact ite_ind (fun _ => .same _ rfl) fun _ => .map _ _ rfl fun y =>
      ite_ind (fun _ => Moved.err s _ y _) fun _ => .same rfl rfl
  | dialOk d =>
    refine ite_ind (fun _ => .same _ rfl) fun _ => ite_ind
      (fun _ => .map _ _ rfl fun y => ite_ind (fun _ => Moved.err s _ y _) fun _ => .same rfl rfl)
      fun _ => .map _ _ rfl fun y =>
        -- a waiter of `d` leaves the dial or moves to the new connection; the result stays
        ite_ind (fun _ => ite_ind (fun _ => .same rfl rfl) fun _ => .same rfl rfl) fun _ => .same rfl rfl
  | close =>
    refine ite_ind (fun _ => .same _ rfl) fun _ => .map _ _ rfl fun y => ?_
    -- Close fails who sits on a connection or waits for a dial that it cancels
    split
    · exact Moved.err s _ y _
    · exact ite_ind (fun _ => Moved.err s _ y _) fun _ => .same rfl rfl
    · exact .same rfl rfl

/-- an exchange of the new state is a `Moved` one of the old state, or has just been started -/
theorem step_res (s : St) (op : Op) : ∀ x ∈ (step s op).exs,
    (∃ y ∈ s.exs, Moved s op y x) ∨
      startId op = some x.id ∧ x.res = if s.closed then some .err else none := by
  obtain ⟨f, new, he, hf, hn⟩ := step_shape s op
  intro x hx
  rcases List.mem_append.mp (he ▸ hx) with hx | hx
  · obtain ⟨y, hy, rfl⟩ := List.mem_map.mp hx
    exact Or.inl ⟨y, hy, hf y⟩
  · exact Or.inr (hn x hx)

/-- exchanges never disappear -/
theorem step_keeps (s : St) (op : Op) (e : Nat) (h : ∃ x ∈ s.exs, x.id = e) :
    ∃ x ∈ (step s op).exs, x.id = e := by
  obtain ⟨f, new, he, hf, _⟩ := step_shape s op
  obtain ⟨y, hy, hid⟩ := h
  exact ⟨f y, he ▸ List.mem_append_left _ (List.mem_map_of_mem hy), (hf y).id_eq.trans hid⟩

theorem start_exists (s : St) (e : Nat) (b : Bool) : ∃ x ∈ (step s (.start e b)).exs, x.id = e := by
  refine ite_ind (P := fun s' : St => ∃ x ∈ s'.exs, x.id = e) (fun h => by simpa [St.hasEx] using h) fun _ => ?_
  repeat' split
  all_goals exact ⟨_, List.mem_append_right _ (List.mem_singleton_self _), rfl⟩

/-- an exchange that a script starts is there at its end -/
theorem run_exists (s : St) (l : List Op) (e : Nat) (b : Bool) (h : Op.start e b ∈ l) :
    ∃ x ∈ (run s l).exs, x.id = e := by
  induction l generalizing s with
  | nil => cases h
  | cons op rest ih =>
    rcases List.mem_cons.mp h with rfl | h
    · exact run_induction (l := rest) (fun s' op _ => step_keeps s' op e) (start_exists s e b)
    · exact ih (step s op) h

/-- every exchange was started by the script, has succeeded only through its `reply` and has ended with its
    context only through its `cancel` -/
def Origin (l : List Op) (s : St) : Prop :=
  ∀ x ∈ s.exs,
    x.id ∈ l.filterMap startId ∧ (x.res = some .ok → .reply x.id ∈ l) ∧ (x.res = some .ctx → .cancel x.id ∈ l)

theorem reach_origin (k : Kind) (l : List Op) : Origin l (run (init k) l) := by
  refine run_induction (fun s op hop h x hx => ?_) fun _ h => nomatch (h : _ ∈ [])
  rcases step_res s op x hx with ⟨y, hy, hm⟩ | ⟨hs, hr⟩
  · cases hm with
    | same hid hr =>
      rw [hid, hr]
      exact h y hy
    | failed hid _ hr =>
      rw [hid, hr]
      exact ⟨(h y hy).1, nofun, nofun⟩
    | replied hid _ hr ho =>
      rw [hid, hr, ← ho]
      exact ⟨(h y hy).1, fun _ => hop, nofun⟩
    | cancelled hid _ hr ho =>
      rw [hid, hr, ← ho]
      exact ⟨(h y hy).1, nofun, fun _ => hop⟩
  · -- just started: it waits, or has failed at once
    refine ⟨List.mem_filterMap.mpr ⟨op, hop, hs⟩, ?_⟩
    split at hr
    all_goals
      rw [hr]
      exact ⟨nofun, nofun⟩

/-- relative to a closed state `s`: an exchange that was there succeeds only if it had succeeded, every other
    one fails -/
def ClosedRes (s s' : St) : Prop :=
  ∀ x ∈ s'.exs, (∃ y ∈ s.exs, y.id = x.id ∧ (x.res = some .ok → y.res = some .ok)) ∨ x.res = some .err

theorem run_closed_res (s : St) (l : List Op) (hi : Inv s) (hc : s.closed = true) : ClosedRes s (run s l) := by
  -- the claim travels with what keeps it true: the invariant and the closed flag
  have key : Inv (run s l) ∧ (run s l).closed = true ∧ ClosedRes s (run s l) := by
    refine run_induction (P := fun s' => Inv s' ∧ s'.closed = true ∧ ClosedRes s s')
      (fun s' op _ ⟨hi', hc', h⟩ => ⟨inv_step s' op hi', closed_step s' op hc', fun x hx => ?_⟩)
      ⟨hi, hc, fun x hx => Or.inl ⟨x, hx, rfl, id⟩⟩
    rcases step_res s' op x hx with ⟨y, hy, hm⟩ | ⟨_, hr⟩
    · cases hm with
      | same hid hr =>
        rw [hid, hr]
        exact h y hy
      | failed _ _ hr => exact Or.inr hr
      | replied _ _ _ _ c hcm ho =>
        -- no connection is open
        exact absurd ((hi'.closedNoOpen hc' c hcm).symm.trans ho) Bool.false_ne_true
      | cancelled hid hn hr _ =>
        rw [hid, hr]
        rcases h y hy with ⟨z, hz, hzid, _⟩ | he
        · exact Or.inl ⟨z, hz, hzid, nofun⟩
        · rw [hn] at he
          cases he
    · exact Or.inr (hr.trans (if_pos hc'))
  exact key.2.2

theorem no_ok_after_close (s : St) (op : Op) (hi : Inv s) (hc : s.closed = true) :
    ∀ x ∈ (step s op).exs, x.res = some .ok → ∃ y ∈ s.exs, y.id = x.id ∧ y.res = some .ok := by
  intro x hx hr
  rcases run_closed_res s [op] hi hc x hx with ⟨y, hy, hid, h⟩ | h
  · exact ⟨y, hy, hid, h hr⟩
  · exact nomatch h.symm.trans hr

/-- no stubborn dial is pending and nobody was blocked when the first Close had returned -/
structure NoStub (s : St) : Prop where
  dials : ∀ d ∈ s.dials, d.stubborn = false
  atc : s.atClose.getD [] = []

theorem step_nostub (s : St) (op : Op) (hop : isStubStart op = false) (hi : Inv s) (h : NoStub s) :
    NoStub (step s op) := by
  have hd : ∀ d ∈ (step s op).dials, d.stubborn = false := fun d hd => by
    rcases (step_frame s op).2.2 d hd with hd | rfl
    · exact h.dials d hd
    · cases hs : d.stubborn with
      | false => rfl
      | true => rw [hs] at hop; cases hop
  refine ⟨hd, ?_⟩
  by_cases hop' : op = .close
  · subst hop'
    by_cases hc : s.closed = true
    · rw [show step s .close = s from closeOp_of_closed s hc]
      exact h.atc
    · -- the first Close: whoever is still blocked waits for a stubborn dial, and there is none
      have hi' := inv_step s .close hi
      have hnil : (closeOp s).exs.filter (·.res.isNone) = [] :=
        List.filter_eq_nil_iff.mpr fun x hx hn => by
          obtain ⟨⟨d, hdm, _⟩, _⟩ :=
            hi'.closedBlocked (closeOp_closed s) x hx (Option.isNone_iff_eq_none.mp hn)
          exact Bool.false_ne_true ((hd d hdm).symm.trans (hi'.closedDials (closeOp_closed s) d hdm))
      have hat : (closeOp s).atClose = some (((closeOp s).exs.filter (·.res.isNone)).map (·.id)) := by
        simp [closeOp, hc]
      show (closeOp s).atClose.getD [] = []
      rw [hat, hnil]
      rfl
  · rw [((step_frame s op).2.1 hop').2]
    exact h.atc

theorem run_nostub (s : St) (l : List Op) (hl : ∀ op ∈ l, isStubStart op = false) (hi : Inv s)
    (h : NoStub s) : NoStub (run s l) :=
  (run_induction (P := fun s' => Inv s' ∧ NoStub s')
    (fun s' op hop h => ⟨inv_step s' op h.1, step_nostub s' op (hl op hop) h.1 h.2⟩) ⟨hi, h⟩).2

/-! ### scripts: expansion and the position of the first Close -/

/-- what the harness makes of an operation: the operation itself, or for a `start` with a real dialer the
    start and the completion of its dial -/
theorem expand_sub (auto : Bool) (o op : Op) (h : op ∈ expand auto o) :
    op = o ∨ ∃ e b, o = .start e b ∧ (op = .start e false ∨ op = .dialOk e) := by
  unfold expand at h
  split at h
  · split at h
    · exact Or.inr ⟨_, _, rfl, by simpa using h⟩
    · exact Or.inl (List.mem_singleton.mp h)
  -- the catch-all `| op => [op]` of `expand`
  case h_6 => exact Or.inl (List.mem_singleton.mp h)
  all_goals
    split at h
    · cases h
    · exact Or.inl (List.mem_singleton.mp h)

theorem expand_startIds (auto : Bool) (l : List Op) :
    (l.flatMap (expand auto)).filterMap startId = l.filterMap startId := by
  induction l with
  | nil => rfl
  | cons op rest ih =>
    have h1 : (expand auto op).filterMap startId = (startId op).toList := by
      cases op <;> cases auto <;> rfl
    simp only [List.flatMap_cons, List.filterMap_append, ih, h1, List.filterMap_cons]
    cases startId op <;> rfl

/-- what the harness runs that is neither a `start` nor a returning dial stands in the script (so the harness
    adds neither replies nor cancellations) -/
theorem expand_passes (auto : Bool) (l : List Op) (op : Op) (hs : ∀ e b, op ≠ .start e b)
    (hd : ∀ e, op ≠ .dialOk e) (h : op ∈ l.flatMap (expand auto)) : op ∈ l := by
  obtain ⟨o, ho, h⟩ := List.mem_flatMap.mp h
  rcases expand_sub auto o op h with rfl | ⟨e, b, _, h | h⟩
  · exact ho
  · exact absurd h (hs e false)
  · exact absurd h (hd e)

theorem expand_nostub (auto : Bool) (l : List Op) (h : l.any isStubStart = false) :
    ∀ op ∈ l.flatMap (expand auto), isStubStart op = false := by
  intro op hop
  obtain ⟨o, ho, hop⟩ := List.mem_flatMap.mp hop
  rcases expand_sub auto o op hop with rfl | ⟨e, b, _, rfl | rfl⟩
  · exact Bool.eq_false_iff.mpr fun hs => Bool.false_ne_true (h.symm.trans (List.any_eq_true.mpr ⟨op, ho, hs⟩))
  · rfl
  · rfl

theorem takeWhile_noclose (ops : List Op) : ∀ op ∈ ops.takeWhile (· != .close), op ≠ .close := by
  induction ops with
  | nil => simp
  | cons o rest ih =>
    intro op hop
    by_cases ho : o = .close
    · subst ho
      simp at hop
    · have hne : (o != Op.close) = true := by simpa using ho
      simp only [List.takeWhile_cons, hne, if_true, List.mem_cons] at hop
      rcases hop with rfl | hop
      · exact ho
      · exact ih op hop

theorem split_close (ops : List Op) (h : ops.contains .close = true) :
    ∃ rest, ops = ops.takeWhile (· != .close) ++ .close :: rest := by
  have hs := List.takeWhile_append_dropWhile (p := (· != Op.close)) (l := ops)
  cases hd : ops.dropWhile (· != .close) with
  | nil =>
    rw [hd, List.append_nil] at hs
    exact absurd rfl (takeWhile_noclose ops _ (by rw [hs]; exact List.contains_iff_mem.mp h))
  | cons a rest =>
    have ha := List.head_dropWhile_not (· != Op.close) (l := ops) (by rw [hd]; exact List.cons_ne_nil _ _)
    simp only [hd, List.head_cons, bne_eq_false_iff_eq] at ha
    subst ha
    exact ⟨rest, hd ▸ hs.symm⟩

theorem expand_noclose_ids (auto : Bool) (l : List Op) :
    ((l ++ [Op.close]).flatMap (expand auto)).filterMap startId = l.filterMap startId := by
  rw [expand_startIds]
  simp [List.filterMap_append, startId]

end MosVerif.Close
