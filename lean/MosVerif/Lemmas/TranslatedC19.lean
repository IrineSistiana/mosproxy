/-
  Tie by translation (C19): the whole of `needPrefetch`, translated mechanically from the current Go source, equals
  the model's. The whole function is the fragment, so a renamed local in the source does not matter.
-/
import MosVerif.Generated.Translated
import MosVerif.Model.Prefetch
namespace MosVerif.Prefetch
open MosVerif

theorem id_pure_any {α : Type} (x : α) : (pure x : Id α) = x := rfl

/-- ★ tie: the WHOLE of `needPrefetch` — `lifeSpan := expireTime.Sub(storedTime)`, `remainTtl := time.Until(expireTime)`,
    the comparison with the arithmetic shift — translated with the translator's arithmetic reading of time.Time
    (spec option `time`: instants are integer nanoseconds, ℤ arithmetic), IS the model's `needPrefetch`, for all
    instants. (Go's Sub/Until saturate at ±2⁶³ ns ≈ 292 years; cache lifetimes are at most ten years, C08.) -/
theorem c19_needPrefetch_translated (stored expire now : Int) :
    needPrefetch stored expire now = Translated.c19_needPrefetch stored expire now := by
  unfold needPrefetch Translated.c19_needPrefetch
  simp only [Id.run, id_pure_any]

end MosVerif.Prefetch
