/-
  C05 — the history predicates of the specification (`curAssign`, `replySince`, `spec`) unfolded
  into explicit shapes of the history. Rests on Lemmas/PipelineBasic.lean only.
-/
import MosVerif.Lemmas.PipelineBasic
namespace MosVerif.Pipeline

/-- `curAssign e h = some (c, id)`: the newest `assign e …` event in `h` is `assign e c id` -/
theorem curAssign_shape {e c id : Nat} {h : List Ev} (hc : curAssign e h = some (c, id)) :
    ∃ l2 l3, h = l2 ++ Ev.assign e c id :: l3 ∧ ∀ c' id', Ev.assign e c' id' ∉ l2 := by
  induction h with
  | nil => simp [curAssign] at hc
  | cons ev t ih =>
    have push : curAssign e t = some (c, id) → (∀ c' id', ev ≠ Ev.assign e c' id') →
        ∃ l2 l3, ev :: t = l2 ++ Ev.assign e c id :: l3 ∧ ∀ c' id', Ev.assign e c' id' ∉ l2 := by
      intro hc' hne
      obtain ⟨l2, l3, h1, h2⟩ := ih hc'
      refine ⟨ev :: l2, l3, by simp [h1], ?_⟩
      intro c' id' hm
      rcases List.mem_cons.mp hm with h3 | h3
      · exact hne c' id' h3.symm
      · exact h2 c' id' h3
    cases ev with
    | assign e' c' id' =>
      by_cases he : e' = e
      · -- the newest event is the assignment itself
        subst he
        simp [curAssign] at hc
        obtain ⟨h1, h2⟩ := hc
        subst h1
        subst h2
        exact ⟨[], t, rfl, by simp⟩
      · simp [curAssign, he] at hc
        have hne : ∀ c'' id'', Ev.assign e' c' id' ≠ Ev.assign e c'' id'' := by
          intro _ _ h
          cases h
          exact he rfl
        exact push hc hne
    | _ =>
      have hc' : curAssign e t = some (c, id) := by simpa [curAssign] using hc
      exact push hc' (by intro _ _; simp)

theorem curAssign_mem {e c id : Nat} {h : List Ev} (hc : curAssign e h = some (c, id)) : Ev.assign e c id ∈ h :=
  let ⟨_, _, hh, _⟩ := curAssign_shape hc
  hh ▸ List.mem_append_right _ List.mem_cons_self

/-- the two history predicates of the specification, spelled out: the history (newest first) is
    `l1 ++ reply c id p :: l2 ++ assign e c id :: l3` with no `assign e …` in `l1`, `l2` -/
theorem since_shape {e c id p : Nat} {h : List Ev} (hc : curAssign e h = some (c, id))
    (hr : replySince e c id p h = true) :
    ∃ l1 l2 l3, h = l1 ++ Ev.reply c id p :: (l2 ++ Ev.assign e c id :: l3) ∧
      (∀ c' id', Ev.assign e c' id' ∉ l1) ∧ (∀ c' id', Ev.assign e c' id' ∉ l2) := by
  induction h with
  | nil => simp [curAssign] at hc
  | cons ev t ih =>
    have push : curAssign e t = some (c, id) → replySince e c id p t = true → (∀ c' id', ev ≠ Ev.assign e c' id') →
        ∃ l1 l2 l3, ev :: t = l1 ++ Ev.reply c id p :: (l2 ++ Ev.assign e c id :: l3) ∧
          (∀ c' id', Ev.assign e c' id' ∉ l1) ∧ (∀ c' id', Ev.assign e c' id' ∉ l2) := by
      intro hc' hr' hne
      obtain ⟨l1, l2, l3, h1, h2, h3⟩ := ih hc' hr'
      refine ⟨ev :: l1, l2, l3, by simp [h1], ?_, h3⟩
      intro c' id' hm
      rcases List.mem_cons.mp hm with h4 | h4
      · exact hne c' id' h4.symm
      · exact h2 c' id' h4
    cases ev with
    | assign e' c' id' =>
      by_cases he : e' = e
      · -- `replySince` stops at an assignment to `e`
        subst he
        simp [replySince] at hr
      · simp [curAssign, he] at hc
        simp [replySince, he] at hr
        have hne : ∀ c'' id'', Ev.assign e' c' id' ≠ Ev.assign e c'' id'' := by
          intro _ _ h
          cases h
          exact he rfl
        exact push hc hr hne
    | reply c' id' p' =>
      have hc' : curAssign e t = some (c, id) := by simpa [curAssign] using hc
      simp only [replySince, Bool.or_eq_true, Bool.and_eq_true, beq_iff_eq] at hr
      rcases hr with ⟨⟨h1, h2⟩, h3⟩ | hr
      · -- the newest event is the reply: what is older has the shape of `curAssign_shape`
        subst h1
        subst h2
        subst h3
        obtain ⟨l2, l3, h4, h5⟩ := curAssign_shape hc'
        exact ⟨[], l2, l3, by simp [h4], by simp, h5⟩
      · exact push hc' hr (by intro _ _; simp)
    | _ =>
      have hc' : curAssign e t = some (c, id) := by simpa [curAssign] using hc
      have hr' : replySince e c id p t = true := by simpa [replySince] using hr
      exact push hc' hr' (by intro _ _; simp)

/-- in a history that satisfies the specification a (connection, wire id) pair belongs to one exchange -/
theorem spec_assign_unique {cfg : Cfg} {h : List Ev} (hs : spec cfg h = true) {e e' c id : Nat}
    (h1 : Ev.assign e c id ∈ h) (h2 : Ev.assign e' c id ∈ h) : e = e' := by
  induction h with
  | nil => simp at h1
  | cons ev t ih =>
    simp only [spec, Bool.and_eq_true] at hs
    obtain ⟨hev, hst⟩ := hs
    rcases List.mem_cons.mp h1 with a1 | a1 <;> rcases List.mem_cons.mp h2 with a2 | a2
    · rw [← a1] at a2; cases a2; rfl
    · subst a1
      simp only [okEv, Bool.and_eq_true, Bool.not_eq_true'] at hev
      have := (idUsed_eq_true_iff c id t).mpr ⟨e', a2⟩
      simp [this] at hev
    · subst a2
      simp only [okEv, Bool.and_eq_true, Bool.not_eq_true'] at hev
      have := (idUsed_eq_true_iff c id t).mpr ⟨e, a1⟩
      simp [this] at hev
    · exact ih hst a1 a2

theorem spec_suffix {cfg : Cfg} (newer older : List Ev) (hs : spec cfg (newer ++ older) = true) : spec cfg older = true := by
  induction newer with
  | nil => exact hs
  | cons ev t ih =>
    simp only [List.cons_append, spec, Bool.and_eq_true] at hs
    exact ih hs.2

end MosVerif.Pipeline
