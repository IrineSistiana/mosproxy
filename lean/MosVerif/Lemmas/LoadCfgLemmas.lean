/-
  The start-up checks of `run`, each loader as what it accepts and what it returns: `loadUpstreams` threads the
  tag table, so its characterisation is stated for any table it starts from; a domain set is loaded like an
  upstream that has an address; `loadRules` only looks references up.  `accepts_eq_specAccepts` puts them together
  (it is `C10.load_ok_iff`).  `acceptsFull` adds the range of reject codes and the single-document check
  (`acceptsFull_eq`, `accepted_rejects_are_rcodes`).
-/
import MosVerif.Model.LoadCfg
namespace MosVerif.LoadCfg

/-- `initUpstream` over the list succeeds iff every entry has a tag and an address and no tag occurs twice or is
    in the table already; the table then holds the new tags on top of the old ones -/
theorem loadUpstreams_eq_some (tbl : List String) (ups : List (String × Bool)) (r : List String) :
    loadUpstreams tbl ups = some r ↔
      ((∀ x ∈ ups.map (·.1), x ≠ "") ∧ (ups.map (·.1)).Nodup ∧ (∀ p ∈ ups, p.2 = true) ∧
        ∀ x ∈ ups.map (·.1), x ∉ tbl) ∧
      r = (ups.map (·.1)).reverse ++ tbl := by
  induction ups generalizing tbl with
  | nil =>
    rw [loadUpstreams]
    exact ⟨fun h => ⟨⟨nofun, List.nodup_nil, nofun, nofun⟩, (Option.some.inj h).symm⟩, fun h => congrArg some h.2.symm⟩
  | cons p rest ih =>
    obtain ⟨tag, hasAddr⟩ := p
    rw [loadUpstreams, List.map_cons, List.reverse_cons, List.append_assoc, List.singleton_append, List.nodup_cons,
      List.forall_mem_cons, List.forall_mem_cons, List.forall_mem_cons]
    split
    · rename_i hempty
      exact ⟨nofun, fun ⟨⟨⟨hne, _⟩, _, _, _⟩, _⟩ => absurd hempty hne⟩
    · split
      · rename_i hdup
        exact ⟨nofun, fun ⟨⟨_, _, _, hnew, _⟩, _⟩ => absurd (List.contains_iff_mem.mp hdup) hnew⟩
      · split
        · rename_i hnoaddr
          exact ⟨nofun, fun ⟨⟨_, _, ⟨haddr, _⟩, _⟩, _⟩ => by
            cases haddr
            cases hnoaddr⟩
        · rename_i hne hnew haddr
          rw [ih]
          constructor
          · rintro ⟨⟨hE, hN, hA, hD⟩, rfl⟩
            exact ⟨⟨⟨hne, hE⟩, ⟨fun hm => hD tag hm List.mem_cons_self, hN⟩, ⟨by simpa using haddr, hA⟩,
              fun hm => hnew (List.contains_iff_mem.mpr hm),
              fun x hx hxt => hD x hx (List.mem_cons_of_mem _ hxt)⟩, rfl⟩
          · rintro ⟨⟨⟨_, hE⟩, ⟨hnm, hN⟩, ⟨_, hA⟩, _, hD⟩, rfl⟩
            refine ⟨⟨hE, hN, hA, fun x hx hxt => ?_⟩, rfl⟩
            cases List.mem_cons.mp hxt with
            | inl h => exact hnm (h ▸ hx)
            | inr h => exact hD x hx h

theorem loadDomainSets_eq (tbl : List String) (dss : List String) :
    loadDomainSets tbl dss = loadUpstreams tbl (dss.map (fun t => (t, true))) := by
  induction dss generalizing tbl with
  | nil => rfl
  | cons t rest ih =>
    rw [loadDomainSets, List.map_cons, loadUpstreams, ih]
    rfl

theorem domainSets_tags (dss : List String) : (dss.map (fun t => (t, true))).map (·.1) = dss := by
  rw [List.map_map]
  exact List.map_id'' (fun _ => rfl) dss

/-- the shape of both checks of `loadRules` (a reference is resolved when it is empty or in the table), as a
    conjunction -/
theorem ite_unresolved (P : Prop) [Decidable P] (b x : Bool) :
    (if ¬P ∧ (!b) = true then false else x) = ((decide P || b) && x) := by
  by_cases h : P
  · rw [if_neg fun hh => hh.1 h, decide_eq_true h, Bool.true_or, Bool.true_and]
  · cases b with
    | true => rw [if_neg (fun hh => nomatch hh.2), Bool.or_true, Bool.true_and]
    | false => rw [if_pos ⟨h, rfl⟩, decide_eq_false h, Bool.or_false, Bool.false_and]

theorem loadRules_spec (ups dss : List String) (rules : List (String × String)) :
    loadRules ups dss rules = rules.all (fun (d, f) => (d = "" || dss.contains d) && (f = "" || ups.contains f)) := by
  induction rules with
  | nil => rfl
  | cons p rest ih =>
    obtain ⟨d, f⟩ := p
    rw [loadRules, List.all_cons, ih, ite_unresolved, ite_unresolved, Bool.and_assoc]

/-- `accepts` without its nesting -/
theorem accepts_iff (c : Cfg) : accepts c = true ↔ c.unknownKey = false ∧
    ∃ ups dss, loadUpstreams [] c.upstreams = some ups ∧ loadDomainSets [] c.domainSets = some dss ∧
      loadRules ups dss c.rules = true := by
  unfold accepts
  cases c.unknownKey with
  | true => exact ⟨nofun, fun h => nomatch h.1⟩
  | false =>
    cases loadUpstreams [] c.upstreams with
    | none => exact ⟨nofun, fun ⟨_, _, _, h, _⟩ => nomatch h⟩
    | some ups =>
      cases loadDomainSets [] c.domainSets with
      | none => exact ⟨nofun, fun ⟨_, _, _, _, h, _⟩ => nomatch h⟩
      | some dss =>
        exact ⟨fun h => ⟨rfl, ups, dss, rfl, rfl, h⟩, fun ⟨_, _, _, h1, h2, h⟩ => by cases h1; cases h2; exact h⟩

/-- the router starts iff the configuration has no unknown key, every upstream has a non-empty unique tag and an
    address, every domain set a non-empty unique tag, and every reference of a rule names an existing domain set /
    upstream -/
theorem accepts_eq_specAccepts (c : Cfg) : accepts c = specAccepts c := by
  rw [Bool.eq_iff_iff, accepts_iff]
  -- each loader as its condition and its table; both sides as conjunctions of propositions
  simp only [specAccepts, loadDomainSets_eq, loadUpstreams_eq_some, loadRules_spec, domainSets_tags, Bool.and_eq_true,
    Bool.not_eq_true', decide_eq_true_eq, List.all_eq_true, and_assoc, exists_and_left, exists_eq_left]
  -- the tables start empty, a domain set has no address to miss, and a look-up does not depend on the order
  simp only [List.forall_mem_map, List.not_mem_nil, not_false_eq_true, implies_true, true_and, List.append_nil,
    List.contains_reverse]

/-- the full start-up decision agrees with the full specification as soon as the tag tables do -/
theorem acceptsFull_eq (c : Cfg) (h : accepts c = specAccepts c) : acceptsFull c = specFull c := by
  unfold acceptsFull specFull
  rw [h]
  rfl

/-- a configuration that starts has only reject values that are DNS header rcodes -/
theorem accepted_rejects_are_rcodes (c : Cfg) (h : acceptsFull c = true) : ∀ r ∈ c.rejects, r < 16 := by
  simp only [acceptsFull, Bool.and_eq_true, List.all_eq_true, rejectInRange, decide_eq_true_eq] at h
  exact fun r hr => Nat.lt_succ_of_le (h.1.2 r hr)

example : acceptsFull { upstreams := [("a", true)], domainSets := [], rules := [("", "a")], unknownKey := false, rejects := [16] } = false := by decide
example : acceptsFull { upstreams := [("a", true)], domainSets := [], rules := [("", "a")], unknownKey := false, rejects := [5], multiDoc := true } = false := by decide
example : acceptsFull { upstreams := [("a", true)], domainSets := [], rules := [("", "a")], unknownKey := false, rejects := [15] } = true := by decide

end MosVerif.LoadCfg
