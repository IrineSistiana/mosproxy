/-
  C14 — lemmas about the retry loops of `Model/Retry.lean`.
  The common shape `loop lim` obeys one step equation (`loop_step`): a stale attempt within the
  budget is retried, any other attempt is the last and decides the outcome. From it, for EVERY
  oracle: the run of the loop (`loop_run`, `loop_stale_prefix`), and that the four loops as written,
  which obey the same equation, are instances of `loop` (`loop_unique`).
  Then the counts of dials and exchanges (`dialsUpTo_*`, `exchUpTo_le`), the invariants of the write lock and of
  the pipelined connection, and `pre_ofList` for the table of wait sites.
  Two definitions here are vocabulary of the theorems' statements, not proof machinery:
  `Attempt.out` (what a loop returns when an attempt is its last) and `quicForgot` (whether the quic
  transport holds no connection when an attempt starts).
-/
import MosVerif.Model.Retry
namespace MosVerif.Retry

/-! ### one attempt -/

theorem isStale_iff (a : Attempt) :
    isStale a = true ↔ a.get = .pooled ∧ a.res = none ∧ a.ctxDone = false := by
  simp [isStale, and_assoc]

/-- what a loop returns when `a` is its last attempt -/
def Attempt.out (a : Attempt) : Option Nat := if a.get.isErr then none else a.res

theorem replied {a : Attempt} {x : Nat} (hg : a.get = .pooled ∨ a.get = .fresh) (hx : a.res = some x) :
    isStale a = false ∧ a.out = some x :=
  ⟨by simp [isStale, hx], by rcases hg with h | h <;> simp [Attempt.out, h, hx, Get.isErr]⟩

theorem healthy_not_stale {a : Attempt} (h : isHealthy a = true) : isStale a = false ∧ a.out.isSome = true := by
  simp only [isHealthy, Bool.and_eq_true, Bool.not_eq_true'] at h
  obtain ⟨x, hx⟩ := Option.isSome_iff_exists.1 h.2
  simp [isStale, Attempt.out, h.1, hx]

/-- a dial that reaches a server which answers -/
theorem forcedDial_reply {a : Attempt} {x : Nat} (h : a.forced = some (some x)) :
    isStale (forcedDial a) = false ∧ (forcedDial a).out = some x := by
  simp [forcedDial, h, isStale, Attempt.out, Get.isErr]

theorem forced_some {a : Attempt} (h : (a.forced.getD none).isSome = true) : ∃ x, a.forced = some (some x) := by
  cases hf : a.forced with
  | none => simp [hf] at h
  | some r =>
    cases r with
    | none => simp [hf] at h
    | some x => exact ⟨x, rfl⟩

theorem forcedDial_ctxDone (a : Attempt) : (forcedDial a).ctxDone = a.forcedDone := by
  unfold forcedDial
  split <;> rfl

/-! ### the common loop -/

/-- The body that `loop` and the three connection loops as written share, once: `a` is the attempt,
    `p` the budget test, `next` the recursive call. By cases on the three fields the body looks at
    (where the connection came from, whether there was a reply, whether the context is done); in
    each of the 16 cases both sides compute. -/
theorem body_eq (a : Attempt) (p : Prop) [Decidable p] (next : Out) (n : Nat) :
    (match a.get with
      | .poolErr => ⟨none, n⟩
      | .dialErr => ⟨none, n⟩
      | g =>
        match a.res with
        | some x => ⟨some x, n⟩
        | none =>
          if p then (if (!(g == .fresh) && !a.ctxDone) = true then next else ⟨none, n⟩) else ⟨none, n⟩ : Out) =
      if isStale a = true ∧ p then next else ⟨a.out, n⟩ := by
  rcases a with ⟨g, x, c, _, _, _, _⟩
  cases g <;> cases x <;> cases c <;> simp [isStale, Attempt.out, Get.isErr]

theorem loop_step (lim : Nat) (o : Oracle) (r : Nat) :
    loop lim o r = if isStale (o r) = true ∧ r < lim then loop lim o (r + 1) else ⟨(o r).out, r + 1⟩ := by
  rw [loop]
  exact body_eq (o r) (r < lim) _ _

theorem loop_stop (lim : Nat) (o : Oracle) (r : Nat) (h : isStale (o r) = false ∨ lim ≤ r) :
    (loop lim o r).n = r + 1 := by
  rw [loop_step, if_neg]
  intro ⟨hs, hl⟩
  rcases h with h | h
  · rw [h] at hs; cases hs
  · omega

theorem loop_skip_stale (lim : Nat) (o : Oracle) (r k : Nat) (hk : r + k ≤ lim)
    (hs : ∀ i, r ≤ i → i < r + k → isStale (o i) = true) : loop lim o r = loop lim o (r + k) := by
  induction k generalizing r with
  | zero => rfl
  | succ k ih =>
    rw [loop_step, if_pos ⟨hs r (Nat.le_refl _) (by omega), by omega⟩,
      ih (r + 1) (by omega) (fun i h1 h2 => hs i (by omega) (by omega)), Nat.add_right_comm, Nat.add_assoc]

/-- the run of the loop: it retries through stale attempts and ends with the first attempt `j`
    that is not stale or exhausts the budget; that attempt decides the outcome -/
theorem loop_run (lim : Nat) (o : Oracle) (r : Nat) (hr : r ≤ lim) :
    ∃ j, r ≤ j ∧ j ≤ lim ∧ (∀ i, r ≤ i → i < j → isStale (o i) = true) ∧
      (isStale (o j) = false ∨ j = lim) ∧ loop lim o r = ⟨(o j).out, j + 1⟩ := by
  by_cases h : isStale (o r) = true ∧ r < lim
  · obtain ⟨j, hj, hl, hs, hn, he⟩ := loop_run lim o (r + 1) h.2
    refine ⟨j, by omega, hl, fun i h1 h2 => ?_, hn, by rw [loop_step, if_pos h, he]⟩
    by_cases hi : i = r
    · exact hi ▸ h.1
    · exact hs i (by omega) h2
  · refine ⟨r, Nat.le_refl _, hr, fun i h1 h2 => by omega, ?_, by rw [loop_step, if_neg h]⟩
    cases hs : isStale (o r) with
    | false => exact Or.inl rfl
    | true => exact Or.inr (Nat.le_antisymm hr (Nat.le_of_not_lt fun hl => h ⟨hs, hl⟩))
termination_by lim - r
decreasing_by omega

/-- conversely: `m` stale attempts within the budget, then one that is not stale. The attempts `e`
    are read through a view `v` that agrees with them up to `m`. -/
theorem loop_stale_prefix (lim : Nat) (e v : Oracle) (m : Nat) (hm : m ≤ lim) (hv : ∀ i, i ≤ m → e i = v i)
    (hs : ∀ i, i < m → isStale (v i) = true) (hl : isStale (v m) = false) :
    loop lim e 0 = ⟨(v m).out, m + 1⟩ := by
  rw [loop_skip_stale lim e 0 m (by omega) (fun i _ hi => by rw [hv i (by omega)]; exact hs i (by omega)),
    Nat.zero_add, loop_step, hv m (Nat.le_refl _), if_neg]
  rw [hl]
  exact fun h => Bool.noConfusion h.1

/-- the step equation determines the loop: this is how the loops as written are shown to be `loop` -/
theorem loop_unique (lim : Nat) (e : Oracle) (f : Nat → Out)
    (hf : ∀ r, f r = if isStale (e r) = true ∧ r < lim then f (r + 1) else ⟨(e r).out, r + 1⟩) (r : Nat) :
    f r = loop lim e r := by
  rw [hf, loop_step]
  split
  · exact loop_unique lim e f hf (r + 1)
  · rfl
termination_by lim - r
decreasing_by omega

/-! ### the loops as written -/

/-- the loop as written in `pipeline_transport.go` is `loop 5` -/
theorem pipelineLoop_eq (o : Oracle) (r : Nat) : pipelineLoop o r r = loop 5 o r := by
  refine loop_unique 5 o (fun r => pipelineLoop o r r) (fun r => ?_) r
  show pipelineLoop o r r = _
  rw [pipelineLoop]
  exact body_eq (o r) (r < 5) _ _

/-- the loop as written in `reuse_transport.go` (`retry <= 5`, the pool consulted only while
    `retry <= 5`) is `loop 6` over the attempts as they really happen -/
theorem reuseLoop_eq (o : Oracle) (r : Nat) : reuseLoop o r r = loop 6 (reuseEff o) r := by
  refine loop_unique 6 (reuseEff o) (fun r => reuseLoop o r r) (fun r => ?_) r
  show reuseLoop o r r = _
  rw [reuseLoop]
  exact (body_eq (reuseEff o r) (r ≤ 5) _ _).trans (by simp only [Nat.lt_succ_iff])

/-- does the quic transport hold no connection when attempt `r` starts (the previous attempt
    ended with `forgetConn`)? -/
def quicForgot (o : Oracle) : Nat → Bool
  | 0 => false
  | r + 1 => (quicEff o r).connErr

theorem quicEff_eq (o : Oracle) (r : Nat) :
    quicEff o r = if quicForgot o r then forcedDial (o r) else o r := by
  cases r <;> rfl

/-- the loop as written in `quic_transport.go` (with `forgetConn`) is `loop 5` over the attempts as
    they really happen -/
theorem quicLoop_eq (o : Oracle) (r : Nat) :
    quicLoop o r r (quicForgot o r) = loop 5 (quicEff o) r := by
  refine loop_unique 5 (quicEff o) (fun r => quicLoop o r r (quicForgot o r)) (fun r => ?_) r
  show quicLoop o r r (quicForgot o r) = if _ then quicLoop o (r + 1) (r + 1) (quicEff o r).connErr else _
  rw [quicLoop, ← quicEff_eq]
  exact body_eq (quicEff o r) (r < 5) _ _

/-! ### DoH -/

theorem dohView_ctxDone (a : Attempt) : (dohView a).ctxDone = a.ctxDone := by
  unfold dohView
  split
  · rfl
  · split
    · rfl
    · split <;> rfl

theorem dohLoop_eq (o : Oracle) (r : Nat) : dohLoop o r r = loop 3 (fun i => dohView (o i)) r := by
  refine loop_unique 3 (fun i => dohView (o i)) (fun r => dohLoop o r r) (fun r => ?_) r
  show dohLoop o r r = if isStale (dohView (o r)) = true ∧ _ then _ else ⟨(dohView (o r)).out, _⟩
  rw [dohLoop, dohView]
  generalize o r = a
  by_cases hc : a.ctxDone = true
  · simp [hc, isStale, Attempt.out]
  · by_cases hh : a.get.isErr = false ∧ a.res.isSome = true
    · obtain ⟨x, hx⟩ := Option.isSome_iff_exists.1 hh.2
      simp [hc, hh.1, hx, isStale, Attempt.out]
    · by_cases hr : a.respErr = false ∧ (a.get = .pooled ∨ a.connErr = true)
      · simp [hc, hh, hr, isStale, Attempt.out]
      · simp [hc, hh, hr, isStale, Attempt.out]

/-- a failure that is reported whether or not the context is done: a bad response, or a connection
    error on a connection that was not reused and is not a QUIC one -/
theorem dohView_reported (a : Attempt) (hfail : a.get.isErr = true ∨ a.res = none)
    (hnot : a.respErr = true ∨ (a.get ≠ .pooled ∧ a.connErr = false)) :
    dohView a = { a with get := .fresh, res := none } := by
  unfold dohView
  split
  · rfl
  · split
    · next h => rcases hfail with hf | hf <;> simp [hf] at h
    · split
      · next h => rcases hnot with hn | hn <;> simp [hn] at h
      · rfl

theorem dohView_retried (a : Attempt) (hc : a.ctxDone = false) (hfail : a.get.isErr = true ∨ a.res = none)
    (hr : a.respErr = false) (hp : a.get = .pooled ∨ a.connErr = true) :
    dohView a = { a with get := .pooled, res := none } := by
  unfold dohView
  rw [if_neg (by simp [hc]), if_neg, if_pos]
  · rcases hp with hp | hp <;> simp [hr, hp]
  · rcases hfail with hf | hf <;> simp [hf]

theorem dohView_healthy (a : Attempt) (hc : a.ctxDone = false) (hg : a.get.isErr = false) {x : Nat}
    (hx : a.res = some x) : dohView a = a := by
  simp [dohView, hc, hg, hx]

/-! ### dials and exchanges -/

theorem dialsUpTo_stale (o : Oracle) (n : Nat) (h : ∀ i, i < n → isStale (o i) = true) :
    dialsUpTo o n = 0 := by
  induction n with
  | zero => rfl
  | succ n ih =>
    have h1 := (isStale_iff _).1 (h n (by omega))
    simp [dialsUpTo, ih (fun i hi => h i (by omega)), h1.1]

theorem dialsUpTo_succ_le (o : Oracle) (n : Nat) : dialsUpTo o (n + 1) ≤ dialsUpTo o n + 1 := by
  simp only [dialsUpTo]
  split <;> omega

theorem exchUpTo_le (o : Oracle) (n : Nat) : exchUpTo o n ≤ n := by
  induction n with
  | zero => simp [exchUpTo]
  | succ n ih => simp only [exchUpTo]; split <;> omega

/-! ### the write lock -/

/-- only the holder of the lock is past the select, and the deadline in force while somebody is
    inside `Write` is that exchange's own -/
def WInv (ddl : Nat → Option Nat) (s : WState) : Prop :=
  (∀ x, (s.pc x = .locked ∨ s.pc x = .writing) → s.lock = some x) ∧
  (∀ x, s.pc x = .writing → s.sockDdl = ddl x)

theorem winit_inv (ddl : Nat → Option Nat) : WInv ddl winit := by
  constructor <;> intro x h <;> simp [winit] at h

/-- exchange `x` moves to `v`, the lock becomes `l`, the socket deadline `d`: the invariant is kept
    if it holds of `x` at `v`, and the exchanges past the select other than `x` (they hold the lock)
    keep the lock and, when inside `Write`, the deadline -/
theorem WInv.move {ddl : Nat → Option Nat} {s : WState} (h : WInv ddl s) (x : Nat) (v : WPc) (l d : Option Nat)
    (hx1 : v = .locked ∨ v = .writing → l = some x) (hx2 : v = .writing → d = ddl x)
    (ho1 : ∀ y, y ≠ x → s.lock = some y → l = some y)
    (ho2 : ∀ y, y ≠ x → s.pc y = .writing → d = s.sockDdl) :
    WInv ddl ⟨wupd s.pc x v, l, d⟩ := by
  constructor <;> intro y hy <;> by_cases hyx : y = x
  · exact hyx ▸ hx1 (by simpa [wupd, hyx] using hy)
  · simp only [wupd, hyx, if_false] at hy
    exact ho1 y hyx (h.1 y hy)
  · exact hyx ▸ hx2 (by simpa [wupd, hyx] using hy)
  · simp only [wupd, hyx, if_false] at hy
    rw [ho2 y hyx hy, h.2 y hy]

theorem wstep_inv (ddl : Nat → Option Nat) (s : WState) (op : WOp) (h : WInv ddl s) :
    WInv ddl (wstep ddl s op) := by
  -- two exchanges past the select are the same one: both hold the lock
  have uniq : ∀ {x y}, s.lock = some x → s.lock = some y → y ≠ x → False :=
    fun hx hy hne => hne (Option.some.inj (hy.symm.trans hx))
  cases op with
  | giveUp x =>
    simp only [wstep]
    split
    · exact h.move x .done _ _ (by simp) (by simp) (fun _ _ hl => hl) (fun _ _ _ => rfl)
    · exact h
  | step x =>
    simp only [wstep]
    split
    · exact h.move x .waiting _ _ (by simp) (by simp) (fun _ _ hl => hl) (fun _ _ _ => rfl)
    · split
      · next hl => exact h.move x .locked _ _ (fun _ => rfl) (by simp) (fun y _ hy => by rw [hl] at hy; cases hy) (fun _ _ _ => rfl)
      · exact h
    · next hx =>
      -- `SetWriteDeadline` by the holder: nobody else is inside `Write`
      exact h.move x .writing _ _ (fun _ => h.1 x (Or.inl hx)) (fun _ => rfl) (fun _ _ hl => hl)
        (fun y hne hy => (uniq (h.1 x (Or.inl hx)) (h.1 y (Or.inr hy)) hne).elim)
    · next hx =>
      exact h.move x .done _ _ (by simp) (by simp) (fun y hne hy => (uniq (h.1 x (Or.inr hx)) hy hne).elim)
        (fun _ _ _ => rfl)
    · exact h

theorem wrun_inv (ddl : Nat → Option Nat) (s : WState) (ops : List WOp) (h : WInv ddl s) :
    WInv ddl (wrun ddl s ops) := by
  induction ops generalizing s with
  | nil => exact h
  | cons op t ih => exact ih _ (wstep_inv ddl s op h)

/-! ### the pipelined connection -/

/-- `closed`, the connection context and the socket change together -/
def PConn.inv (c : PConn) : Prop := c.ctxDone = c.closed ∧ c.sockClosed = c.closed

theorem closeWithErr_inv (c : PConn) (h : c.inv) : c.closeWithErr.inv := by
  unfold PConn.closeWithErr PConn.inv at *
  split <;> simp_all

theorem pconn_step_inv (c : PConn) (op : ConnOp) (h : c.inv) : (c.step op).inv := by
  cases op with
  | readErr | writeErr | close => exact closeWithErr_inv c h
  | _ => exact h

theorem pconn_run_inv (c : PConn) (ops : List ConnOp) (h : c.inv) : (c.run ops).inv := by
  induction ops generalizing c with
  | nil => exact h
  | cons op t ih => exact ih _ (pconn_step_inv c op h)

theorem closeWithErr_closed (c : PConn) : c.closeWithErr.closed = true := by
  unfold PConn.closeWithErr
  split <;> simp_all

/-- an aborted connection's context is done (by the invariant also when it was closed before) -/
theorem closeWithErr_ctxDone (c : PConn) (h : c.inv) : c.closeWithErr.ctxDone = true := by
  rw [(closeWithErr_inv c h).1]
  exact closeWithErr_closed c

theorem closeWithErr_waiters (c : PConn) : c.closeWithErr.waiters = c.waiters := by
  unfold PConn.closeWithErr
  split <;> rfl

theorem pconn_step_closed_mono (c : PConn) (op : ConnOp) (h : c.closed = true) : (c.step op).closed = true := by
  cases op with
  | readErr | writeErr | close => exact closeWithErr_closed c
  | _ => exact h

theorem pconn_run_closed_mono (c : PConn) (ops : List ConnOp) (h : c.closed = true) :
    (c.run ops).closed = true := by
  induction ops generalizing c with
  | nil => exact h
  | cons op t ih => exact ih _ (pconn_step_closed_mono c op h)

theorem run_append (c : PConn) (a b : List ConnOp) : c.run (a ++ b) = (c.run a).run b := by
  induction a generalizing c with
  | nil => rfl
  | cons op t ih => exact ih _

/-! ### wait sites -/

theorem pre_ofList (p s : List Char) : pre (String.ofList p) (String.ofList s) = p.isPrefixOf s := by
  simp [pre]

end MosVerif.Retry
