/-
  C15: the listener model satisfies the attempts specification `atomsSpec` (runs at one instant,
  no global limit, client rate 1 token/s).  Rests on `LimiterClock`.

  At one instant nothing refills, so the limiter's state is the exact cost charged per key
  (`Charged`).  The observer cannot know it: the verdict of a post-charge is not observable, so
  per subnet he keeps a lower and an upper bound (`Usage`), and the invariant of a run is that
  these bracket the exact charge (`Bracket`, together: `LRel`).  One step, `charge_spec`, serves
  every admission point and the direct calls.
-/
import MosVerif.Lemmas.LimiterClock
namespace MosVerif.Limiter

theorem Usage.get_add (c : Opts) (a a' : Addr) (dlo dhi : Nat) : ∀ (u : Usage),
    Usage.get c (Usage.add c u a dlo dhi) a' =
      if specSame c a' a then ((Usage.get c u a').1 + dlo, (Usage.get c u a').2 + dhi) else Usage.get c u a' := by
  intro u
  induction u with
  | nil =>
    simp only [Usage.add, Usage.get]
    split <;> simp
  | cons e rest ih =>
    obtain ⟨b, lo, hi⟩ := e
    simp only [Usage.add]
    by_cases hab : specSame c a b = true
    · -- `a` is of `b`'s subnet: `a'` is of both or of neither
      have hiff : specSame c a' b = specSame c a' a := by
        rw [specSame_eq] at hab
        rw [specSame_eq, specSame_eq, of_decide_eq_true hab]
      rw [if_pos hab]
      simp only [Usage.get, hiff]
      split <;> rfl
    · rw [if_neg hab]
      simp only [Usage.get, ih]
      by_cases h1 : specSame c a' b = true
      · -- `a'` is of `b`'s subnet, `a` is not: `a'` is not of `a`'s
        have h2 : ¬ specSame c a' a = true := by
          intro h
          apply hab
          rw [specSame_eq] at h h1 ⊢
          rw [← of_decide_eq_true h, of_decide_eq_true h1]
          exact decide_eq_true rfl
        rw [if_pos h1, if_pos h1, if_neg h2]
      · rw [if_neg h1, if_neg h1]

/-- What the model knows that the observer does not: the exact cost charged per key.  All of a
    listener run happens at one instant, so nothing refills and no entry's clock is ahead. -/
def Charged (c : Opts) (cl : ClientLimiter) (used : Addr → Nat) : Prop :=
  cl.SeenLe 0 ∧ ∀ k, used k ≤ specBurst c ∧
    (cl.bucketOf k).avail cl.limit cl.burst 0 = (((specBurst c - used k) * nano : Nat) : Int)

/-- the observer's bounds bracket the exact charge -/
def Bracket (c : Opts) (used : Addr → Nat) (u : Usage) : Prop :=
  ∀ a, a ≠ .zero → (Usage.get c u a).1 ≤ used (mask c.setDefault a) ∧ used (mask c.setDefault a) ≤ (Usage.get c u a).2

theorem charged_new (c : Opts) (hs : saneBurst c = true) : Charged c (ClientLimiter.new c) (fun _ => 0) := by
  refine ⟨ClientLimiter.seenLe_new c 0, fun k => ⟨Nat.zero_le _, ?_⟩⟩
  rw [ClientLimiter.bucketOf_new, Bucket.avail_fresh_full _ _ 0 (sane_of_opts c _ rfl hs), burst_of_opts c _ rfl]
  rfl

/-- whole tokens: a deficit of less than one nano-token is no deficit -/
theorem nano_lt_one (x y : Nat) : ((y * nano : Nat) : Int) - ((x * nano : Nat) : Int) < 1 ↔ y ≤ x := by
  constructor
  · intro h
    apply Classical.byContradiction
    intro hn
    have h1 : (x + 1) * nano ≤ y * nano := Nat.mul_le_mul_right nano (by omega)
    rw [Nat.add_mul, Nat.one_mul] at h1
    have : 0 < nano := by decide
    omega
  · intro h
    have := Nat.mul_le_mul_right nano h
    omega

theorem nano_sub (b u n : Nat) (h : u + n ≤ b) :
    (((b - u) * nano : Nat) : Int) - ((n * nano : Nat) : Int) = (((b - (u + n)) * nano : Nat) : Int) := by
  have h1 : (b - u) * nano = (b - (u + n)) * nano + n * nano := by
    rw [← Nat.add_mul]; congr 1; omega
  omega

/-- one `AllowN` at time 0 with rate 1: admitted iff the key's charge stays within the burst -/
theorem charged_allowN (c : Opts) (hl : c.limit = 1) (cl : ClientLimiter) (hopts : cl.opts = c.setDefault)
    (used : Addr → Nat) (h : Charged c cl used) (a : Addr) (n : Nat) :
    ((cl.allowN a 0 n).1 = true ↔ used (mask cl.opts a) + n ≤ specBurst c) ∧
    Charged c (cl.allowN a 0 n).2
      (fun k => used k + if mask cl.opts a = k ∧ (cl.allowN a 0 n).1 = true then n else 0) := by
  rw [cl.allowN_of_seenLe h.1 (Nat.le_refl 0)]
  have hL : cl.limit = 1 := by
    rw [limit_of_opts c cl hopts, specLimit, hl]; rfl
  have hB := burst_of_opts c cl hopts
  obtain ⟨hu, hA⟩ := h.2 (mask cl.opts a)
  have hiff : (cl.allowNAt a 0 n).1 = true ↔ used (mask cl.opts a) + n ≤ specBurst c := by
    have := nano_lt_one (specBurst c - used (mask cl.opts a)) n
    rw [cl.allowNAt_fst, Bucket.allowN_fst_iff, hA, hL, hB]
    omega
  refine ⟨hiff, cl.seenLe_allowNAt h.1 (Nat.le_refl 0) a n, fun k => ?_⟩
  have hpay := cl.avail_allowNAt a 0 n k
  obtain ⟨huk, hAk⟩ := h.2 k
  simp only [ClientLimiter.allowN_limit, ClientLimiter.allowN_burst]
  by_cases hc : mask cl.opts a = k ∧ (cl.allowNAt a 0 n).1 = true
  · have hle := hiff.mp hc.2
    have := nano_sub (specBurst c) (used k) n (hc.1 ▸ hle)
    rw [if_pos hc, hAk] at hpay
    rw [if_pos hc]
    exact ⟨hc.1 ▸ hle, by omega⟩
  · rw [if_neg hc, Nat.zero_mul, hAk] at hpay
    rw [if_neg hc, Nat.add_zero]
    exact ⟨huk, by omega⟩

/-- the shape of the resource limiter of a listener run: no global limit, one client limiter -/
def LRel (c : Opts) (l : ResLimiter) (u : Usage) : Prop :=
  l.global = none ∧ ∃ cl used, l.cl = some cl ∧ cl.opts = c.setDefault ∧ Charged c cl used ∧ Bracket c used u

theorem lrel_init (c : Opts) (hl : c.limit = 1) (hs : saneBurst c = true) (g : Int) (hg : g ≤ 0) :
    LRel c (ResLimiter.init ⟨g, c⟩) [] := by
  refine ⟨?_, ClientLimiter.new c, fun _ => 0, ?_, rfl, charged_new c hs, ?_⟩
  · simp only [ResLimiter.init, limitSet, decide_eq_true_eq]; rw [if_neg (by omega)]
  · simp only [ResLimiter.init, limitSet, decide_eq_true_eq]; rw [if_pos (by omega)]
  · intro a _; simp [Usage.get]

/-- one call of `limiterAllowN` for a valid address: admitted iff the charge of its key stays
    within the burst, and then that key, and no other, is charged -/
theorem lrel_limiterAllowN (c : Opts) (hl : c.limit = 1) (l : ResLimiter) (a : Addr) (n : Nat) (ha : a ≠ .zero)
    (hg : l.global = none) (cl : ClientLimiter) (used : Addr → Nat) (hcl : l.cl = some cl)
    (hopts : cl.opts = c.setDefault) (hch : Charged c cl used) :
    ∃ cl' used', (limiterAllowN l a 0 n).2.global = none ∧ (limiterAllowN l a 0 n).2.cl = some cl' ∧
      cl'.opts = c.setDefault ∧ Charged c cl' used' ∧
      ((limiterAllowN l a 0 n).1 = .ok ↔ used (mask c.setDefault a) + n ≤ specBurst c) ∧
      used' (mask c.setDefault a)
        = used (mask c.setDefault a) + (if (limiterAllowN l a 0 n).1 = .ok then n else 0) ∧
      ∀ k, k ≠ mask c.setDefault a → used' k = used k := by
  have hstep := charged_allowN c hl cl hopts used hch a n
  rw [hopts] at hstep
  have hr : limiterAllowN l a 0 n
      = (if (cl.allowN a 0 n).1 = true then .ok else .errClient, { l with cl := some (cl.allowN a 0 n).2 }) := by
    simp only [limiterAllowN, ha, if_false, ResLimiter.allowN, hg, hcl]
    cases (cl.allowN a 0 n).1 <;> rfl
  have hok : (limiterAllowN l a 0 n).1 = .ok ↔ (cl.allowN a 0 n).1 = true := by
    rw [hr]
    cases (cl.allowN a 0 n).1 <;> simp
  refine ⟨(cl.allowN a 0 n).2, _, ?_, ?_, hopts, hstep.2, hok.trans hstep.1, ?_, fun k hk => ?_⟩
  · rw [hr]; exact hg
  · rw [hr]
  · simp only [eq_self, true_and, hok]
  · show _ + _ = _
    rw [if_neg fun hc => hk hc.1.symm]
    rfl

theorem bracket_add (c : Opts) (used used' : Addr → Nat) (u : Usage) (a : Addr) (n d : Nat)
    (hb : Bracket c used u)
    (h1 : used (mask c.setDefault a) + n ≤ used' (mask c.setDefault a) ∧
          used' (mask c.setDefault a) ≤ used (mask c.setDefault a) + n + d)
    (h2 : ∀ k, k ≠ mask c.setDefault a → used' k = used k) :
    Bracket c used' (Usage.add c u a n (n + d)) := by
  intro a' ha'
  rw [Usage.get_add]
  have hb' := hb a' ha'
  by_cases hs : specSame c a' a = true
  · rw [if_pos hs]
    have hk : mask c.setDefault a' = mask c.setDefault a := by
      rw [specSame_eq] at hs; exact of_decide_eq_true hs
    rw [hk] at hb' ⊢
    show _ + n ≤ _ ∧ _ ≤ _ + (n + d)
    omega
  · rw [if_neg hs]
    have hk : mask c.setDefault a' ≠ mask c.setDefault a := by
      intro e; apply hs; rw [specSame_eq]; exact decide_eq_true e
    rw [h2 _ hk]; exact hb'

/-- the limiter after a call of `limiterAllowN` with cost `n` that is followed — if it is admitted
    and `handled` — by the hidden post-charge of a forwarded query (`postCharge`) -/
def afterCharge (l : ResLimiter) (a : Addr) (n : Nat) (handled : Prop) [Decidable handled] : ResLimiter :=
  if (limiterAllowN l a 0 n).1 = .ok ∧ handled
  then postCharge (limiterAllowN l a 0 n).2 false a 0 else (limiterAllowN l a 0 n).2

/-- what `attempt` computes: one charge of the point's cost; a query that is handled is
    charged once more, whatever that verdict -/
theorem attempt_eq (l : ResLimiter) (p : Point) (a : Addr) :
    attempt l p a =
      (⟨a, p.cost, p.post, decide ((limiterAllowN l a 0 p.cost).1 = .ok)⟩,
        afterCharge l a p.cost (p.onAllowed = .handle)) := by
  unfold afterCharge
  by_cases h : (limiterAllowN l a 0 p.cost).1 = .ok
  · simp only [attempt, admission, Bool.false_eq_true, and_false, if_false, h, if_true, true_and, decide_true]
    cases p <;> rfl
  · simp only [attempt, admission, Bool.false_eq_true, and_false, if_false, h, false_and, decide_false]
    cases p <;> rfl

/-- **one charge.**  A call of `limiterAllowN` with cost `n`, followed — if it is admitted and
    `handled` — by the hidden post-charge: the outcome passes the specification's step, and
    what the observer then knows still brackets the limiter's state.  In continuation form (`hrest`:
    the rest of the run passes from whatever brackets the state reached), because the usage table
    the specification goes on with depends on the verdict. -/
theorem charge_spec (c : Opts) (hl : c.limit = 1) (l : ResLimiter) (u : Usage) (h : LRel c l u)
    (a : Addr) (n post : Nat) (handled : Prop) [Decidable handled] (hpost : handled → post = costFromUpstream)
    (rest : List Atom)
    (hrest : ∀ u', LRel c (afterCharge l a n handled) u' → atomsSpec c (specBurst c) rest u' = true) :
    atomsSpec c (specBurst c) (⟨a, n, post, decide ((limiterAllowN l a 0 n).1 = .ok)⟩ :: rest) u = true := by
  unfold afterCharge at hrest
  by_cases ha : a = .zero
  · -- a peer without an address is admitted and nobody is charged
    subst ha
    have hl' : (if (limiterAllowN l .zero 0 n).1 = .ok ∧ handled
        then postCharge (limiterAllowN l .zero 0 n).2 false .zero 0 else (limiterAllowN l .zero 0 n).2) = l := by
      split <;> rfl
    rw [hl'] at hrest
    simp only [atomsSpec, if_true, hrest u h, Bool.and_true]
    rfl
  · obtain ⟨hg, cl, used, hcl, hopts, hch, hbr⟩ := h
    obtain ⟨cl1, used1, hg1, hcl1, hopts1, hch1, hok, hkey1, hoth1⟩ := lrel_limiterAllowN c hl l a n ha hg cl used hcl hopts hch
    have hbr_a := hbr a ha
    by_cases hadm : (limiterAllowN l a 0 n).1 = .ok
    · rw [if_pos hadm] at hkey1
      have hle := hok.mp hadm
      -- the limiter after the hidden charge, if any: the key has been charged `n` to `n + post`
      obtain ⟨cl2, used2, hg2, hcl2, hopts2, hch2, hlo, hhi, hoth2⟩ : ∃ cl2 used2,
          (afterCharge l a n handled).global = none ∧ (afterCharge l a n handled).cl = some cl2 ∧
          cl2.opts = c.setDefault ∧ Charged c cl2 used2 ∧
          used (mask c.setDefault a) + n ≤ used2 (mask c.setDefault a) ∧
          used2 (mask c.setDefault a) ≤ used (mask c.setDefault a) + n + post ∧
          ∀ k, k ≠ mask c.setDefault a → used2 k = used k := by
        unfold afterCharge
        by_cases hh : handled
        · obtain ⟨cl2, used2, hg2, hcl2, hopts2, hch2, _, hkey2, hoth2⟩ :=
            lrel_limiterAllowN c hl (limiterAllowN l a 0 n).2 a costFromUpstream ha hg1 cl1 used1 hcl1 hopts1 hch1
          rw [if_pos ⟨hadm, hh⟩]
          refine ⟨cl2, used2, hg2, hcl2, hopts2, hch2, ?_, ?_, fun k hk => (hoth2 k hk).trans (hoth1 k hk)⟩
          · rw [hkey2, hkey1]; exact Nat.le_add_right _ _
          · rw [hkey2, hkey1, hpost hh]; split <;> omega
        · rw [if_neg fun hc => hh hc.2]
          exact ⟨cl1, used1, hg1, hcl1, hopts1, hch1, Nat.le_of_eq hkey1.symm, by omega, hoth1⟩
      have hr := hrest (Usage.add c u a n (n + post))
        ⟨hg2, cl2, used2, hcl2, hopts2, hch2, bracket_add c used used2 u a n post hbr ⟨hlo, hhi⟩ hoth2⟩
      simp only [atomsSpec, ha, if_false, hadm, decide_true, if_true, hr, Bool.and_true, decide_eq_true_eq]
      omega
    · rw [if_neg hadm, Nat.add_zero] at hkey1
      have hused : used1 = used := funext fun k => by
        by_cases hk : k = mask c.setDefault a
        · rw [hk, hkey1]
        · exact hoth1 k hk
      rw [if_neg fun hc => hadm hc.1] at hrest
      have hr := hrest u ⟨hg1, cl1, used, hcl1, hopts1, hused ▸ hch1, hbr⟩
      have hgt : ¬ used (mask c.setDefault a) + n ≤ specBurst c := fun hle => hadm (hok.mpr hle)
      simp only [atomsSpec, ha, if_false, hadm, decide_false, Bool.false_eq_true, hr, Bool.and_true, decide_eq_true_eq]
      omega

theorem attempt_spec (c : Opts) (hl : c.limit = 1) (l : ResLimiter) (u : Usage) (h : LRel c l u)
    (p : Point) (a : Addr) (rest : List Atom)
    (hrest : ∀ u', LRel c (attempt l p a).2 u' → atomsSpec c (specBurst c) rest u' = true) :
    atomsSpec c (specBurst c) ((attempt l p a).1 :: rest) u = true := by
  rw [attempt_eq] at hrest ⊢
  exact charge_spec c hl l u h a p.cost p.post _ (fun hh => if_pos hh) rest hrest

theorem queryAtoms_spec (c : Opts) (hl : c.limit = 1) (p : Point) (a : Addr) :
    ∀ (k : Nat) (l : ResLimiter) (u : Usage) (rest : List Atom), LRel c l u →
      (∀ u', LRel c (queryAtoms p a k l).2 u' → atomsSpec c (specBurst c) rest u' = true) →
      atomsSpec c (specBurst c) ((queryAtoms p a k l).1 ++ rest) u = true := by
  intro k
  induction k with
  | zero => intro l u rest h hrest; exact hrest u h
  | succ k ih =>
    intro l u rest h hrest
    simp only [queryAtoms, List.cons_append]
    apply attempt_spec c hl l u h p a
    intro u' h'
    exact ih _ u' rest h' hrest

/-- the attempts of a connection with `k` queries, as `opAtoms` makes them for every connection
    op: the connection-level attempt at `pc`, then — if it is admitted — the queries at `q` -/
def connAtoms (l : ResLimiter) (pc q : Point) (a : Addr) (k : Nat) : List Atom × ResLimiter :=
  let x := attempt l pc a
  if x.1.admitted then let xs := queryAtoms q a k x.2; (x.1 :: xs.1, xs.2) else ([x.1], x.2)

theorem connOp_spec (c : Opts) (hl : c.limit = 1) (pc q : Point) (a : Addr) (k : Nat)
    (l : ResLimiter) (u : Usage) (rest : List Atom) (h : LRel c l u)
    (hrest : ∀ u', LRel c (connAtoms l pc q a k).2 u' → atomsSpec c (specBurst c) rest u' = true) :
    atomsSpec c (specBurst c) ((connAtoms l pc q a k).1 ++ rest) u = true := by
  unfold connAtoms at hrest ⊢
  cases hadm : (attempt l pc a).1.admitted with
  | true =>
    simp only [hadm, if_true, List.cons_append] at hrest ⊢
    apply attempt_spec c hl l u h pc a
    intro u' h'
    exact queryAtoms_spec c hl q a k _ u' rest h' hrest
  | false =>
    simp only [hadm, Bool.false_eq_true, if_false, List.cons_append, List.nil_append] at hrest ⊢
    exact attempt_spec c hl l u h pc a rest hrest

theorem opAtoms_spec (c : Opts) (hl : c.limit = 1) (op : LOp) (l : ResLimiter) (u : Usage) (rest : List Atom)
    (h : LRel c l u)
    (hrest : ∀ u', LRel c (opAtoms l op).2 u' → atomsSpec c (specBurst c) rest u' = true) :
    atomsSpec c (specBurst c) ((opAtoms l op).1 ++ rest) u = true := by
  -- each connection op is `connAtoms` at its two admission points, by definition of `opAtoms`
  cases op with
  | udp a => exact queryAtoms_spec c hl .udpQuery a 1 l u rest h hrest
  | tcp a k => exact connOp_spec c hl .tcpConn .tcpQuery a k l u rest h hrest
  | http a k => exact connOp_spec c hl .httpConn .httpQuery a k l u rest h hrest
  | quic a k => exact connOp_spec c hl .quicConn .quicQuery a k l u rest h hrest
  | gnet a k => exact connOp_spec c hl .gnetConn .gnetQuery a k l u rest h hrest
  | fasthttp a k => exact connOp_spec c hl .fasthttpConn .fasthttpQuery a k l u rest h hrest
  | direct a n =>
    simp only [opAtoms, List.cons_append, List.nil_append] at hrest ⊢
    exact charge_spec c hl l u h a n 0 False (fun hh => hh.elim) rest
      (by simpa only [afterCharge, and_false, if_false] using hrest)

theorem listenerAtoms_spec (c : Opts) (hl : c.limit = 1) :
    ∀ (ops : List LOp) (l : ResLimiter) (u : Usage), LRel c l u →
      atomsSpec c (specBurst c) (listenerAtoms ops l) u = true := by
  intro ops
  induction ops with
  | nil => intro l u _; rfl
  | cons op ops ih =>
    intro l u h
    simp only [listenerAtoms]
    apply opAtoms_spec c hl op l u _ h
    intro u' h'
    exact ih _ u' h'

theorem handledCount_append (xs ys : List Atom) : handledCount (xs ++ ys) = handledCount xs + handledCount ys := by
  simp [handledCount, List.filter_append]

theorem listenerRunAtoms_fwd : ∀ (ops : List LOp) (l : ResLimiter),
    (listenerRunAtoms ops l).2 = handledCount (listenerAtoms ops l) := by
  intro ops
  induction ops with
  | nil => intro l; rfl
  | cons op ops ih =>
    intro l
    simp only [listenerRunAtoms, listenerAtoms, handledCount_append, ih]

end MosVerif.Limiter
