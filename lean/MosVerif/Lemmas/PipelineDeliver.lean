/-
  C05 — the ghost record of deliveries: every reply event is received by at most one
  exchange, and only by the exchange registered under its (connection, wire id).
  The stamp `k` of a reply event is in at most one place — a channel or `taken` — and the facts
  about one exchange (`GPc`) depend on its control state only through an argument, as `PcOk` does.
-/
import MosVerif.Lemmas.PipelineSteps
namespace MosVerif.Pipeline

/-- the event with chronological index `k` (the oldest event has index 0) -/
def evAt : List Ev → Nat → Option Ev
  | [], _ => none
  | ev :: h, k => if k = h.length then some ev else evAt h k

theorem evAt_lt {h : List Ev} {k : Nat} {ev : Ev} (he : evAt h k = some ev) : k < h.length := by
  induction h with
  | nil => cases he
  | cons x t ih =>
    rw [evAt] at he
    split at he
    · rename_i hk; rw [hk]; exact Nat.lt_succ_self _
    · exact Nat.lt_succ_of_lt (ih he)

theorem evAt_mem {h : List Ev} {k : Nat} {ev : Ev} (he : evAt h k = some ev) : ev ∈ h := by
  induction h with
  | nil => cases he
  | cons x t ih =>
    rw [evAt] at he
    split at he
    · cases he; exact List.mem_cons_self
    · exact List.mem_cons_of_mem _ (ih he)

theorem evAt_length (ev : Ev) (h : List Ev) : evAt (ev :: h) h.length = some ev := if_pos rfl

/-- indices and membership carry over from `h` to `h'` (so when `h'` is `h` with one more event, `Grows.cons`) -/
structure Grows (h h' : List Ev) : Prop where
  at_ : ∀ {k ev}, evAt h k = some ev → evAt h' k = some ev
  mem : ∀ {ev}, ev ∈ h → ev ∈ h'

theorem Grows.refl (h : List Ev) : Grows h h := ⟨id, id⟩

theorem Grows.cons (ev : Ev) (h : List Ev) : Grows h (ev :: h) :=
  ⟨fun he => (if_neg (Nat.ne_of_lt (evAt_lt he))).trans he, List.mem_cons_of_mem _⟩

/-- the ghost facts about exchange `e` when its control state is `pc` -/
structure GPc (cfg : Cfg) (s : State) (e : Nat) (pc : Pc) : Prop where
  /-- what sits in its channel was sent under its (connection, wire id) -/
  own : ∀ c q ch p k, (pc = .registered c q ch ∨ pc = .waiting c q ch) → s.chans ch = .full p k →
          evAt s.hist k = some (.reply c q p)
  tk : ∀ k, (e, k) ∈ s.taken → ∃ c id p, evAt s.hist k = some (.reply c id p) ∧
          (pc = .leaving c id (some p) ∨ (pc = .done ∧ Ev.ret e (some (cfg.cid e, p)) ∈ s.hist))
  /-- whoever holds a message received a reply event carrying that payload -/
  lv : ∀ c q p, pc = .leaving c q (some p) → ∃ k, (e, k) ∈ s.taken ∧ evAt s.hist k = some (.reply c q p)

/-- where the reply event with stamp `k` is: buffered in channel `ch` (`.inl ch`) or received by `e` (`.inr e`) -/
def Loc (s : State) (k : Nat) : Nat ⊕ Nat → Prop
  | .inl ch => ∃ p, s.chans ch = .full p k
  | .inr e => (e, k) ∈ s.taken

structure GInv (cfg : Cfg) (s : State) : Prop where
  ch_ev : ∀ ch p k, s.chans ch = .full p k → ∃ c id, evAt s.hist k = some (.reply c id p)
  /-- a reply event is in at most one place: one channel, or received by one exchange -/
  uniq : ∀ k l l', Loc s k l → Loc s k l' → l = l'
  /-- an exchange receives at most one reply -/
  tk_one : ∀ e k k', (e, k) ∈ s.taken → (e, k') ∈ s.taken → k = k'
  /-- every returned message was received -/
  ret_tk : ∀ e mid p, Ev.ret e (some (mid, p)) ∈ s.hist →
            ∃ k c id, (e, k) ∈ s.taken ∧ evAt s.hist k = some (.reply c id p)
  pc : ∀ e, GPc cfg s e (s.pcs e)

section
variable {cfg : Cfg} {s s' : State} {e : Nat} {pc : Pc}

theorem GInv.pcAt (h : GInv cfg s) (hpc : s.pcs e = pc) : GPc cfg s e pc := hpc ▸ h.pc e

theorem GInv.tk_inj (h : GInv cfg s) (e e' k : Nat) (h1 : (e, k) ∈ s.taken) (h2 : (e', k) ∈ s.taken) : e = e' :=
  Sum.inr.inj (h.uniq k (.inr e) (.inr e') h1 h2)

theorem GInv.ch_st (h : GInv cfg s) {ch p k : Nat} (hf : s.chans ch = .full p k) : k < s.hist.length :=
  let ⟨_, _, he⟩ := h.ch_ev ch p k hf
  evAt_lt he

theorem GInv.tk_st (h : GInv cfg s) {k : Nat} (hk : (e, k) ∈ s.taken) : k < s.hist.length :=
  let ⟨_, _, _, he, _⟩ := (h.pc e).tk k hk
  evAt_lt he

theorem GPc.not_taken (h : GPc cfg s e pc) (h1 : ∀ c q p, pc ≠ .leaving c q (some p)) (h2 : pc ≠ .done) (k : Nat) :
    (e, k) ∉ s.taken := fun hk =>
  let ⟨c, id, p, _, h3⟩ := h.tk k hk
  h3.elim (h1 c id p) fun h4 => h2 h4.1

theorem GPc.fresh (hn : ∀ k, (e, k) ∉ s.taken) (hl : ∀ c q p, pc ≠ .leaving c q (some p))
    (own : ∀ c q ch p k, (pc = .registered c q ch ∨ pc = .waiting c q ch) → s.chans ch = .full p k →
      evAt s.hist k = some (.reply c q p)) : GPc cfg s e pc :=
  ⟨own, fun k hk => absurd hk (hn k), fun c q p hp => absurd hp (hl c q p)⟩

theorem GPc.extend (h : GPc cfg s e pc) (hg : Grows s.hist s'.hist)
    (hch : ∀ ch p k, s'.chans ch = .full p k → s.chans ch = .full p k)
    (htk : ∀ k, (e, k) ∈ s'.taken ↔ (e, k) ∈ s.taken) : GPc cfg s' e pc where
  own := fun c q ch p k hp hf => hg.at_ (h.own c q ch p k hp (hch ch p k hf))
  tk := fun k hk =>
    let ⟨c, id, p, h1, h2⟩ := h.tk k ((htk k).1 hk)
    ⟨c, id, p, hg.at_ h1, h2.imp_right fun h3 => ⟨h3.1, hg.mem h3.2⟩⟩
  lv := fun c q p hp =>
    let ⟨k, h1, h2⟩ := h.lv c q p hp
    ⟨k, (htk k).2 h1, hg.at_ h2⟩

theorem gpc_upd (he : GPc cfg s' e pc) (x : Nat) : upd s.pcs e pc x = s.pcs x ∨ GPc cfg s' x (upd s.pcs e pc x) := by
  by_cases h : x = e
  · rw [h, upd_same]; exact .inr he
  · exact .inl (upd_other _ _ _ _ h)

/-- the moves that put no reply into a channel and receive none: exchanges whose control state stays keep their
    ghost facts, for the others they are supplied -/
theorem GInv.frame (h : GInv cfg s) (hg : Grows s.hist s'.hist)
    (hch : ∀ ch p k, s'.chans ch = .full p k → s.chans ch = .full p k) (htk : s'.taken = s.taken)
    (hret : ∀ e mid p, Ev.ret e (some (mid, p)) ∈ s'.hist →
      ∃ k c id, (e, k) ∈ s.taken ∧ evAt s.hist k = some (.reply c id p))
    (hpc : ∀ e, s'.pcs e = s.pcs e ∨ GPc cfg s' e (s'.pcs e)) : GInv cfg s' where
  ch_ev := fun ch p k hf =>
    let ⟨c, id, he⟩ := h.ch_ev ch p k (hch ch p k hf)
    ⟨c, id, hg.at_ he⟩
  uniq := fun k l l' h1 h2 => by
    have back : ∀ {l}, Loc s' k l → Loc s k l := fun {l} hl => by
      cases l with
      | inl ch => exact hl.imp fun p hf => hch ch p k hf
      | inr x => exact (htk ▸ hl : (x, k) ∈ s.taken)
    exact h.uniq k l l' (back h1) (back h2)
  tk_one := htk ▸ h.tk_one
  ret_tk := fun e mid p hm =>
    let ⟨k, c, id, h1, h2⟩ := hret e mid p hm
    ⟨k, c, id, htk ▸ h1, hg.at_ h2⟩
  pc := fun x => (hpc x).elim (fun hx => hx ▸ (h.pc x).extend hg hch fun _ => htk ▸ Iff.rfl) id

theorem GInv.move (hi : Inv cfg s) (h : GInv cfg s) (m : Move cfg s s') : GInv cfg s' := by
  have old : ∀ {ev : Ev} (_ : ∀ e p, ev ≠ .ret e (some p)) e mid p, Ev.ret e (some (mid, p)) ∈ ev :: s.hist →
      ∃ k c id, (e, k) ∈ s.taken ∧ evAt s.hist k = some (.reply c id p) :=
    fun hne e mid p hm => h.ret_tk e mid p (List.mem_of_ne_of_mem (fun he => hne e _ he.symm) hm)
  cases m with
  | conn conns hn hq hc => exact h.frame (.refl _) (fun _ _ _ hf => hf) rfl h.ret_tk fun _ => .inl rfl
  | register e c k q hpc hk =>
    refine h.frame (.cons _ _) (fun _ _ _ => upd_empty_full) rfl (old nofun)
      (gpc_upd (.fresh ((h.pcAt hpc).not_taken nofun nofun) nofun fun c' q' ch' p k' hp hf => ?new_own))
    -- the channel of the new registration is new and empty
    have hf' : upd s.chans s.nchan .empty ch' = .full p k' := hf
    cases hp.elim (fun hp => Pc.registered.inj hp) nofun |>.2.2
    rw [upd_same] at hf'
    cases hf'
  | sent e c q ch hpc =>
    have hr := h.pcAt hpc
    exact h.frame (.cons _ _) (fun _ _ _ hf => hf) rfl (old nofun)
      (gpc_upd (.fresh (hr.not_taken nofun nofun) nofun fun c' q' ch' p k hp hf =>
        -- it holds the channel it held, under the same (connection, wire id)
        have hw : Pc.waiting c q ch = .waiting c' q' ch' := hp.resolve_left nofun
        (Grows.cons _ _).at_ (hr.own c' q' ch' p k (.inl (by cases hw; rfl)) hf)))
  | abandon e c q ch hpc =>
    have hnt : ∀ k, (e, k) ∉ s.taken := hpc.elim (fun hp => (h.pcAt hp).not_taken nofun nofun)
      (fun hp => (h.pcAt hp).not_taken nofun nofun)
    exact h.frame (.refl _) (fun _ _ _ hf => hf) rfl h.ret_tk
      (gpc_upd (pc := .leaving c q none) (.fresh hnt nofun nofun))
  | discard c i p => exact h.frame (.cons _ _) (fun _ _ _ hf => hf) rfl (old nofun) fun _ => .inl rfl
  | deliver c i p ch hq hch =>
    -- the new stamp `s.hist.length` is in no channel and was received by nobody
    have hg : Grows s.hist (.reply c i p :: s.hist) := .cons _ _
    have hcase : ∀ {ch' p' k}, upd s.chans ch (.full p s.hist.length) ch' = .full p' k →
        (ch' = ch ∧ p' = p ∧ k = s.hist.length) ∨ (k ≠ s.hist.length ∧ s.chans ch' = .full p' k) := fun {ch' p' k} hf => by
      by_cases hc : ch' = ch
      · rw [hc, upd_same] at hf; cases hf; exact .inl ⟨hc, rfl, rfl⟩
      · rw [upd_other _ _ _ _ hc] at hf; exact .inr ⟨Nat.ne_of_lt (h.ch_st hf), hf⟩
    have hloc : ∀ {k l}, Loc { s with hist := .reply c i p :: s.hist, chans := upd s.chans ch (.full p s.hist.length) } k l →
        (k = s.hist.length ∧ l = .inl ch) ∨ (k ≠ s.hist.length ∧ Loc s k l) := fun {k l} hl => by
      cases l with
      | inl ch' =>
        obtain ⟨p', hf⟩ := hl
        rcases hcase hf with ⟨h1, _, h3⟩ | ⟨h0, h1⟩
        · exact .inl ⟨h3, h1 ▸ rfl⟩
        · exact .inr ⟨h0, p', h1⟩
      | inr x => exact .inr ⟨Nat.ne_of_lt (h.tk_st hl), hl⟩
    refine
      { ch_ev := fun ch' p' k hf => ?deliver_ch_ev, uniq := fun k l l' h1 h2 => ?deliver_uniq, tk_one := h.tk_one
        ret_tk := fun e mid p' hm =>
          let ⟨k, c', id, h1, h2⟩ := old (ev := .reply c i p) nofun e mid p' hm
          ⟨k, c', id, h1, hg.at_ h2⟩
        -- of the fields of `GPc` only `own` looks at the channels: the others are those of the state without the delivery
        pc := fun e =>
          { (h.pc e).extend (s' := { s with hist := .reply c i p :: s.hist }) hg (fun _ _ _ hf => hf) (fun _ => .rfl) with
            own := fun c' q' ch' p' k hp hf => ?deliver_own } }
    case deliver_ch_ev =>
      rcases hcase hf with ⟨_, h2, h3⟩ | ⟨_, h1⟩
      · rw [h2, h3]; exact ⟨c, i, evAt_length _ _⟩
      · exact (h.ch_ev ch' p' k h1).imp fun c' => .imp fun id he => hg.at_ he
    case deliver_uniq =>
      rcases hloc h1 with ⟨a0, a⟩ | ⟨a0, a⟩ <;> rcases hloc h2 with ⟨b0, b⟩ | ⟨b0, b⟩
      · rw [a, b]
      · exact absurd a0 b0
      · exact absurd b0 a0
      · exact h.uniq k l l' a b
    case deliver_own =>
      rcases hcase hf with ⟨h1, h2, h3⟩ | ⟨_, h1⟩
      · obtain ⟨a1, a2⟩ := hi.own c i ch e c' q' hq (h1 ▸ hp)
        rw [a1, a2, h2, h3]; exact evAt_length _ _
      · exact hg.at_ ((h.pc e).own c' q' ch' p' k hp h1)
  | take e c q ch p k hpc hch =>
    -- the stamp `k` moves from channel `ch` to `e`, which had received nothing
    have hw := h.pcAt hpc
    have hev := hw.own c q ch p k (.inr rfl) hch
    have hmem : ∀ {x k'}, (x, k') ∈ (e, k) :: s.taken → (x = e ∧ k' = k) ∨ (x ≠ e ∧ (x, k') ∈ s.taken) := fun {x k'} hm => by
      rcases List.mem_cons.mp hm with h1 | h1
      · cases h1; exact .inl ⟨rfl, rfl⟩
      · exact .inr ⟨fun hx => hw.not_taken nofun nofun k' (hx ▸ h1), h1⟩
    have hloc : ∀ {k' l}, Loc { s with chans := upd s.chans ch .empty, taken := (e, k) :: s.taken } k' l →
        (k' = k ∧ l = .inr e) ∨ (Loc s k' l ∧ l ≠ .inl ch) := fun {k' l} hl => by
      cases l with
      | inl ch' =>
        obtain ⟨p', hf⟩ := hl
        refine .inr ⟨⟨p', upd_empty_full hf⟩, fun hc => ?_⟩
        cases hc
        have hf' : upd s.chans ch .empty ch = .full p' k' := hf
        rw [upd_same] at hf'
        cases hf'
      | inr x =>
        rcases hmem hl with ⟨h1, h2⟩ | ⟨_, h1⟩
        · exact .inl ⟨h2, h1 ▸ rfl⟩
        · exact .inr ⟨h1, nofun⟩
    refine
      { ch_ev := fun ch' p' k' hf => h.ch_ev ch' p' k' (upd_empty_full hf)
        uniq := fun k' l l' h1 h2 => ?take_uniq, tk_one := fun x k1 k2 h1 h2 => ?take_tk_one
        ret_tk := fun x mid p' hm => (h.ret_tk x mid p' hm).imp fun k' => .imp fun c' => .imp fun id h1 =>
          ⟨List.mem_cons_of_mem _ h1.1, h1.2⟩
        pc := fun x =>
          (gpc_upd (s := s) (pc := .leaving c q (some p)) ⟨nofun, fun k' hk => ?take_tk, fun c' q' p' hp => ?take_lv⟩ x).elim
            (fun hx => ?take_others) id }
    case take_uniq =>
      rcases hloc h1 with ⟨a0, a⟩ | ⟨a, a0⟩ <;> rcases hloc h2 with ⟨b0, b⟩ | ⟨b, b0⟩
      · rw [a, b]
      · exact absurd (h.uniq k' l' (.inl ch) b ⟨p, a0 ▸ hch⟩) b0
      · exact absurd (h.uniq k' l (.inl ch) a ⟨p, b0 ▸ hch⟩) a0
      · exact h.uniq k' l l' a b
    case take_tk_one =>
      rcases hmem h1 with ⟨a1, a2⟩ | ⟨a0, a1⟩ <;> rcases hmem h2 with ⟨b1, b2⟩ | ⟨b0, b1⟩
      · rw [a2, b2]
      · exact absurd a1 b0
      · exact absurd b1 a0
      · exact h.tk_one x k1 k2 a1 b1
    case take_tk =>
      rcases hmem hk with ⟨_, h1⟩ | ⟨h0, _⟩
      · exact ⟨c, q, p, h1 ▸ hev, .inl rfl⟩
      · exact absurd rfl h0
    case take_lv =>
      cases hp
      exact ⟨k, List.mem_cons_self, hev⟩
    case take_others =>
      have hne : x ≠ e := fun he => by rw [he, upd_same, hpc] at hx; cases hx
      show GPc cfg _ x (upd s.pcs e (.leaving c q (some p)) x)
      rw [hx]
      exact (h.pc x).extend (.refl _) (fun _ _ _ => upd_empty_full) fun k' =>
        ⟨fun hk => ((hmem hk).resolve_left fun h1 => hne h1.1).2, List.mem_cons_of_mem _⟩
  | retire e c q hpc =>
    exact h.frame (.refl _) (fun _ _ _ hf => hf) rfl h.ret_tk
      (gpc_upd (pc := .idle) (.fresh ((h.pcAt hpc).not_taken nofun nofun) nofun nofun))
  | giveUp e hpc =>
    exact h.frame (.cons _ _) (fun _ _ _ hf => hf) rfl (old nofun)
      (gpc_upd (pc := .done) ⟨nofun, fun k hk => absurd hk ((h.pcAt hpc).not_taken nofun nofun k), nofun⟩)
  | «return» e c q p hpc =>
    have hl := h.pcAt hpc
    refine h.frame (.cons _ _) (fun _ _ _ hf => hf) rfl (fun x mid p' hm => ?return_ret_tk)
      (gpc_upd (pc := .done) ⟨nofun, fun k hk => ?return_tk, nofun⟩)
    case return_ret_tk =>
      rcases List.mem_cons.mp hm with h1 | h1
      · cases h1
        exact (hl.lv c q p rfl).imp fun k a => ⟨c, q, a⟩
      · exact h.ret_tk x mid p' h1
    case return_tk =>
      obtain ⟨c', id, p', a1, a2⟩ := hl.tk k hk
      rcases a2 with a2 | ⟨a2, _⟩
      · cases a2
        exact ⟨c, q, p, (Grows.cons _ _).at_ a1, .inr ⟨rfl, List.mem_cons_self⟩⟩
      · cases a2

theorem ginv_exec (hi : Inv cfg s) (h : GInv cfg s) (steps : List Step) : GInv cfg (exec cfg s steps) :=
  (exec_preserves (P := fun t => Inv cfg t ∧ GInv cfg t) (fun h m => ⟨h.1.move m, h.2.move h.1 m⟩) ⟨hi, h⟩ steps).2

theorem ginv_clean (cfg : Cfg) (s : State) (h1 : s.hist = []) (h2 : s.taken = []) (h3 : ∀ ch, s.chans ch = .empty)
    (h4 : ∀ e, s.pcs e = .idle) : GInv cfg s := by
  have hc : ∀ {ch p k}, s.chans ch ≠ .full p k := fun hf => by rw [h3] at hf; cases hf
  have ht : ∀ {x : Nat × Nat}, x ∉ s.taken := fun hx => by rw [h2] at hx; cases hx
  exact
    { ch_ev := fun _ _ _ hf => absurd hf hc
      uniq := fun k l _ hl => by
        cases l with
        | inl ch => exact hl.elim fun _ hf => absurd hf hc
        | inr x => exact absurd hl ht
      tk_one := fun _ _ _ hk => absurd hk ht, ret_tk := fun _ _ _ hm => by rw [h1] at hm; cases hm
      pc := fun e => by rw [h4 e]; exact ⟨fun _ _ _ _ _ _ hf => absurd hf hc, fun _ hk => absurd hk ht, nofun⟩ }

end
end MosVerif.Pipeline
