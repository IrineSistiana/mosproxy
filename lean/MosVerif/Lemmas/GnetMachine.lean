/-
  C13 — one `OnTraffic` call refines the reference parser: from each of the three states the
  connection can rest in between calls, one pass through `read:` either finds the logical stream still
  incomplete (and rests again) or delivers its first frame and goes on from the idle state.
-/
import MosVerif.Lemmas.GnetParse
namespace MosVerif.Gnet

theorem next_two (a b : UInt8) (t : Bytes) : next (a :: b :: t) 2 = ([a, b], t) :=
  next_exact (a :: b :: t) 2 (by decide) (Nat.le_add_left 2 t.length)

theorem readOne_idle_short (rn : Nat) (rh : Bool) (c : Nat) (s : Bytes) (h : s.length < 2) :
    readOne ⟨none, rn, rh, c⟩ s = .ret ⟨some (getBuf 2), 0, true, c⟩ s := by
  have hn : next s 2 = ([], s) := next_short s 2 (by omega)
  simp [readOne, hn, goCopy_nil]

theorem readOne_idle_partial (rn : Nat) (rh : Bool) (c : Nat) (a b : UInt8) (t : Bytes)
    (h : t.length < rd16 a b) :
    readOne ⟨none, rn, rh, c⟩ (a :: b :: t) = .ret ⟨some (getBuf (rd16 a b)), 0, false, c⟩ t := by
  have hb : next t (rd16 a b : Int) = ([], t) := next_short t _ (by omega)
  have hpos : 0 < rd16 a b := by omega
  simp [readOne, next_two, hb, goCopy_nil, hpos]

theorem readOne_idle_full (rn : Nat) (rh : Bool) (c : Nat) (a b : UInt8) (t : Bytes)
    (h0 : 0 < rd16 a b) (h : rd16 a b ≤ t.length) :
    readOne ⟨none, rn, rh, c⟩ (a :: b :: t) =
      .msg ⟨none, rn, rh, c⟩ (t.drop (rd16 a b)) (t.take (rd16 a b)) := by
  have hl : (List.take (rd16 a b) t).length = rd16 a b := List.length_take_of_le h
  simp [readOne, next_two, next_exact t (rd16 a b) h0 h, hl]

theorem readBody_partial (c : Nat) (L : Nat) (t : Bytes) (h : t.length < L) :
    readBody ⟨some (getBuf L), 0, false, c⟩ (getBuf L) t = .ret ⟨some (getBuf L), 0, false, c⟩ t := by
  have hb : next t ((getBuf L).length - (0 : Nat) : Int) = ([], t) :=
    next_short t _ (by rw [getBuf_length]; omega)
  simp only [readBody, hb, goCopy_nil]
  simp [getBuf_length]
  omega

theorem readBody_full (c : Nat) (L : Nat) (t : Bytes) (h0 : 0 < L) (h : L ≤ t.length) :
    readBody ⟨some (getBuf L), 0, false, c⟩ (getBuf L) t =
      .msg ⟨none, L, false, c⟩ (t.drop L) (t.take L) := by
  have hb : next t ((getBuf L).length - (0 : Nat) : Int) = (t.take L, t.drop L) := by
    rw [getBuf_length]; exact next_exact t L h0 h
  have hl : (List.take L t).length = L := List.length_take_of_le h
  have hc : goCopy (getBuf L) 0 (List.take L t) = (List.take L t, L) := by
    have := goCopy_full (List.take L t)
    rwa [hl] at this
  simp only [readBody, hb, hc]
  simp [hl]

theorem readOne_body (buf : Bytes) (rn c : Nat) (inb : Bytes) :
    readOne ⟨some buf, rn, false, c⟩ inb = readBody ⟨some buf, rn, false, c⟩ buf inb := rfl

/-- (With non-empty segments this input does not occur: a rest state with a pending header already
    holds one octet, `Rest.hdr`.) -/
theorem readOne_hdr_short (c : Nat) (s : Bytes) (h : s.length < 2) :
    readOne ⟨some (getBuf 2), 0, true, c⟩ s = .ret ⟨some (getBuf 2), 0, true, c⟩ s := by
  have hn : next s ((getBuf 2).length - (0 : Nat) : Int) = ([], s) :=
    next_short s _ (by rw [getBuf_length]; omega)
  simp only [readOne, hn, goCopy_nil]
  simp

theorem readOne_hdr_to_body (c : Nat) (a b : UInt8) (t : Bytes) :
    readOne ⟨some (getBuf 2), 0, true, c⟩ (a :: b :: t) =
      readBody ⟨some (getBuf (rd16 a b)), 0, false, c⟩ (getBuf (rd16 a b)) t := by
  have hn : next (a :: b :: t) ((getBuf 2).length - (0 : Nat) : Int) = ([a, b], t) := next_two a b t
  have hc : goCopy (getBuf 2) 0 [a, b] = ([a, b], 2) := goCopy_full [a, b]
  simp only [readOne, hn, hc]
  simp [getBuf_length]

/-- `Rest cc inb u`: between two `OnTraffic` calls the connection holds exactly the
    incomplete frame `u`: nothing of it is in `cc.buffer` (`readN = 0`), a header that
    was already consumed survives only as the buffer's length. -/
inductive Rest : ConnCtx → Bytes → Bytes → Prop
  | idle (rn : Nat) (rh : Bool) (c : Nat) : Rest ⟨none, rn, rh, c⟩ [] []
  | hdr (c : Nat) (x : UInt8) : Rest ⟨some (getBuf 2), 0, true, c⟩ [x] [x]
  | body (c : Nat) (a b : UInt8) (t : Bytes) : t.length < rd16 a b →
      Rest ⟨some (getBuf (rd16 a b)), 0, false, c⟩ t (a :: b :: t)

/-- with nothing left over the connection is back in the idle state with an empty inbound buffer -/
theorem Rest.idle_of_nil {cc : ConnCtx} {inb : Bytes} (h : Rest cc inb []) :
    cc.buffer = none ∧ inb = [] := by
  cases h
  exact ⟨rfl, rfl⟩

/-- ★ between `OnTraffic` calls `cc.buffer` never holds data: `readN = 0` whenever a buffer is kept
    (because `Next` is all-or-nothing the copy into it happens only when it can be filled completely,
    and then it is consumed at once). -/
theorem Rest.readN_zero {cc : ConnCtx} {inb u : Bytes} (h : Rest cc inb u) :
    cc.buffer = none ∨ cc.readN = 0 := by
  cases h
  · exact Or.inl rfl
  · exact Or.inr rfl
  · exact Or.inr rfl

theorem Rest.set_concurrent {cc : ConnCtx} {inb u : Bytes} (h : Rest cc inb u) (k : Nat) :
    Rest { cc with concurrent := k } inb u := by
  cases h
  · exact Rest.idle _ _ k
  · exact Rest.hdr k _
  · exact Rest.body k _ _ _ ‹_›

/-- From a rest state, with a segment appended to the inbound bytes and still no complete frame:
    the pass returns in the rest state of the longer incomplete frame. -/
theorem readOne_rest_incomplete {cc : ConnCtx} {inb u seg : Bytes} (hr : Rest cc inb u) (hseg : seg ≠ [])
    (hi : Incomplete (u ++ seg)) :
    ∃ cc' inb', readOne cc (inb ++ seg) = .ret cc' inb' ∧ Rest cc' inb' (u ++ seg) ∧
      cc'.concurrent = cc.concurrent := by
  cases hr with
  | idle rn rh c =>
    rcases hi with h | ⟨a, b, t, hS, ht⟩
    · obtain ⟨x, rfl⟩ : ∃ x, seg = [x] := by
        match seg, hseg, h with
        | [x], _, _ => exact ⟨x, rfl⟩
        | _ :: _ :: _, _, h => exact absurd h (by simp)
      exact ⟨_, _, readOne_idle_short rn rh c [x] h, Rest.hdr c x, rfl⟩
    · rw [List.nil_append] at hS ⊢
      subst hS
      exact ⟨_, _, readOne_idle_partial rn rh c a b t ht, Rest.body c a b t ht, rfl⟩
  | hdr c x =>
    obtain ⟨y, t, rfl⟩ := List.exists_cons_of_ne_nil hseg
    rcases hi with h | ⟨a, b, t', hS, ht⟩
    · exact absurd h (by simp)
    · obtain ⟨rfl, rfl, rfl⟩ : x = a ∧ y = b ∧ t = t' := by simpa using hS
      exact ⟨_, _, (readOne_hdr_to_body c x y t).trans (readBody_partial c _ t ht), Rest.body c x y t ht, rfl⟩
  | body c a b _ h0 =>
    rcases hi with h | ⟨a', b', t', hS, ht⟩
    · exact absurd h (by simp)
    · obtain ⟨rfl, rfl, rfl⟩ : a = a' ∧ b = b' ∧ inb ++ seg = t' := by simpa using hS
      exact ⟨_, _, (readOne_body ..).trans (readBody_partial c _ _ ht), Rest.body c a b _ ht, rfl⟩

/-- From a rest state, with a segment appended that completes a (non-empty) frame: the pass
    reaches `UnpackMsg` with the frame's body and leaves what follows it in the inbound bytes. -/
theorem readOne_rest_frame {cc : ConnCtx} {inb u seg : Bytes} (hr : Rest cc inb u) (hseg : seg ≠ [])
    {a b : UInt8} {t : Bytes} (hS : u ++ seg = a :: b :: t) (h0 : 0 < rd16 a b) (hc : rd16 a b ≤ t.length) :
    t.length ≤ (inb ++ seg).length ∧
    ∃ rn rh, readOne cc (inb ++ seg) =
      .msg ⟨none, rn, rh, cc.concurrent⟩ (t.drop (rd16 a b)) (t.take (rd16 a b)) := by
  cases hr with
  | idle rn rh c =>
    rw [List.nil_append] at hS ⊢
    subst hS
    exact ⟨Nat.le_add_right _ 2, rn, rh, readOne_idle_full rn rh c a b t h0 hc⟩
  | hdr c x =>
    obtain ⟨y, t', rfl⟩ := List.exists_cons_of_ne_nil hseg
    obtain ⟨rfl, rfl, rfl⟩ : x = a ∧ y = b ∧ t' = t := by simpa using hS
    exact ⟨Nat.le_add_right _ 2, _, _, (readOne_hdr_to_body c x y t').trans (readBody_full c _ t' h0 hc)⟩
  | body c a' b' _ _ =>
    obtain ⟨rfl, rfl, rfl⟩ : a' = a ∧ b' = b ∧ inb ++ seg = t := by simpa using hS
    exact ⟨Nat.le_refl _, _, _, (readOne_body ..).trans (readBody_full c _ _ h0 hc)⟩

/-- the outcome `r` of an `OnTraffic` call is the one the reference semantics prescribes when the
    logical stream parses as `p` (frames, incomplete tail) and `c0` handlers are running at entry -/
structure Good (dec : Bytes → Bool) (max c0 : Nat) (p : List Bytes × Bytes) (r : Out) : Prop where
  evs : r.evs = (admission max c0 (p.1.takeWhile dec)).1
  act : r.act = if p.1.all dec then .none else .close
  rest : p.1.all dec = true →
    Rest r.cc r.inb p.2 ∧ r.cc.concurrent = (admission max c0 (p.1.takeWhile dec)).2

/-- a pass that decodes `body`; `ih` is the rest of the loop, entered only if octets remain -/
theorem good_msg (dec : Bytes → Bool) (max fuel : Nat) {cc : ConnCtx} {inb rest body : Bytes}
    {rn : Nat} {rh : Bool} {c0 : Nat}
    (h : readOne cc inb = .msg ⟨none, rn, rh, c0⟩ rest body)
    (ih : ∀ c, rest ≠ [] → Good dec max c (parse rest) (onTraffic dec max fuel ⟨none, rn, rh, c⟩ rest)) :
    Good dec max c0 (body :: (parse rest).1, (parse rest).2) (onTraffic dec max (fuel + 1) cc inb) := by
  rw [onTraffic, h]
  dsimp only
  cases hd : dec body with
  | false =>
    rw [if_pos rfl]
    exact ⟨by rw [List.takeWhile_cons_of_neg (by simp [hd])]; rfl, by simp [hd], by simp [hd]⟩
  | true =>
    have hcc : (if c0 + 1 > max then (⟨none, rn, rh, c0⟩ : ConnCtx) else ⟨none, rn, rh, c0 + 1⟩) =
        ⟨none, rn, rh, if c0 + 1 > max then c0 else c0 + 1⟩ := by split <;> rfl
    rw [if_neg (Bool.noConfusion ·), hcc]
    have htw (fs : List Bytes) : (body :: fs).takeWhile dec = body :: fs.takeWhile dec :=
      List.takeWhile_cons_of_pos hd
    have hall (fs : List Bytes) : (body :: fs).all dec = fs.all dec := by
      rw [List.all_cons, hd, Bool.true_and]
    cases rest with
    | nil =>
      rw [parse_short [] (by decide), if_neg (c := inboundBuffered [] > 0) (Nat.lt_irrefl 0)]
      exact ⟨by rw [htw, admission_cons]; rfl, by rw [hall]; rfl, fun _ => ⟨Rest.idle .., by rw [htw, admission_cons]; rfl⟩⟩
    | cons x xs =>
      have g := ih (if c0 + 1 > max then c0 else c0 + 1) (List.cons_ne_nil x xs)
      rw [if_pos (c := inboundBuffered (x :: xs) > 0) (Nat.succ_pos xs.length)]
      exact ⟨by rw [htw, admission_cons, ← g.evs], by rw [hall]; exact g.act,
        fun h => by rw [htw, admission_cons]; exact g.rest (hall _ ▸ h)⟩

/-- One `OnTraffic` call from any rest state, after the (non-empty) segment `seg` was appended to the
    connection's inbound bytes, does what the reference parser prescribes for `u ++ seg`
    (any `fuel` above the number of buffered octets will do: every pass but the last consumes some). -/
theorem good_step (dec : Bytes → Bool) (max : Nat) (fuel : Nat) {cc : ConnCtx} {inb u seg : Bytes}
    (hr : Rest cc inb u) (hseg : seg ≠ []) (hfuel : (inb ++ seg).length < fuel)
    (hne : ∀ f ∈ (parse (u ++ seg)).1, f ≠ []) :
    Good dec max cc.concurrent (parse (u ++ seg)) (onTraffic dec max fuel cc (inb ++ seg)) := by
  induction fuel generalizing cc inb u seg with
  | zero => omega
  | succ fuel ih =>
    rcases incomplete_or_frame (u ++ seg) with hi | ⟨a, b, t, hS, hc⟩
    · obtain ⟨cc', inb', h, hr', hcon⟩ := readOne_rest_incomplete hr hseg hi
      rw [parse_of_incomplete hi, ← hcon, onTraffic, h]
      exact ⟨rfl, rfl, fun _ => ⟨hr', rfl⟩⟩
    · rw [hS, parse_complete a b t hc] at hne ⊢
      have h0 : 0 < rd16 a b := by
        have := hne _ (List.mem_cons_self ..)
        rw [Nat.pos_iff_ne_zero]
        intro hz
        rw [hz, List.take_zero] at this
        exact this rfl
      obtain ⟨hlen, rn, rh, h⟩ := readOne_rest_frame hr hseg hS h0 hc
      refine good_msg dec max fuel h fun c hnz => ?_
      have := ih (Rest.idle rn rh c) hnz (by rw [List.nil_append, List.length_drop]; omega)
        fun f hf => hne f (List.mem_cons_of_mem _ hf)
      rwa [List.nil_append] at this

end MosVerif.Gnet
