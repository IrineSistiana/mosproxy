/-
  The decoders of Model/Wire.lean are `do` blocks in `Res`.  This file has what it takes to follow one line by
  line: the equations of `>>=`; `Res.Ensures r P` (whatever `r` returns satisfies `P`), which goes through `>>=`,
  `if` and the two ways a block ends; and, for C01, `Safe r len` = `r` is not a panic and `Ensures` an offset
  within `len`, carried the same way (the bound on the offset is what keeps the next read from panicking).
  The decoder's range (`msgWF`) is followed with `Ensures` alone in Lemmas/CodecWF.lean.
  `Safe` is proved of `unpackMsgEnd`, which returns the final offset; `unpackMsg_eq` carries it over to `unpackMsg`.
-/
import MosVerif.Model.Wire
namespace MosVerif.Wire

theorem Res.ok_bind {α β : Type} (a : α) (f : α → Res β) : (Res.ok a >>= f) = f a := rfl

theorem Res.err_bind {α β : Type} (f : α → Res β) : (Res.err >>= f) = .err := rfl

theorem Res.panic_bind {α β : Type} (f : α → Res β) : (Res.panic >>= f) = .panic := rfl

theorem Res.bind_assoc {α β γ : Type} (x : Res α) (f : α → Res β) (g : β → Res γ) :
    (x >>= f) >>= g = x >>= fun a => f a >>= g := by
  cases x <;> rfl

theorem Res.bind_eq_ok {α β : Type} {x : Res α} {f : α → Res β} {b : β} (h : (x >>= f) = .ok b) :
    ∃ a, x = .ok a ∧ f a = .ok b := by
  cases x with
  | ok a => exact ⟨a, rfl, h⟩
  | err => cases h
  | panic => cases h

def Res.Ensures {α : Type} (r : Res α) (P : α → Prop) : Prop := ∀ a, r = .ok a → P a

theorem Res.Ensures.ok {α : Type} {a : α} {P : α → Prop} (h : P a) : (Res.ok a).Ensures P := by
  intro b e
  cases e
  exact h

theorem Res.Ensures.err {α : Type} {P : α → Prop} : (Res.err : Res α).Ensures P := by
  intro b e
  cases e

theorem Res.Ensures.bind {α β : Type} {x : Res α} {f : α → Res β} {P : α → Prop} {Q : β → Prop}
    (hx : x.Ensures P) (hf : ∀ a, P a → (f a).Ensures Q) : (x >>= f).Ensures Q := by
  intro b e
  obtain ⟨a, ha, hb⟩ := Res.bind_eq_ok e
  exact hf a (hx a ha) b hb

theorem Res.Ensures.ite {α : Type} {c : Prop} [Decidable c] {x y : Res α} {P : α → Prop}
    (hx : c → x.Ensures P) (hy : ¬ c → y.Ensures P) : (if c then x else y).Ensures P := by
  split
  · exact hx ‹_›
  · exact hy ‹_›

def Safe {α} (r : Res (α × Nat)) (len : Nat) : Prop :=
  r ≠ .panic ∧ r.Ensures fun p => p.2 ≤ len

theorem safe_err {α} (len : Nat) : Safe (Res.err : Res (α × Nat)) len :=
  ⟨nofun, .err⟩

theorem safe_ok {α} (a : α) {o len : Nat} (h : o ≤ len) : Safe (Res.ok (a, o)) len :=
  ⟨nofun, .ok h⟩

theorem Safe.bind {α β} {x : Res (α × Nat)} {f : α × Nat → Res (β × Nat)} {len : Nat}
    (hx : Safe x len) (hf : ∀ a o, o ≤ len → Safe (f (a, o)) len) : Safe (x >>= f) len := by
  cases x with
  | ok p => exact hf p.1 p.2 (hx.2 p rfl)
  | err => exact safe_err _
  | panic => exact absurd rfl hx.1

theorem Safe.ite {α} {c : Prop} [Decidable c] {x y : Res (α × Nat)} {len : Nat}
    (hx : c → Safe x len) (hy : ¬ c → Safe y len) : Safe (if c then x else y) len := by
  split
  · exact hx ‹_›
  · exact hy ‹_›

/-- the shape in which the decoders reject: `if c then err else ok (a, o)` with `o` in range -/
theorem safe_ite_err {α} {c : Prop} [Decidable c] (a : α) {o len : Nat} (h : o ≤ len) :
    Safe (if c then Res.err else Res.ok (a, o)) len :=
  Safe.ite (fun _ => safe_err _) fun _ => safe_ok _ h

theorem sliceFrom_ok {msg : Bytes} {off : Nat} (h : off ≤ msg.length) :
    sliceFrom msg off = .ok (msg.drop off) := by
  simp [sliceFrom, h]

theorem u16At_safe (msg : Bytes) (off : Nat) (h : off ≤ msg.length) : Safe (u16At msg off) msg.length := by
  unfold u16At
  rw [sliceFrom_ok h]
  rw [Res.ok_bind]
  split
  · next a b rest heq =>
    have := congrArg List.length heq
    rw [List.length_drop] at this
    exact safe_ok _ (by simp only [List.length_cons] at this; omega)
  · exact safe_err _

theorem u32At_safe (msg : Bytes) (off : Nat) (h : off ≤ msg.length) : Safe (u32At msg off) msg.length := by
  unfold u32At
  rw [sliceFrom_ok h]
  rw [Res.ok_bind]
  split
  · next a b c d rest heq =>
    have := congrArg List.length heq
    rw [List.length_drop] at this
    exact safe_ok _ (by simp only [List.length_cons] at this; omega)
  · exact safe_err _

theorem bytesAt_safe (msg : Bytes) (off l : Nat) (h : off ≤ msg.length) : Safe (bytesAt msg off l) msg.length := by
  unfold bytesAt
  rw [sliceFrom_ok h]
  rw [Res.ok_bind]
  split
  · exact safe_err _
  · apply safe_ok
    have : (msg.drop off).length = msg.length - off := List.length_drop
    omega

/-- The name loop never overflows its 254-byte scratch buffer (hence never reports `panic`),
    returns an offset inside the message and a name of at most 254 octets. -/
theorem nameLoop_safe (msg : Bytes) (currOff newOff ptr : Nat) (name : Bytes) :
    newOff ≤ msg.length → name.length ≤ 254 →
    nameLoop msg currOff newOff ptr name ≠ .panic ∧
    ∀ n o, nameLoop msg currOff newOff ptr name = .ok (n, o) → o ≤ msg.length ∧ n.length ≤ 254 := by
  -- the cases are the branches of `nameLoop` in the order of its text; 3 is the terminator, 6 a label, 9 a pointer,
  -- 2 the overflow of the scratch buffer (excluded by `name.length ≤ 254`), the rest return `err`
  fun_induction nameLoop msg currOff newOff ptr name
  case case1 => intros; simp
  case case2 => intro _ hl; omega
  case case3 currOff newOff ptr name h c currOff1 hlt hz newOff' hsmall =>
    intro hn hl
    refine ⟨by simp, ?_⟩
    intro n o heq
    simp only [Res.ok.injEq, Prod.mk.injEq] at heq
    obtain ⟨rfl, rfl⟩ := heq
    refine ⟨?_, hl⟩
    simp only [newOff', currOff1]
    split <;> omega
  case case4 => intros; simp
  case case5 => intros; simp
  case case6 hcap ih =>
    intro hn hl
    apply ih hn
    simp only [List.length_append, List.length_cons, List.length_nil, List.length_take, List.length_drop]
    simp only [nameCap] at hcap
    omega
  case case7 => intros; simp
  case case8 => intros; simp
  case case9 currOff newOff ptr name h c currOff1 hnlt hge h2 c1 currOff2 newOff' hp ih =>
    intro hn hl
    apply ih _ hl
    simp only [newOff', currOff2, currOff1]
    split <;> omega
  case case10 => intros; simp

theorem unpackName_safe (msg : Bytes) (off : Nat) (h : off ≤ msg.length) :
    Safe (unpackName msg off) msg.length := by
  unfold unpackName
  have := nameLoop_safe msg off off 0 [] h (by simp)
  exact ⟨this.1, fun p e => (this.2 p.1 p.2 e).1⟩

theorem unpackName_len (msg : Bytes) (off : Nat) (h : off ≤ msg.length) (n : Name) (o : Nat)
    (e : unpackName msg off = .ok (n, o)) : n.length ≤ 254 := by
  unfold unpackName at e
  exact ((nameLoop_safe msg off off 0 [] h (by simp)).2 n o e).2

theorem unpackQuestion_safe (msg : Bytes) (off : Nat) (h : off ≤ msg.length) :
    Safe (unpackQuestion msg off) msg.length := by
  unfold unpackQuestion
  refine Safe.bind (unpackName_safe msg off h) fun n o ho => ?_
  refine Safe.bind (u16At_safe msg o ho) fun t o2 ho2 => ?_
  refine Safe.bind (u16At_safe msg o2 ho2) fun c o3 ho3 => ?_
  exact safe_ok _ ho3

theorem unpackRHdr_safe (msg : Bytes) (off : Nat) (h : off ≤ msg.length) :
    Safe (unpackRHdr msg off) msg.length := by
  unfold unpackRHdr
  refine Safe.bind (unpackName_safe msg off h) fun n o ho => ?_
  refine Safe.bind (u16At_safe msg o ho) fun t o2 ho2 => ?_
  refine Safe.bind (u16At_safe msg o2 ho2) fun c o3 ho3 => ?_
  refine Safe.bind (u32At_safe msg o3 ho3) fun ttl o4 ho4 => ?_
  refine Safe.bind (u16At_safe msg o4 ho4) fun l o5 ho5 => ?_
  exact safe_ok _ ho5

theorem unpackRData_safe (msg : Bytes) (off rtype len : Nat) (h : off ≤ msg.length) :
    Safe (unpackRData msg off rtype len) msg.length := by
  unfold unpackRData
  refine Safe.ite (fun _ => Safe.ite (fun _ => safe_err _) fun _ => ?_) fun _ => ?_
  · exact Safe.bind (bytesAt_safe msg off 4 h) fun b o ho => safe_ok _ ho
  refine Safe.ite (fun _ => Safe.ite (fun _ => safe_err _) fun _ => ?_) fun _ => ?_
  · exact Safe.bind (bytesAt_safe msg off 16 h) fun b o ho => safe_ok _ ho
  refine Safe.ite (fun _ => ?_) fun _ => ?_
  · refine Safe.bind (u16At_safe msg off h) fun p o ho => ?_
    refine Safe.bind (unpackName_safe msg o ho) fun n o2 ho2 => ?_
    exact safe_ite_err _ ho2
  refine Safe.ite (fun _ => ?_) fun _ => ?_
  · refine Safe.bind (unpackName_safe msg off h) fun n o ho => ?_
    exact safe_ite_err _ ho
  refine Safe.ite (fun _ => ?_) fun _ => ?_
  · refine Safe.bind (unpackName_safe msg off h) fun ns o ho => ?_
    refine Safe.bind (unpackName_safe msg o ho) fun mb o2 ho2 => ?_
    refine Safe.bind (u32At_safe msg o2 ho2) fun a o3 ho3 => ?_
    refine Safe.bind (u32At_safe msg o3 ho3) fun b o4 ho4 => ?_
    refine Safe.bind (u32At_safe msg o4 ho4) fun c o5 ho5 => ?_
    refine Safe.bind (u32At_safe msg o5 ho5) fun d o6 ho6 => ?_
    refine Safe.bind (u32At_safe msg o6 ho6) fun e o7 ho7 => ?_
    exact safe_ite_err _ ho7
  refine Safe.ite (fun _ => ?_) fun _ => ?_
  · refine Safe.bind (u16At_safe msg off h) fun p o ho => ?_
    refine Safe.bind (u16At_safe msg o ho) fun w o2 ho2 => ?_
    refine Safe.bind (u16At_safe msg o2 ho2) fun port o3 ho3 => ?_
    refine Safe.bind (unpackName_safe msg o3 ho3) fun t o4 ho4 => ?_
    exact safe_ite_err _ ho4
  · exact Safe.bind (bytesAt_safe msg off len h) fun b o ho => safe_ok _ ho

theorem unpackResource_safe (msg : Bytes) (off : Nat) (h : off ≤ msg.length) :
    Safe (unpackResource msg off) msg.length := by
  unfold unpackResource
  refine Safe.bind (unpackRHdr_safe msg off h) fun hd o ho => ?_
  refine Safe.bind (unpackRData_safe msg o hd.rtype hd.length ho) fun rd o2 ho2 => ?_
  exact safe_ok _ ho2

theorem unpackQuestions_safe (msg : Bytes) (n off : Nat) (h : off ≤ msg.length) :
    Safe (unpackQuestions msg n off) msg.length := by
  induction n generalizing off with
  | zero => exact safe_ok _ h
  | succ n ih =>
    unfold unpackQuestions
    refine Safe.bind (unpackQuestion_safe msg off h) fun q o ho => ?_
    refine Safe.bind (ih o ho) fun qs o2 ho2 => ?_
    exact safe_ok _ ho2

theorem unpackResources_safe (msg : Bytes) (n off : Nat) (h : off ≤ msg.length) :
    Safe (unpackResources msg n off) msg.length := by
  induction n generalizing off with
  | zero => exact safe_ok _ h
  | succ n ih =>
    unfold unpackResources
    refine Safe.bind (unpackResource_safe msg off h) fun r o ho => ?_
    refine Safe.bind (ih o ho) fun rs o2 ho2 => ?_
    exact safe_ok _ ho2

theorem unpackMsgEnd_safe (msg : Bytes) : Safe (unpackMsgEnd msg) msg.length := by
  unfold unpackMsgEnd
  rw [sliceFrom_ok (Nat.zero_le _)]
  rw [Res.ok_bind]
  have hd : (msg.drop 0).length = msg.length := by simp
  generalize msg.drop 0 = hdr at hd ⊢
  split
  next i0 i1 b0 b1 q0 q1 a0 a1 n0 n1 x0 x1 rest =>
    have hlen : 12 ≤ msg.length := by rw [← hd]; simp
    refine Safe.bind (unpackQuestions_safe msg _ 12 hlen) fun qs o ho => ?_
    refine Safe.bind (unpackResources_safe msg _ o ho) fun an o2 ho2 => ?_
    refine Safe.bind (unpackResources_safe msg _ o2 ho2) fun ns o3 ho3 => ?_
    refine Safe.bind (unpackResources_safe msg _ o3 ho3) fun ar o4 ho4 => ?_
    exact safe_ok _ ho4
  next => exact safe_err _

/-- `unpackMsgEnd` is `unpackMsg` with the final offset kept: dropping it again commutes with the five binds, and
    behind the last one `.ok (m, off) >>= fun p => .ok p.1` is `.ok m`. -/
theorem unpackMsg_eq (msg : Bytes) :
    unpackMsg msg = (unpackMsgEnd msg >>= fun p => Res.ok p.1) := by
  unfold unpackMsg unpackMsgEnd
  rw [Res.bind_assoc]
  congr 1
  funext hdr
  split
  next =>
    rw [Res.bind_assoc]
    congr 1
    funext ⟨qs, o⟩
    dsimp only
    rw [Res.bind_assoc]
    congr 1
    funext ⟨an, o2⟩
    dsimp only
    rw [Res.bind_assoc]
    congr 1
    funext ⟨ns, o3⟩
    dsimp only
    rw [Res.bind_assoc]
    congr 1
  next => rfl

end MosVerif.Wire
