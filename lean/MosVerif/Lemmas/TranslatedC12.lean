/-
  Tie by translation (C12): the ECS option constants of `makeEdns0ClientSubnetReqOpt` (OPTION-LENGTH = 2 + 1 + 1 +
  truncated, FAMILY), the size floor of `newEDNS0` and the guard of the ECS option in `packReq`, translated
  mechanically from the current Go source, equal the definitions `Router.makeECS`, `Router.newEDNS0` and
  `Router.reqMsg` are built from.
-/
import MosVerif.Generated.Translated
import MosVerif.Lemmas.TranslatedTactics
import MosVerif.Model.Router
namespace MosVerif.Router
open MosVerif

theorem id_pure_nat (x : Nat) : (pure x : Id Nat) = x := rfl

/-- OPTION-LENGTH of the IPv4 / IPv6 ECS option (`length4`, `length6`) -/
theorem ecs_length4_translated : ecsLen4 = Translated.c12_ecs_length4 := by decide
theorem ecs_length6_translated : ecsLen6 = Translated.c12_ecs_length6 := by decide

/-- FAMILY (`family4`, `family6`) -/
theorem ecs_family4_translated : ecsFamily4 = Translated.c12_ecs_family4 := by decide
theorem ecs_family6_translated : ecsFamily6 = Translated.c12_ecs_family6 := by decide

/-- `if udpSize < 512 { udpSize = 512 }` -/
theorem newEDNS0_size_translated (size : Nat) : ednsSize size = Translated.c12_newEDNS0_size size := by
  unfold ednsSize Translated.c12_newEDNS0_size
  tr_val

/-- the class field of the OPT record `newEDNS0` builds is the translated size computation -/
theorem newEDNS0_class_translated (size : Nat) (d : Wire.Bytes) :
    (newEDNS0 size d).rclass = Translated.c12_newEDNS0_size size := by
  rw [← newEDNS0_size_translated]; rfl

/-- `r.opt.ecsEnabled && remoteAddr.IsValid()` -/
theorem ecsGuard_translated (e v : Bool) : ecsGuard e v = Translated.c12_ecsGuard e v := by
  cases e <;> cases v <;> rfl

end MosVerif.Router
