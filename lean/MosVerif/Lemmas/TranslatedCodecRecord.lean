/-
  Tie by translation (C01/C02): questions, resource headers, the per-type RDATA decoders and the header word.
  Every theorem: the model's function = the mechanical translation of the current Go function (re-packed into the
  model's structures), for all byte strings, offsets and lengths.
  Facts about the model alone that only this tie needs are proved here: offsets only grow (`nameLoop_off`,
  `unpackName_off`, `u16At_off`, `u32At_off`), and `testBit` as a mask test (`and_two_pow'`, `testBit_land`).
-/
import MosVerif.Lemmas.TranslatedCodecName
namespace MosVerif.Wire
open MosVerif

theorem Res.bind_congr' {α β} {x : Res α} {f g : α → Res β} (h : ∀ a, x = .ok a → f a = g a) :
    (x >>= f) = (x >>= g) := by
  cases x with
  | ok a => exact h a rfl
  | err => rfl
  | panic => rfl

/-! ### offsets only grow (needed where Go subtracts two `int` offsets) -/

theorem nameLoop_off (msg : Bytes) (currOff newOff ptr : Nat) (name : Bytes) :
    ∀ n o, nameLoop msg currOff newOff ptr name = .ok (n, o) → (ptr = 0 → currOff < o) ∧ (ptr ≠ 0 → o = newOff) := by
  fun_induction nameLoop msg currOff newOff ptr name
  case case1 => intros; simp_all
  case case2 => intros; simp_all
  case case3 currOff newOff ptr name h c currOff1 hlt hz newOff' hsmall =>
    intro n o heq
    simp only [Res.ok.injEq, Prod.mk.injEq] at heq
    obtain ⟨rfl, rfl⟩ := heq
    simp only [newOff', currOff1]
    constructor <;> intro hp <;> simp [hp]
  case case4 => intros; simp_all
  case case5 => intros; simp_all
  case case6 hcap ih =>
    intro n o heq
    have := ih n o heq
    constructor
    · intro hp; have := this.1 hp; omega
    · exact this.2
  case case7 => intros; simp_all
  case case8 => intros; simp_all
  case case9 currOff newOff ptr name h c currOff1 hnlt hge h2 c1 currOff2 newOff' hp ih =>
    intro n o heq
    have := (ih n o heq).2 (by omega)
    simp only [newOff', currOff2, currOff1] at this
    constructor
    · intro hp0; simp [hp0] at this; omega
    · intro hp0; simp [hp0] at this; exact this
  case case10 => intros; simp_all

theorem unpackName_off (msg : Bytes) (off : Nat) (n : Name) (o : Nat) (h : unpackName msg off = .ok (n, o)) : off < o :=
  (nameLoop_off msg off off 0 [] n o h).1 rfl

theorem u16At_off (msg : Bytes) (off : Nat) (v o : Nat) (h : u16At msg off = .ok (v, o)) : o = off + 2 := by
  unfold u16At at h
  cases hs : sliceFrom msg off with
  | err => simp [hs] at h
  | panic => simp [hs] at h
  | ok buf =>
    match buf, hs with
    | [], hs => simp [hs] at h
    | [_], hs => simp [hs] at h
    | a :: b :: r, hs => simp [hs] at h; omega

theorem u32At_off (msg : Bytes) (off : Nat) (v o : Nat) (h : u32At msg off = .ok (v, o)) : o = off + 4 := by
  unfold u32At at h
  cases hs : sliceFrom msg off with
  | err => simp [hs] at h
  | panic => simp [hs] at h
  | ok buf =>
    match buf, hs with
    | [], hs => simp [hs] at h
    | [_], hs => simp [hs] at h
    | [_, _], hs => simp [hs] at h
    | [_, _, _], hs => simp [hs] at h
    | a :: b :: c :: d :: r, hs => simp [hs] at h; omega

/-- Go's `off-start != int(length)` on `int`s (translated into ℤ) is the model's ℕ test once `start ≤ off`. -/
theorem intDiff_ne (o off len : Nat) (h : off ≤ o) :
    decide ((((o : Nat) : Int) - ((off : Nat) : Int)) ≠ ((len : Nat) : Int)) = decide (o - off ≠ len) := by
  congr 1
  apply propext
  omega

theorem unpackQuestion_translated (msg : Bytes) (off : Nat) :
    unpackQuestion msg off =
      Translated.unpackQuestion msg off >>= fun r => .ok (⟨r.1, r.2.1, r.2.2.1⟩, r.2.2.2) := by
  unfold unpackQuestion Translated.unpackQuestion
  simp only [unpackName_translated, u16At_translated, Res.bind_assoc', Res.bind_ok', Res.pure_eq]

/-- `ResourceHdr.unpack` -/
theorem unpackRHdr_translated (msg : Bytes) (off : Nat) :
    unpackRHdr msg off =
      Translated.ResourceHdr_unpack msg off >>= fun r => .ok (⟨r.1, r.2.1, r.2.2.1, r.2.2.2.1, r.2.2.2.2.1⟩, r.2.2.2.2.2) := by
  unfold unpackRHdr Translated.ResourceHdr_unpack
  simp only [unpackName_translated, u16At_translated, u32At_translated, Res.bind_assoc', Res.bind_ok', Res.pure_eq]

/-! ### RDATA (the per-type `unpack` methods of rr.go; `len` is the header's RDLENGTH) -/

/-- `A.unpack` (`r.A` is a 4-byte array) -/
theorem unpackRData_A_translated (msg : Bytes) (off len : Nat) (rA : Bytes) (hA : rA.length = 4) :
    unpackRData msg off typeA len = Translated.A_unpack msg off len rA >>= fun r => .ok (.a r.1, r.2) := by
  unfold unpackRData Translated.A_unpack
  simp only [← bytesAt_translated_dst, hA, if_true]
  by_cases h : len = 4
  · simp only [h, ne_eq, not_true_eq_false, if_false, decide_false, Bool.false_eq_true, Res.bind_assoc', Res.bind_ok', Res.pure_eq]
  · simp [h]

/-- `AAAA.unpack` (`r.AAAA` is a 16-byte array) -/
theorem unpackRData_AAAA_translated (msg : Bytes) (off len : Nat) (rA : Bytes) (hA : rA.length = 16) :
    unpackRData msg off typeAAAA len = Translated.AAAA_unpack msg off len rA >>= fun r => .ok (.aaaa r.1, r.2) := by
  unfold unpackRData Translated.AAAA_unpack
  simp only [← bytesAt_translated_dst, hA, typeA, typeAAAA, if_true]
  by_cases h : len = 16
  · simp only [h, ne_eq, not_true_eq_false, if_false, decide_false, Bool.false_eq_true, Res.bind_assoc', Res.bind_ok', Res.pure_eq]
    simp only [Nat.reduceEqDiff, if_false]
  · simp [h]

theorem unpackRData_MX_translated (msg : Bytes) (off len : Nat) :
    unpackRData msg off typeMX len = Translated.MX_unpack msg off len >>= fun r => .ok (.mx r.1 r.2.1, r.2.2) := by
  unfold unpackRData Translated.MX_unpack
  simp only [typeA, typeAAAA, typeMX, Nat.reduceEqDiff, if_false, if_true, Res.bind_assoc', Res.pure_eq]
  simp only [← u16At_translated, ← unpackName_translated]
  refine Res.bind_congr' fun ⟨p, o1⟩ h1 => ?_
  refine Res.bind_congr' fun ⟨n, o2⟩ h2 => ?_
  have e1 := u16At_off _ _ _ _ h1
  have e2 := unpackName_off _ _ _ _ h2
  simp only [intDiff_ne o2 off len (by omega)]
  by_cases h : o2 - off = len <;> simp [h]

/-- `NAMEResource.unpack` (CNAME / NS / PTR) -/
theorem unpackRData_NAME_translated (msg : Bytes) (off len rtype : Nat)
    (ht : rtype = typeCNAME ∨ rtype = typeNS ∨ rtype = typePTR) :
    unpackRData msg off rtype len = Translated.NAMEResource_unpack msg off len >>= fun r => .ok (.name r.1, r.2) := by
  unfold unpackRData Translated.NAMEResource_unpack
  have h1 : ¬ rtype = typeA := by rcases ht with h | h | h <;> simp [h, typeA, typeCNAME, typeNS, typePTR]
  have h2 : ¬ rtype = typeAAAA := by rcases ht with h | h | h <;> simp [h, typeAAAA, typeCNAME, typeNS, typePTR]
  have h3 : ¬ rtype = typeMX := by rcases ht with h | h | h <;> simp [h, typeMX, typeCNAME, typeNS, typePTR]
  simp only [h1, h2, h3, ht, if_false, if_true, Res.bind_assoc', Res.pure_eq]
  simp only [← unpackName_translated]
  refine Res.bind_congr' fun ⟨n, o2⟩ h2 => ?_
  have e2 := unpackName_off _ _ _ _ h2
  simp only [intDiff_ne o2 off len (by omega)]
  by_cases h : o2 - off = len <;> simp [h]

theorem unpackRData_SOA_translated (msg : Bytes) (off len : Nat) :
    unpackRData msg off typeSOA len =
      Translated.SOA_unpack msg off len >>= fun r =>
        .ok (.soa r.1 r.2.1 r.2.2.1 r.2.2.2.1 r.2.2.2.2.1 r.2.2.2.2.2.1 r.2.2.2.2.2.2.1, r.2.2.2.2.2.2.2) := by
  unfold unpackRData Translated.SOA_unpack
  simp only [typeA, typeAAAA, typeMX, typeSOA, typeCNAME, typeNS, typePTR, Nat.reduceEqDiff, or_self,
    if_false, if_true, Res.bind_assoc', Res.pure_eq]
  simp only [← u32At_translated, ← unpackName_translated]
  refine Res.bind_congr' fun ⟨ns, o1⟩ h1 => ?_
  refine Res.bind_congr' fun ⟨mb, o2⟩ h2 => ?_
  refine Res.bind_congr' fun ⟨a, o3⟩ h3 => ?_
  refine Res.bind_congr' fun ⟨b, o4⟩ h4 => ?_
  refine Res.bind_congr' fun ⟨c, o5⟩ h5 => ?_
  refine Res.bind_congr' fun ⟨d, o6⟩ h6 => ?_
  refine Res.bind_congr' fun ⟨e, o7⟩ h7 => ?_
  have e1 := unpackName_off _ _ _ _ h1
  have e2 := unpackName_off _ _ _ _ h2
  have e3 := u32At_off _ _ _ _ h3
  have e4 := u32At_off _ _ _ _ h4
  have e5 := u32At_off _ _ _ _ h5
  have e6 := u32At_off _ _ _ _ h6
  have e7 := u32At_off _ _ _ _ h7
  simp only [intDiff_ne o7 off len (by omega)]
  by_cases h : o7 - off = len <;> simp [h]

theorem unpackRData_SRV_translated (msg : Bytes) (off len : Nat) :
    unpackRData msg off typeSRV len =
      Translated.SRV_unpack msg off len >>= fun r => .ok (.srv r.1 r.2.1 r.2.2.1 r.2.2.2.1, r.2.2.2.2) := by
  unfold unpackRData Translated.SRV_unpack
  simp only [typeA, typeAAAA, typeMX, typeSOA, typeSRV, typeCNAME, typeNS, typePTR, Nat.reduceEqDiff, or_self,
    if_false, if_true, Res.bind_assoc', Res.pure_eq]
  simp only [← u16At_translated, ← unpackName_translated]
  refine Res.bind_congr' fun ⟨a, o1⟩ h1 => ?_
  refine Res.bind_congr' fun ⟨b, o2⟩ h2 => ?_
  refine Res.bind_congr' fun ⟨c, o3⟩ h3 => ?_
  refine Res.bind_congr' fun ⟨t, o4⟩ h4 => ?_
  have e1 := u16At_off _ _ _ _ h1
  have e2 := u16At_off _ _ _ _ h2
  have e3 := u16At_off _ _ _ _ h3
  have e4 := unpackName_off _ _ _ _ h4
  simp only [intDiff_ne o4 off len (by omega)]
  by_cases h : o4 - off = len <;> simp [h]

/-- `RawResource.unpack` (every other type) -/
theorem unpackRData_Raw_translated (msg : Bytes) (off len rtype : Nat)
    (h1 : rtype ≠ typeA) (h2 : rtype ≠ typeAAAA) (h3 : rtype ≠ typeMX) (h4 : rtype ≠ typeCNAME) (h5 : rtype ≠ typeNS)
    (h6 : rtype ≠ typePTR) (h7 : rtype ≠ typeSOA) (h8 : rtype ≠ typeSRV) :
    unpackRData msg off rtype len = Translated.RawResource_unpack msg off len >>= fun r => .ok (.raw r.1, r.2) := by
  unfold unpackRData Translated.RawResource_unpack
  simp only [h1, h2, h3, h4, h5, h6, h7, h8, or_self, if_false, Res.bind_assoc', Res.bind_ok', Res.pure_eq,
    ← bytesAt_translated]

theorem and_two_pow' (bits k : Nat) : bits &&& 2 ^ k = if bits.testBit k then 2 ^ k else 0 := by
  apply Nat.eq_of_testBit_eq
  intro i
  rw [Nat.testBit_and, Nat.testBit_two_pow]
  by_cases hik : k = i
  · subst hik; cases h : bits.testBit k <;> simp
  · cases h : bits.testBit k <;> simp [hik]

theorem testBit_land (bits k : Nat) : testBit bits k = decide (bits &&& (1 <<< k) ≠ 0) := by
  unfold testBit
  rw [Nat.one_shiftLeft, and_two_pow', ← Nat.testBit_eq_decide_div_mod_eq]
  have := Nat.two_pow_pos k
  cases hb : bits.testBit k
  · simp
  · simp

/-- `header.header()` -/
theorem headerOfBits_translated (id bits : Nat) :
    Translated.header_header id bits =
      .ok (let h := headerOfBits id bits
           (h.id, h.response, h.opcode, h.authoritative, h.truncated, h.rd, h.ra, h.z, h.ad, h.cd, h.rcode)) := by
  unfold Translated.header_header headerOfBits
  simp only [testBit_land, Res.pure_eq]
  have e1 : (bits >>> 11) &&& 15 = bits / 2048 % 16 := by
    rw [Nat.shiftRight_eq_div_pow]
    exact Nat.and_two_pow_sub_one_eq_mod _ 4
  have e2 : bits &&& 15 = bits % 16 := Nat.and_two_pow_sub_one_eq_mod _ 4
  rw [e1, e2]

end MosVerif.Wire
