/-
  `popEDNS0` (swap-remove of the last OPT record) removes exactly one OPT record.
  The counting argument is about swap-remove on any list and any predicate (`countP_swapRemove`);
  `popEDNS0_cases` says which of its two forms `popEDNS0` takes, and the two results follow from it.
-/
import MosVerif.Model.Router
namespace MosVerif.Router
open MosVerif.Wire

def isOptB (r : Resource) : Bool := r.rtype == typeOPT
def countOpt (rs : List Resource) : Nat := rs.countP isOptB

theorem isOptB_eq (r : Resource) : isOptB r = (r.rtype == typeOPT) := rfl

/-- `countOpt` in the words of `RouterIO.optCount` and of the specification's filters -/
theorem countOpt_eq_length_filter (rs : List Resource) :
    countOpt rs = (rs.filter (fun r => r.rtype == typeOPT)).length := by
  rw [countOpt, List.countP_eq_length_filter, funext isOptB_eq]

theorem lastOptIdx_none (rs : List Resource) (h : lastOptIdx rs = none) : countOpt rs = 0 := by
  unfold lastOptIdx at h
  simp only [List.getLast?_eq_none_iff, List.filter_eq_nil_iff, List.mem_range] at h
  apply List.countP_eq_zero.mpr
  intro r hr
  obtain ⟨i, hi, rfl⟩ := List.getElem_of_mem hr
  have := h i hi
  rwa [List.getElem?_eq_getElem hi] at this

theorem lastOptIdx_some (rs : List Resource) (i : Nat) (h : lastOptIdx rs = some i) :
    ∃ hi : i < rs.length, isOptB rs[i] = true := by
  have hm := List.mem_of_getLast? h
  simp only [List.mem_filter, List.mem_range] at hm
  refine ⟨hm.1, ?_⟩
  have := hm.2
  rwa [List.getElem?_eq_getElem hm.1] at this

/-- swap-remove: writing the last element over position `i` and dropping the last position removes `l[i]`
    and nothing else -/
theorem countP_swapRemove {α} (p : α → Bool) (l : List α) (i : Nat) (hi : i < l.length) (last : α)
    (hl : l.getLast? = some last) :
    (l.set i last).dropLast.countP p + (if p l[i] then 1 else 0) = l.countP p := by
  obtain ⟨d, rfl⟩ := List.getLast?_eq_some_iff.mp hl
  rw [List.countP_append, List.countP_singleton]
  by_cases h : i < d.length
  · have := List.boole_getElem_le_countP (p := p) h
    rw [List.set_append_left _ _ h, List.dropLast_concat, List.countP_set h, List.getElem_append_left h]
    omega
  · have hid : d.length ≤ i := Nat.le_of_not_lt h
    have h0 : i - d.length = 0 := by rw [List.length_append, List.length_singleton] at hi; omega
    rw [List.set_append_right _ _ hid, List.getElem_append_right hid]
    simp only [h0, List.set_cons_zero, List.getElem_cons_zero, List.dropLast_concat]

theorem popEDNS0_cases (rs : List Resource) :
    (countOpt rs = 0 ∧ popEDNS0 rs = (none, rs)) ∨
    ∃ i last, ∃ hi : i < rs.length, isOptB rs[i] = true ∧ rs.getLast? = some last ∧
      popEDNS0 rs = (some rs[i], (rs.set i last).dropLast) := by
  unfold popEDNS0
  cases h : lastOptIdx rs with
  | none => exact .inl ⟨lastOptIdx_none rs h, rfl⟩
  | some i =>
    obtain ⟨hi, hopt⟩ := lastOptIdx_some rs i h
    have hne : rs ≠ [] := List.ne_nil_of_length_pos (Nat.zero_lt_of_lt hi)
    refine .inr ⟨i, rs.getLast hne, hi, hopt, List.getLast?_eq_some_getLast hne, ?_⟩
    simp only [List.getElem?_eq_getElem hi, List.getLast?_eq_some_getLast hne]

/-- ★ `popEDNS0` removes one OPT if there is one, and changes nothing otherwise. -/
theorem countOpt_pop (rs : List Resource) : countOpt (popEDNS0 rs).2 = countOpt rs - 1 := by
  rcases popEDNS0_cases rs with ⟨h0, hpop⟩ | ⟨i, last, hi, hopt, hl, hpop⟩
  · rw [hpop, h0]
  · have := countP_swapRemove isOptB rs i hi last hl
    rw [hopt, if_pos rfl] at this
    rw [hpop, countOpt, countOpt, ← this]
    rfl

theorem pop_none_iff (rs : List Resource) : (popEDNS0 rs).1 = none ↔ countOpt rs = 0 := by
  rcases popEDNS0_cases rs with ⟨h0, hpop⟩ | ⟨i, last, hi, hopt, _, hpop⟩
  · rw [hpop]
    exact ⟨fun _ => h0, fun _ => rfl⟩
  · have := List.boole_getElem_le_countP (p := isOptB) hi
    rw [hopt, if_pos rfl] at this
    rw [hpop]
    exact ⟨nofun, fun h0 => by rw [countOpt] at h0; omega⟩

end MosVerif.Router
