/-
  C17 — the model's observation satisfies the executable specification.

  `spec_of_target` reduces the specification to how the harness sees the dial of the expected plan
  (`ctlOf`, `isLive`); IP/domain targets and unix sockets are its two instances. At the end the
  specifications of the pure helpers (`specTrim`, `specNet`, `specForm`), from the lemmas of
  `Lemmas/AddrPlan` and `Lemmas/AddrUpstream`.
-/
import MosVerif.Lemmas.AddrUpstream
namespace MosVerif.Addr

theorem defaultPort_facts (s : Scheme) : PlainFacts s.defaultPort := by
  cases s <;> exact port_facts (by decide)

theorem port_getD_facts {p : Option Str} (s : Scheme) (wp : portWf p = true) :
    PlainFacts (p.getD s.defaultPort) := by
  cases p with
  | none => exact defaultPort_facts s
  | some p => exact port_facts wp

theorem ctlOf_inet (ns : List (Str × Str)) {net : Str} {h : Host} {p : Str} (hn : net ≠ sUnix)
    (wh : h.wf = true) (fp : PlainFacts p) :
    ctlOf ns net (joinHostPort h.bare p) = (Target.inet net h.bare p).ctl ns := by
  simp only [ctlOf, hn, if_false, split_join wh fp]
  simp only [Target.ctl, joinHostPort]
  -- the resolved address is IPv6 (brackets, family 6) or not, on both sides alike
  split <;> simp

theorem isLive_inet {net : Str} {h : Host} {p : Str} (hn : net ≠ sUnix)
    (wh : h.wf = true) (fp : PlainFacts p) :
    isLive net (joinHostPort h.bare p) = (p == sPORT) := by
  simp [isLive, hn, split_join wh fp]

/-- a socket is created for every target: what `Control` sees has a '|', "none" has not -/
theorem ctl_ne_none (ns : List (Str × Str)) {t : Target} (h : t ≠ .noClaim) : t.ctl ns ≠ sNone := by
  have hm : '|' ∈ t.ctl ns := by
    cases t with
    | inet s h p =>
      rw [Target.ctl]
      -- either address family: the '|' follows the family digit
      split <;> simp
    | unix a => simp [Target.ctl]
    | noClaim => exact absurd rfl h
  intro e
  rw [e] at hm
  revert hm
  decide

theorem Scheme.sock_eq (s : Scheme) : s.sock = if s.stream then sTcp else sUdp := by
  cases s <;> rfl

theorem expNet_inet {c : Case} (hd : ∀ n, c.dial ≠ .unix n) (hr : ∀ s, c.dial ≠ .raw s) :
    c.expNet = c.scheme.sock := by
  rw [Scheme.sock_eq]
  obtain ⟨sch, host, port, path, dial, ns⟩ := c
  cases dial with
  | unix n => exact absurd rfl (hd n)
  | raw s => exact absurd rfl (hr s)
  | _ => rfl

theorem sock_ne_unix (s : Scheme) : s.sock ≠ sUnix := by
  cases s <;> decide

theorem tlsLike_iff (s : Scheme) :
    (s.proto = .tls ∨ s.proto = .https ∨ s.proto = .quic) ↔ s.tlsBased = true := by
  cases s <;> decide

theorem quicLike_iff (s : Scheme) : (s.proto = .quic ∨ s.isH3 = true) ↔ s.quicBased = true := by
  cases s <;> decide

theorem Scheme.tcpRetry_of_stream {s : Scheme} (h : s.stream = true) : s.tcpRetry = false := by
  -- a scheme that retries over TCP (none, udp) is not stream based
  cases s <;> first | rfl | cases h

/-- an optional observation that, when made, is `v` -/
theorem none_or_some {p : Prop} [Decidable p] (v : Str) :
    ((if p then some v else none) == none || (if p then some v else none) == some v) = true := by
  split <;> simp

/-- The specification holds of what is observed of the expected plan as soon as the harness sees the
    dial as it sees the target (`ctl`, `live`) and the TCP retry of a udp upstream
    that is live goes where the first dial went. -/
theorem spec_of_target {c : Case} (w : c.wf = true) {t : Target} (ht : c.target = t) (hnc : t ≠ .noClaim)
    (hctl : ctlOf c.ns c.expNet c.expDial = t.ctl c.ns) (hlive : isLive c.expNet c.expDial = t.live)
    (hexp : expectedCtl c t = if c.scheme.tcpRetry && t.live
      then ctlOf c.ns sTcp c.expDial ++ ';' :: t.ctl c.ns else t.ctl c.ns) :
    specDial c (observe c (.ok c.expPlan)) = true := by
  have hne := ctl_ne_none c.ns hnc
  rw [specDial, w, ht]
  -- `simp` also drops the `match` on the target: its discharger finds `hnc` in the context
  simp only [Bool.not_true, Bool.false_eq_true, if_false, observe, Case.expPlan, hctl, hlive, hexp,
    tlsLike_iff, quicLike_iff, Bool.and_eq_true]
  refine ⟨⟨⟨⟨⟨beq_self_eq_true _, ?_⟩, ?_⟩, ?_⟩, none_or_some _⟩, ?_⟩
  · -- the retry leg is observed exactly when the scheme retries and the dial is live (a socket exists: `hne`)
    cases c.scheme.tcpRetry <;> cases t.live <;> simp [hne]
  · -- a server name is observed only of a TLS based scheme, and then it is the URL host
    by_cases hs : c.scheme.tlsBased = true ∧ (c.scheme.quicBased = true ∧ t.ctl c.ns ≠ sNone ∨
        ¬c.scheme.quicBased = true ∧ t.live = true)
    · rw [if_pos hs, Case.expServerName, if_pos hs.1]
      simp [hs.1]
    · rw [if_neg hs]
      rfl
  · -- a handshake is attempted whenever the specification expects one: the two tests are the same
    -- Boolean function of `tlsBased`, `quicBased`, `live` (a socket exists: `hne`)
    cases c.scheme.tlsBased <;> cases c.scheme.quicBased <;> cases t.live <;> simp [hne]
  · by_cases hp : c.scheme.proto = .http ∨ c.scheme.proto = .https
    · simp only [Case.expHttpHost, if_pos hp]
      exact none_or_some _
    · simp [hp]

/-- ... so it holds whenever the connection goes to an IP/domain target -/
theorem spec_inet {c : Case} (w : c.wf = true) {hb : Host} {port : Str} (whb : hb.wf = true)
    (fp : PlainFacts port) (ht : c.target = .inet c.scheme.sock hb.bare port)
    (he : c.expDial = joinHostPort hb.bare port) (hnet : c.expNet = c.scheme.sock) :
    specDial c (observe c (.ok c.expPlan)) = true := by
  have hn := sock_ne_unix c.scheme
  refine spec_of_target w ht nofun ?_ ?_ ?_
  · rw [he, hnet]
    exact ctlOf_inet c.ns hn whb fp
  · rw [he, hnet]
    exact isLive_inet hn whb fp
  · rw [he, ctlOf_inet c.ns (net := sTcp) (by decide) whb fp]
    rfl

/-- ... and whenever it goes to an abstract unix socket (stream based schemes) -/
theorem spec_unix {c : Case} (w : c.wf = true) {n : Str} (hd : c.dial = .unix n)
    (hst : c.scheme.stream = true) :
    specDial c (observe c (.ok c.expPlan)) = true := by
  have ht : c.target = .unix ('@' :: n) := by
    rw [Case.target, hd]
    exact if_pos hst
  have he : c.expDial = '@' :: n := by
    rw [Case.expDial, hd]
    rfl
  have hnet : c.expNet = sUnix := by
    rw [Case.expNet, if_pos hst, hd]
    rfl
  refine spec_of_target w ht nofun ?_ ?_ ?_
  · rw [he, hnet]
    rfl
  · rw [he, hnet]
    rfl
  · rw [Scheme.tcpRetry_of_stream hst]
    rfl

/-- ★ the model satisfies the executable specification on every case -/
theorem dial_model_meets_spec (c : Case) : specDial c (modelDial c) = true := by
  by_cases w : c.wf = true
  case neg => simp [specDial, w]
  have f := Case.facts w
  have wd := f.dial
  rw [modelDial, newUpstream_case w]
  obtain ⟨sch, host, port, path, dial, ns⟩ := c
  cases dial with
  | raw s => simp [specDial, Case.target]
  | unix n =>
    by_cases hst : sch.stream = true
    · exact spec_unix w rfl hst
    · simp [specDial, Case.target, hst]
  | none =>
    exact spec_inet w f.host (port_getD_facts sch f.port) rfl rfl (expNet_inet (fun _ => nofun) (fun _ => nofun))
  | host h p =>
    exact spec_inet w (Dial.wf_host wd).1 (port_getD_facts sch (Dial.wf_host wd).2) rfl rfl
      (expNet_inet (fun _ => nofun) (fun _ => nofun))
  | bracketed x =>
    exact spec_inet w (hb := .v6 x) wd (defaultPort_facts sch) rfl rfl
      (expNet_inet (fun _ => nofun) (fun _ => nofun))

theorem trim_model_meets_spec (s : Str) : specTrim s (tryTrimIpv6Brackets? s) = true := by
  unfold specTrim
  split
  · rename_i t
    split
    · rename_i hl
      obtain ⟨ys, rfl⟩ := List.getLast?_eq_some_iff.mp hl
      rw [← List.cons_append, trim_bracketed, List.dropLast_concat]
      exact beq_self_eq_true _
    · rename_i hl
      have : ('[' :: t).getLast? ≠ some ']' := by
        cases t with
        | nil => decide
        | cons b u => rwa [List.getLast?_cons_cons]
      rw [trim_of_getLast? this]
      exact beq_self_eq_true _
  · rename_i hn
    rw [trim_of_head? fun e => ?_]
    · exact beq_self_eq_true _
    · obtain ⟨t, rfl⟩ := List.head?_eq_some_iff.mp e
      exact hn t rfl

theorem net_model_meets_spec (s : Str) : specNet s (dialNetworkTcpOrUnix s) = true := by
  unfold specNet
  split
  · rfl
  · rename_i hn
    have : hasAtPrefix s = false := decide_eq_false fun e => by
      obtain ⟨t, rfl⟩ := List.head?_eq_some_iff.mp e
      exact hn t rfl
    rw [dialNetworkTcpOrUnix, this]
    rfl

theorem form_model_meets_spec (c : FormCase) : specForm c (modelForm c) = true := by
  by_cases w : c.wf = true
  case neg => simp [specForm, w]
  obtain ⟨host, port, dial, dflt⟩ := c
  have w' := w
  simp only [FormCase.wf, Bool.and_eq_true] at w'
  obtain ⟨⟨⟨wh, wp⟩, wd⟩, -⟩ := w'
  have e1 : expTrim host port = Dial.render (.host host port) := by
    cases host <;> cases port <;> simp [expTrim, Dial.render, Host.url, portSuffix]
  simp only [specForm, w, modelForm, trim_authority wh wp, tryRemovePort_render wh wp,
    getDialAddr_dial dflt wh wp wd, network_dial dflt wh wd, e1]
  cases dial <;> simp [Dial.expAddr, Dial.expNet]

end MosVerif.Addr
