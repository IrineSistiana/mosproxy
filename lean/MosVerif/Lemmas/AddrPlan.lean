/-
  C17 — the helpers of `NewUpstream` on the rendered address forms: what is split, trimmed and
  dialled.

  A rendered `host[:port]` is either the bare host, on which `net.SplitHostPort` fails, or
  `JoinHostPort host port`, which it inverts; everything about `trySplitHostPort`,
  `tryRemovePort` and `getDialAddr` follows from these two facts.
-/
import MosVerif.Lemmas.AddrLemmas
namespace MosVerif.Addr

theorem Host.bare_noDelim {h : Host} (wh : h.wf = true) : NoDelim h.bare := by
  cases h with
  | plain h => exact (plainHost_facts wh).toNoDelim
  | v6 x => exact (v6_facts wh).toNoDelim

theorem Host.bare_ne {h : Host} (wh : h.wf = true) : h.bare ≠ [] := by
  cases h with
  | plain h => exact (plainHost_facts wh).ne
  | v6 x => exact (v6_facts wh).ne

theorem render_none (h : Host) : Dial.render (.host h none) = h.bare := by
  cases h with
  | plain h => exact List.append_nil h
  | v6 x => rfl

theorem render_some_eq_join {h : Host} {p : Str} (wh : h.wf = true) :
    Dial.render (.host h (some p)) = joinHostPort h.bare p := by
  cases h with
  | plain h => exact (if_neg (plainHost_facts wh).colon).symm
  | v6 x => exact (if_pos (v6_facts wh).colon).symm

theorem splitHostPort_bare {h : Host} (wh : h.wf = true) : ∃ e, splitHostPort h.bare = .error e := by
  cases h with
  | plain h => exact ⟨_, splitHostPort_noColon (plainHost_facts wh).colon⟩
  | v6 x => exact ⟨_, splitHostPort_v6bare (v6_facts wh)⟩

/-- `SplitHostPort ∘ JoinHostPort` is the identity on the supported hosts -/
theorem split_join {h : Host} {p : Str} (wh : h.wf = true) (fp : PlainFacts p) :
    splitHostPort (joinHostPort h.bare p) = .ok (h.bare, p) := by
  rw [← render_some_eq_join wh]
  cases h with
  | plain h => exact splitHostPort_plain (plainHost_facts wh) fp
  | v6 x => exact splitHostPort_v6port (v6_facts wh) fp

/-- `trySplitHostPort` recovers host and port from every supported `host[:port]` form
    (after bracket trimming / as written in `dial_addr`). -/
theorem trySplit_render {h : Host} {p : Option Str} (wh : h.wf = true) (wp : portWf p = true) :
    trySplitHostPort (Dial.render (.host h p)) = (h.bare, p.getD []) := by
  unfold trySplitHostPort
  cases p with
  | none =>
    obtain ⟨e, he⟩ := splitHostPort_bare wh
    rw [render_none, he]
    rfl
  | some p =>
    rw [render_some_eq_join wh, split_join wh (port_facts wp)]
    rfl

theorem tryRemovePort_render {h : Host} {p : Option Str} (wh : h.wf = true) (wp : portWf p = true) :
    tryRemovePort (Dial.render (.host h p)) = h.bare := by
  unfold tryRemovePort
  cases p with
  | none =>
    obtain ⟨e, he⟩ := splitHostPort_bare wh
    rw [render_none, he]
  | some p => rw [render_some_eq_join wh, split_join wh (port_facts wp)]

theorem hasAtPrefix_of_not_mem {s : Str} (h : '@' ∉ s) : hasAtPrefix s = false :=
  decide_eq_false (head?_ne_of_not_mem h)

/-- `JoinHostPort` never yields an `@name` -/
theorem join_no_at {b : Str} (p : Str) (h : '@' ∉ b) : hasAtPrefix (joinHostPort b p) = false := by
  unfold joinHostPort
  split
  · rfl
  · -- the first byte is that of `b`, or the ':' when `b` is empty
    cases b with
    | nil => rfl
    | cons a t => exact decide_eq_false fun e => h (Option.some.inj e ▸ List.mem_cons_self)

theorem render_no_at {h : Host} {p : Option Str} (wh : h.wf = true) :
    hasAtPrefix (Dial.render (.host h p)) = false := by
  cases p with
  | none => exact render_none h ▸ hasAtPrefix_of_not_mem (Host.bare_noDelim wh).at_
  | some p => exact render_some_eq_join wh ▸ join_no_at p (Host.bare_noDelim wh).at_

theorem render_ne_nil {h : Host} {p : Option Str} (wh : h.wf = true) :
    Dial.render (.host h p) ≠ [] := by
  cases p with
  | none => exact render_none h ▸ Host.bare_ne wh
  | some p =>
    rw [render_some_eq_join wh, joinHostPort]
    split <;> simp

/-- ★ `[x]` ↦ `x` for every `x` (never a panic) -/
theorem trim_bracketed (x : Str) : tryTrimIpv6Brackets? ('[' :: x ++ [']']) = some x := by
  have hl : ('[' :: x ++ [']']).getLast? = some ']' := List.getLast?_concat
  have hlen : ('[' :: x ++ [']']).length = x.length + 2 := by simp
  rw [tryTrimIpv6Brackets?_eq, if_neg (by omega), if_pos ⟨rfl, hl⟩, slice?, if_pos (by omega)]
  -- `s[1 : len(s)-1]`: the first `x.length + 1` bytes without the first
  simp

theorem trim_of_head? {s : Str} (h : s.head? ≠ some '[') : tryTrimIpv6Brackets? s = some s := by
  rw [tryTrimIpv6Brackets?_eq, if_neg fun c => h (And.left c), ite_self]

theorem trim_of_getLast? {s : Str} (h : s.getLast? ≠ some ']') : tryTrimIpv6Brackets? s = some s := by
  rw [tryTrimIpv6Brackets?_eq, if_neg fun c => h (And.right c), ite_self]

/-- ★ anything that is not of the shape `[x]` is returned unchanged -/
theorem trim_other (s : Str) (h : ¬ ∃ x, s = '[' :: x ++ [']']) : tryTrimIpv6Brackets? s = some s := by
  cases s with
  | nil => rfl
  | cons a t =>
    by_cases ha : a = '['
    · refine trim_of_getLast? fun hl => h ?_
      -- `t` is not empty (else `s = "["` ends in '['), so it carries the last character
      cases t with
      | nil => rw [ha] at hl; cases hl
      | cons b u =>
        obtain ⟨ys, e⟩ := List.getLast?_eq_some_iff.mp (List.getLast?_cons_cons ▸ hl)
        exact ⟨ys, by rw [ha, e]; rfl⟩
    · exact trim_of_head? fun e => ha (Option.some.inj e)

theorem trim_never_panics (s : Str) : (tryTrimIpv6Brackets? s).isSome = true := by
  by_cases h : ∃ x, s = '[' :: x ++ [']']
  · obtain ⟨x, rfl⟩ := h
    rw [trim_bracketed]
    rfl
  · rw [trim_other s h]
    rfl

theorem trim_total_bracketed (x : Str) : tryTrimIpv6Brackets ('[' :: x ++ [']']) = x := by
  rw [tryTrimIpv6Brackets, trim_bracketed]

theorem trim_bare {h : Host} (wh : h.wf = true) : tryTrimIpv6Brackets h.bare = h.bare := by
  rw [tryTrimIpv6Brackets, trim_of_head? (head?_ne_of_not_mem (Host.bare_noDelim wh).lb)]

/-- the URL authority after trimming is one of the forms `trySplit_render` understands -/
theorem trim_authority {h : Host} {p : Option Str} (wh : h.wf = true) (wp : portWf p = true) :
    tryTrimIpv6Brackets? (h.url ++ portSuffix p) = some (Dial.render (.host h p)) := by
  cases h with
  | plain h =>
    -- starts with the first byte of `h`, which is not '['
    have f := plainHost_facts wh
    refine trim_of_head? fun e => f.lb (List.mem_of_head? ?_)
    cases h with
    | nil => exact absurd rfl f.ne
    | cons a t => exact e
  | v6 x =>
    cases p with
    | none => exact (List.append_nil _).symm ▸ trim_bracketed x
    | some p =>
      -- ends with the last byte of `:p`, which is not ']'
      have fp := port_facts wp
      have hl := getLast?_append_ne (c := ']') ('[' :: x ++ [']']) (List.cons_ne_nil ':' p)
        (by simp [fp.rb])
      show tryTrimIpv6Brackets? ('[' :: x ++ [']'] ++ ':' :: p) = _
      rw [trim_of_getLast? hl]
      simp [Dial.render]

/-- what both branches of `getDialAddr` come to once the address is split -/
theorem getDialAddr_split {h : Host} {p : Option Str} (d : Str) (wh : h.wf = true) (wp : portWf p = true) :
    (if (p.getD []).length = 0 then joinHostPort h.bare d else Dial.render (.host h p))
      = joinHostPort h.bare (p.getD d) := by
  cases p with
  | none => rfl
  | some p =>
    have : ¬ p.length = 0 := fun e => (port_facts wp).ne (List.eq_nil_of_length_eq_zero e)
    rw [Option.getD_some, if_neg this, render_some_eq_join wh]
    rfl

/-- ★ without `dial_addr`: the URL host and port (or the default port) -/
theorem getDialAddr_url {h : Host} {p : Option Str} (d : Str) (wh : h.wf = true) (wp : portWf p = true) :
    getDialAddr (Dial.render (.host h p)) [] d = joinHostPort h.bare (p.getD d) := by
  rw [getDialAddr_eq, if_neg (show ¬ ([] : Str).length > 0 from Nat.lt_irrefl 0), trySplit_render wh wp]
  exact getDialAddr_split d wh wp

/-- ★ `@name`: unchanged -/
theorem getDialAddr_unix (url n d : Str) : getDialAddr url ('@' :: n) d = '@' :: n := by
  rw [getDialAddr_eq, if_pos (show ('@' :: n).length > 0 from Nat.succ_pos _)]
  rfl

/-- ★ with a `dial_addr` host: that host and port (or the default port), whatever the URL says -/
theorem getDialAddr_override {h : Host} {p : Option Str} (url d : Str) (wh : h.wf = true)
    (wp : portWf p = true) :
    getDialAddr url (Dial.render (.host h p)) d = joinHostPort h.bare (p.getD d) := by
  rw [getDialAddr_eq, if_pos (List.length_pos_iff.mpr (render_ne_nil wh)), render_no_at wh,
    trySplit_render wh wp]
  simp only [Bool.false_eq_true, if_false, trim_bare wh]
  exact getDialAddr_split d wh wp

/-- ★ with a `dial_addr` that is an IPv6 address in brackets without port: that address and the
    default port -/
theorem getDialAddr_bracketed {x : Str} (url d : Str) (hx : isV6Body x = true) :
    getDialAddr url ('[' :: x ++ [']']) d = joinHostPort x d := by
  have hs := splitHostPort_v6brackets (v6_facts hx)
  have ht := trim_total_bracketed x
  simp only [List.cons_append] at hs ht
  -- not empty, no '@' in front, no port found: the trimmed host is joined with the default port
  simp [getDialAddr_eq, hasAtPrefix, trySplitHostPort, hs, ht]

end MosVerif.Addr
