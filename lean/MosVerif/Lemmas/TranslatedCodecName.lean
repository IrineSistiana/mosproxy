/-
  Tie by translation (C01/C02): name decoding.  The `Loop:` of `NameBuilder.unpack` is translated into ONE
  iteration `Translated.NameBuilder_unpack_step` over the state (currOff, name, newOff, ptr); `Wire.nameLoop`
  satisfies the unfolding equation with that step (`nameLoop_step_translated`), every continuing iteration
  decreases the model's termination measure, hence `Wire.nameLoop` IS the loop (`nameLoop_translated`) and
  `Wire.unpackName = Translated.unpackName`.
-/
import MosVerif.Lemmas.TranslatedCodec
namespace MosVerif.Wire
open MosVerif

/-- The mask `0xC0` sees only the two top bits of an octet: a mask acts on the quotient and on the remainder by `2 ^ 6`
    separately, and `192 = 3 * 2 ^ 6 + 0`. -/
theorem land192 (c : Nat) (hc : c < 256) : c &&& 192 = c / 64 * 64 := by
  have hq : c / 64 &&& 3 = c / 64 := Nat.and_two_pow_sub_one_of_lt_two_pow (n := 2) (by omega)
  rw [← Nat.div_add_mod' (c &&& 192) (2 ^ 6), Nat.and_div_two_pow, Nat.and_mod_two_pow]
  show (c / 64 &&& 3) * 64 + (c % 64 &&& 0) = c / 64 * 64
  rw [hq, Nat.and_zero, Nat.add_zero]

theorem land192_zero (c : Nat) (hc : c < 256) : (c &&& 192 = 0) ↔ c < 64 := by
  rw [land192 c hc]
  omega

theorem land192_ptr (c : Nat) (hc : c < 256) : (c &&& 192 = 192) ↔ c ≥ 192 := by
  rw [land192 c hc]
  omega

theorem xor192 (c : Nat) (hc : c < 256) (h : c ≥ 192) : c ^^^ 192 = c - 192 := by
  have hq : c / 64 = 3 := by omega
  rw [← Nat.div_add_mod' (c ^^^ 192) (2 ^ 6), Nat.xor_div_two_pow, Nat.xor_mod_two_pow]
  show (c / 64 ^^^ 3) * 64 + (c % 64 ^^^ 0) = c - 192
  rw [hq, Nat.xor_self, Nat.xor_zero]
  omega

theorem ptr_target (c c1 : Nat) (hc : c < 256) (h : c ≥ 192) (h1 : c1 < 256) :
    ((c ^^^ 192) <<< 8) ||| c1 = (c - 192) * 256 + c1 := by
  rw [xor192 c hc h, ← Nat.shiftLeft_add_eq_or_of_lt (by simpa using h1), Nat.shiftLeft_eq]

/-- what `n.ToName()` makes of the loop's result -/
def namePost (r : Bytes × Nat × Nat) : Res (Bytes × Nat) :=
  GoSem.builderToName r.1 r.2.1 >>= fun x => .ok (x, r.2.2)

theorem namePost_len (name : Bytes) (o : Nat) :
    namePost (name, name.length % 256, o) = if name.length > 254 then .panic else .ok (name, o) := by
  unfold namePost GoSem.builderToName
  by_cases h : name.length > 254
  · simp [h]
  · have : name.length % 256 = name.length := Nat.mod_eq_of_lt (by omega)
    simp [h, this]

/-- THE unfolding equation of the name loop: one iteration of the model is the translated iteration.
    (`off`, the function's argument, stands on the right only: the generated step rebinds all it derives from it.) -/
theorem nameLoop_step_translated (msg : Bytes) (off currOff newOff ptr : Nat) (name : Bytes) :
    nameLoop msg currOff newOff ptr name =
      match Translated.NameBuilder_unpack_step msg off (currOff, name, newOff, ptr) with
      | .ok (.inl (c', name', n', p')) => nameLoop msg c' n' p' name'
      | .ok (.inr r) => namePost r
      | .err => .err
      | .panic => .panic := by
  rw [nameLoop]
  unfold Translated.NameBuilder_unpack_step
  have hcap : nameCap = 255 := rfl
  have hhop : hopLimit = 10 := rfl
  by_cases h : currOff ≥ msg.length
  · simp [h]
  · have hlt : currOff < msg.length := by omega
    have hc : (msg[currOff]'hlt).toNat < 256 := UInt8.toNat_lt _
    simp only [h, dite_false, GoSem.index, hlt, dite_true, GoSem.len, ge_iff_le, decide_false,
      Bool.false_eq_true, if_false, Res.bind_ok', Res.pure_eq]
    generalize (msg[currOff]'hlt).toNat = c at hc
    by_cases h64 : c < 64
    · have hz : c &&& 192 = 0 := (land192_zero c hc).2 h64
      simp only [h64, if_true, hz, decide_true]
      by_cases h0 : c = 0
      · subst h0
        simp only [if_true, decide_true]
        by_cases hp : ptr = 0
        · simp [hp, namePost_len]
        · simp [hp, namePost_len]
      · simp only [h0, if_false, decide_false, Bool.false_eq_true]
        by_cases he : currOff + 1 + c > msg.length
        · simp [he]
        · simp only [he, if_false, gt_iff_lt, decide_false, Bool.false_eq_true, hcap]
          by_cases hn : name.length + 1 + c + 1 > 255
          · simp [hn]
          · have hs : currOff + 1 ≤ currOff + 1 + c ∧ currOff + 1 + c ≤ msg.length := by omega
            have hm : c % 256 = c := Nat.mod_eq_of_lt hc
            have hd : List.drop (currOff + 1) (List.take (currOff + 1 + c) msg) = List.take c (List.drop (currOff + 1) msg) := by
              rw [List.drop_take]; congr 1; omega
            simp [hn, GoSem.slice, hs, hm, GoSem.appendByte, GoSem.appendBytes, hd]
    · have hz : ¬ (c &&& 192 = 0) := fun e => h64 ((land192_zero c hc).1 e)
      simp only [h64, if_false, hz, decide_false, Bool.false_eq_true]
      by_cases h192 : c ≥ 192
      · have hp : c &&& 192 = 192 := (land192_ptr c hc).2 h192
        simp only [h192, if_true, hp, decide_true]
        by_cases h2 : currOff + 1 ≥ msg.length
        · simp [h2]
        · have hlt2 : currOff + 1 < msg.length := by omega
          have hc1 : (msg[currOff + 1]'hlt2).toNat < 256 := UInt8.toNat_lt _
          simp only [h2, dite_false, hlt2, dite_true, decide_false, Bool.false_eq_true, if_false,
            Res.bind_ok', hhop]
          generalize (msg[currOff + 1]'hlt2).toNat = c1 at hc1
          have ht := ptr_target c c1 hc h192 hc1
          by_cases hp0 : ptr = 0
          · subst hp0; simp [ht]
          · by_cases hp10 : ptr + 1 > 10
            · simp [hp0, hp10]
            · simp [hp0, hp10, ht]
      · have hp : ¬ (c &&& 192 = 192) := fun e => h192 ((land192_ptr c hc).1 e)
        simp [h192, hp]

/-- the termination measure of `nameLoop` on the translated state (`11` is `hopLimit + 1`) -/
def nameMeasure (msg : Bytes) (s : Nat × Bytes × Nat × Nat) : Nat × Nat := (11 - s.2.2.2, msg.length - s.1)

/-- every continuing iteration of the TRANSLATED step decreases the measure (so the Go loop terminates) -/
theorem nameStep_decreases (msg : Bytes) (off : Nat) (s s' : Nat × Bytes × Nat × Nat)
    (hstep : Translated.NameBuilder_unpack_step msg off s = .ok (.inl s')) :
    Prod.Lex (· < ·) (· < ·) (nameMeasure msg s') (nameMeasure msg s) := by
  obtain ⟨currOff, name, newOff, ptr⟩ := s
  unfold Translated.NameBuilder_unpack_step at hstep
  unfold nameMeasure
  by_cases h : currOff ≥ msg.length
  · simp [h] at hstep
  · have hlt : currOff < msg.length := by omega
    have hc : (msg[currOff]'hlt).toNat < 256 := UInt8.toNat_lt _
    simp only [GoSem.index, hlt, dite_true, GoSem.len, ge_iff_le, h, decide_false,
      Bool.false_eq_true, if_false, Res.bind_ok', Res.pure_eq] at hstep
    generalize (msg[currOff]'hlt).toNat = c at hc hstep
    by_cases hz : c &&& 192 = 0
    · simp only [hz, decide_true, if_true] at hstep
      by_cases h0 : c = 0
      · subst h0
        -- end of the name: the step returns, whichever way `ptr = 0` goes
        by_cases hp : ptr = 0
        · simp [hp] at hstep
        · simp [hp] at hstep
      · simp only [h0, decide_false, Bool.false_eq_true, if_false] at hstep
        by_cases he : currOff + 1 + c > msg.length
        · simp [he] at hstep
        · by_cases hn : name.length + 1 + c + 1 > 255
          · simp [he, hn] at hstep
          · have hs : currOff + 1 ≤ currOff + 1 + c ∧ currOff + 1 + c ≤ msg.length := by omega
            simp [he, hn, GoSem.slice, hs] at hstep
            subst hstep
            exact Prod.Lex.right _ (by simp only; omega)
    · simp only [hz, decide_false, Bool.false_eq_true, if_false] at hstep
      by_cases hp : c &&& 192 = 192
      · simp only [hp, decide_true, if_true] at hstep
        by_cases h2 : currOff + 1 ≥ msg.length
        · simp [h2] at hstep
        · have hlt2 : currOff + 1 < msg.length := by omega
          simp only [h2, decide_false, Bool.false_eq_true, if_false, hlt2, dite_true, Res.bind_ok'] at hstep
          by_cases hp10 : ptr + 1 > 10
          · -- the eleventh pointer: the step fails
            have hp0 : ptr ≠ 0 := by omega
            simp [hp0, hp10] at hstep
          · by_cases hp0 : ptr = 0
            · subst hp0
              simp at hstep
              subst hstep
              exact Prod.Lex.left _ _ (by simp)
            · simp [hp0, hp10] at hstep
              subst hstep
              exact Prod.Lex.left _ _ (by simp only; omega)
      · simp [hp] at hstep

/-- `Wire.nameLoop` IS the translated Go loop (followed by `n.ToName()`), from every state. -/
theorem nameLoop_translated (msg : Bytes) (off currOff newOff ptr : Nat) (name : Bytes) :
    nameLoop msg currOff newOff ptr name =
      Res.bind (GoSem.loop (Translated.NameBuilder_unpack_step msg off) (currOff, name, newOff, ptr)) namePost := by
  have hwf : WellFounded (Prod.Lex (· < · : Nat → Nat → Prop) (· < · : Nat → Nat → Prop)) :=
    (Prod.lex Nat.lt_wfRel Nat.lt_wfRel).wf
  exact GoSem.loop_unique_bind (Translated.NameBuilder_unpack_step msg off) namePost
    (fun s => nameLoop msg s.1 s.2.2.1 s.2.2.2 s.2.1) _ hwf (nameMeasure msg)
    (nameStep_decreases msg off)
    (fun s => by
      obtain ⟨c, nm, n, p⟩ := s
      show nameLoop msg c n p nm = _
      rw [nameLoop_step_translated msg off c n p nm]
      cases Translated.NameBuilder_unpack_step msg off (c, nm, n, p) with
      | ok x =>
        cases x with
        | inl s' => obtain ⟨c', nm', n', p'⟩ := s'; rfl
        | inr v => rfl
      | err => rfl
      | panic => rfl)
    (currOff, name, newOff, ptr)

theorem unpackName_translated (msg : Bytes) (off : Nat) : unpackName msg off = Translated.unpackName msg off := by
  unfold unpackName Translated.unpackName Translated.NameBuilder_unpack Translated.NameBuilder_unpack_init
  rw [nameLoop_translated msg off]
  cases GoSem.loop (Translated.NameBuilder_unpack_step msg off) (off, [], off, 0) with
  | err => rfl
  | panic => rfl
  | ok r =>
    obtain ⟨nm, l, o⟩ := r
    show namePost (nm, l, o) = _
    unfold namePost
    cases h : GoSem.builderToName nm l <;> simp [h]

end MosVerif.Wire
