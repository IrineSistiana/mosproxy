/-
  Lemmas for C01 (upstream side): the read paths of the upstream transports (Model/UpReply.lean) never
  panic, the pipelined read loop never blocks, and a reply that reaches a waiter was decoded from a unit
  the server sent with the waiter's id.
-/
import MosVerif.Model.UpReply
import MosVerif.Lemmas.WireSafe
namespace MosVerif.UpReply
open MosVerif MosVerif.Wire

theorem unpackMsg_ne_panic (b : Bytes) : unpackMsg b ≠ .panic := by
  rw [unpackMsg_eq]
  have h := (unpackMsgEnd_safe b).1
  cases hm : unpackMsgEnd b with
  | ok p => simp [Bind.bind, Res.bind]
  | err => simp [Bind.bind, Res.bind]
  | panic => exact absurd hm h

/-! ### framing -/

theorem readMsgFromTCP_ne_panic (s : Bytes) : readMsgFromTCP s ≠ .panic := by
  unfold readMsgFromTCP
  split
  · split
    · simp
    · split
      · simp
      · simp
      · next h => exact absurd h (unpackMsg_ne_panic _)
  · simp

/-- A message returned by `ReadMsgFromTCP` is decoded from exactly the octets the length prefix announces:
    nothing behind them is looked at, and they are all there. -/
theorem readMsgFromTCP_msg {s : Bytes} {m : Msg} {rest : Bytes} (h : readMsgFromTCP s = .msg m rest) :
    ∃ a b body, s = a :: b :: (body ++ rest) ∧ body.length = be16 a b ∧ unpackMsg body = .ok m := by
  unfold readMsgFromTCP tcpBodyLen at h
  split at h
  · next a b r =>
    split at h
    · simp at h
    · next hl =>
      split at h
      · next m' hm =>
        simp only [Read.msg.injEq] at h
        refine ⟨a, b, r.take (be16 a b), ?_, ?_, ?_⟩
        · rw [← h.2, List.take_append_drop]
        · rw [List.length_take]; omega
        · rw [hm, h.1]
      · simp at h
      · simp at h
  · simp at h

/-- The first frame of the protocol-level framing is what `ReadMsgFromTCP` decodes. -/
theorem readMsgFromTCP_msg_frames {s : Bytes} {m : Msg} {rest : Bytes} (h : readMsgFromTCP s = .msg m rest) :
    ∃ f, f ∈ (frames s).1 ∧ unpackMsg f = .ok m := by
  obtain ⟨a, b, body, rfl, hl, hm⟩ := readMsgFromTCP_msg h
  refine ⟨body, ?_, hm⟩
  -- the stream starts with a complete frame, `body`: it is the head of `frames`
  simp [frames, framesAux, ← hl, Nat.not_lt.2 (Nat.le_add_right _ _)]

/-! ### the queue -/

theorem qget_mem {q : Queue} {id : Nat} {ch : Chan} (h : qget q id = some ch) : (id, ch) ∈ q := by
  obtain ⟨e, hf, rfl⟩ := Option.map_eq_some_iff.1 h
  have hid : e.1 = id := by simpa using List.find?_some hf
  exact hid ▸ List.mem_of_find?_eq_some hf

/-- every message waiting in a channel satisfies `P id` for the id that owns the channel -/
def Good (P : Nat → Msg → Prop) (q : Queue) : Prop := ∀ e ∈ q, ∀ m ∈ e.2.buf, P e.1 m

theorem Good.qdel {P} {q : Queue} (h : Good P q) (id : Nat) : Good P (qdel q id) := by
  intro e he
  unfold UpReply.qdel at he
  exact h e (List.mem_filter.mp he).1

theorem Good.qset {P} {q : Queue} (h : Good P q) (id : Nat) (ch : Chan) (hc : ∀ m ∈ ch.buf, P id m) :
    Good P (qset q id ch) := by
  intro e he
  unfold UpReply.qset at he
  rcases List.mem_cons.mp he with rfl | he
  · exact hc
  · exact h.qdel id e he

theorem Good.get {P} {q : Queue} (h : Good P q) {id : Nat} {ch : Chan} (hg : qget q id = some ch) :
    ∀ m ∈ ch.buf, P id m := h (id, ch) (qget_mem hg)

theorem deliver_good {P} {b : Bool} {q : Queue} {m : Msg} (h : Good P q) (hm : P m.hdr.id m) :
    Good P (deliver b q m).1 := by
  unfold deliver
  split
  · exact h
  · next ch hg =>
    split
    · apply h.qset
      intro x hx
      rcases List.mem_append.mp hx with hx | hx
      · exact h.get hg x hx
      · simp at hx; subst hx; exact hm
    · split <;> exact h

/-- (mechanism) The hand-over with `select … default` never blocks, whatever the queue holds. -/
theorem deliver_nonblocking (q : Queue) (m : Msg) : (deliver false q m).2 ≠ .blocked := by
  unfold deliver
  split
  · simp
  · split <;> simp

/-! ### datagrams -/

theorem readMsgFromUDP_ne_panic (b : Bytes) : readMsgFromUDP b ≠ .panic := by
  unfold readMsgFromUDP readMsgFromUDPn
  split
  · simp
  · split <;> simp
  · next h => exact absurd h (unpackMsg_ne_panic _)

/-- A message comes out of `ReadMsgFromUDP` either because the datagram decodes, or as the header-only
    stand-in of a datagram that does not. -/
theorem readMsgFromUDP_msg {b : Bytes} {m : Msg} (h : readMsgFromUDP b = .msg m) :
    unpackMsg (b.take udpBuf) = .ok m ∨
    (unpackMsg (b.take udpBuf) = .err ∧ headerOnly (b.take udpBuf) = some m) := by
  unfold readMsgFromUDP readMsgFromUDPn at h
  split at h
  · next m' hm => simp at h; left; rw [hm, h]
  · next he =>
    split at h
    · next m' hh => simp at h; right; exact ⟨he, by rw [hh, h]⟩
    · simp at h
  · simp at h

theorem headerOnly_some {d : Bytes} {m : Msg} (h : headerOnly d = some m) :
    ∃ a b f rest, d = a :: b :: f :: rest ∧ 12 ≤ d.length ∧ (f.toNat / 2) % 2 = 1 ∧
      m.hdr.id = be16 a b ∧ m.hdr.truncated = true ∧ m.hdr.response = decide ((f.toNat / 128) % 2 = 1) ∧
      m.questions = [] ∧ m.answers = [] ∧ m.authorities = [] ∧ m.additionals = [] := by
  unfold headerOnly at h
  split at h
  · next a b f rest =>
    split at h
    · next hc =>
      simp at h
      subst h
      exact ⟨a, b, f, rest, rfl, hc.1, hc.2, rfl, rfl, rfl, rfl, rfl, rfl, rfl⟩
    · simp at h
  · simp at h

/-! ### the read loop -/

theorem unitStep_ne_panic (isTCP : Bool) (b : Bytes) : unitStep isTCP b ≠ .panic := by
  unfold unitStep
  split
  · split
    · simp
    · simp
    · next h => exact absurd h (unpackMsg_ne_panic _)
  · split
    · simp
    · split <;> simp
    · next h => exact absurd h (readMsgFromUDP_ne_panic _)

def closes (isTCP : Bool) (b : Bytes) : Prop := unitStep isTCP b = .close

/-- TCP: the frames that close the connection are those that do not decode -/
theorem closes_tcp (b : Bytes) : closes true b ↔ unpackMsg b = .err := by
  unfold closes unitStep
  cases unpackMsg b <;> simp

/-- UDP: the datagrams that close the connection are those from which nothing was read: the empty ones -/
theorem closes_udp (b : Bytes) : closes false b ↔ readMsgFromUDP b = .bad 0 := by
  unfold closes unitStep udpSkips
  cases readMsgFromUDP b with
  | bad n => cases n <;> simp
  | _ => simp

/-- one read of the loop with the non-blocking hand-over: it goes on with the queue `deliver` leaves -/
theorem runLoop_unit (isTCP : Bool) (q : Queue) (n : Nat) (b : Bytes) (es : List Ev) :
    runLoop false isTCP q n (.unit b :: es) =
      match unitStep isTCP b with
      | .panic => (q, .panic)
      | .close => (q, .closed n)
      | .skip => runLoop false isTCP q (n + 1) es
      | .msg m => runLoop false isTCP (deliver false q m).1 (n + 1) es := by
  simp only [runLoop]
  cases unitStep isTCP b with
  | msg m =>
    -- `deliver false` never answers `blocked`, so the loop goes on
    have hnb := deliver_nonblocking q m
    dsimp only
    split
    · next heq => exact absurd (by rw [heq]) hnb
    · next heq => rw [heq]
  | _ => rfl

/-- Progress of the read loop (no bound on the number of events, any interleaving of replies with
    exchanges joining, receiving and leaving, any initial queue): the loop never blocks and never panics; it
    either reads every unit, or stops at a unit that closes the connection (`closes_tcp`: a frame that does
    not decode; `closes_udp`: an empty datagram). -/
theorem runLoop_progress (isTCP : Bool) (es : List Ev) : ∀ (q : Queue) (n : Nat),
    (runLoop false isTCP q n es).2 = .idle (n + unitsOf es) ∨
    ∃ k b, n ≤ k ∧ k < n + unitsOf es ∧ Ev.unit b ∈ es ∧ closes isTCP b ∧
      (runLoop false isTCP q n es).2 = .closed k := by
  induction es with
  | nil => intro q n; exact Or.inl rfl
  | cons e es ih =>
    intro q n
    cases e with
    | join id => simpa [runLoop, unitsOf] using ih _ n
    | take id => simpa [runLoop, unitsOf] using ih _ n
    | leave id => simpa [runLoop, unitsOf] using ih _ n
    | unit b =>
      -- after a unit that is read, the rest of the events from the next unit number
      have rest : ∀ q', (runLoop false isTCP q n (.unit b :: es)) = runLoop false isTCP q' (n + 1) es →
          (runLoop false isTCP q n (.unit b :: es)).2 = .idle (n + unitsOf (.unit b :: es)) ∨
          ∃ k b', n ≤ k ∧ k < n + unitsOf (.unit b :: es) ∧ Ev.unit b' ∈ Ev.unit b :: es ∧ closes isTCP b' ∧
            (runLoop false isTCP q n (.unit b :: es)).2 = .closed k := by
        intro q' hq
        rw [hq, unitsOf]
        rcases ih q' (n + 1) with h | ⟨k, b', h1, h2, h3, h4, h5⟩
        · left; rw [h]; congr 1; omega
        · exact Or.inr ⟨k, b', by omega, by omega, List.mem_cons_of_mem _ h3, h4, h5⟩
      cases hu : unitStep isTCP b with
      | panic => exact absurd hu (unitStep_ne_panic _ _)
      | close =>
        refine Or.inr ⟨n, b, Nat.le_refl _, by simp [unitsOf], List.mem_cons_self, hu, ?_⟩
        rw [runLoop_unit, hu]
      | skip => exact rest q (by rw [runLoop_unit, hu])
      | msg m => exact rest _ (by rw [runLoop_unit, hu])

theorem runLoop_not_blocked (isTCP : Bool) (es : List Ev) (q : Queue) (n k : Nat) :
    (runLoop false isTCP q n es).2 ≠ .blocked k ∧ (runLoop false isTCP q n es).2 ≠ .panic := by
  rcases runLoop_progress isTCP es q n with h | ⟨_, _, _, _, _, _, h⟩ <;> rw [h] <;> simp

/-- If no unit closes the connection, every unit is read — replies whose waiter has left, whose channel is
    full, or that nobody asked for are dropped and the loop goes on. -/
theorem runLoop_reads_all (isTCP : Bool) (es : List Ev) (hno : ∀ b, Ev.unit b ∈ es → ¬ closes isTCP b)
    (q : Queue) (n : Nat) : (runLoop false isTCP q n es).2 = .idle (n + unitsOf es) := by
  rcases runLoop_progress isTCP es q n with h | ⟨_, b, _, _, hb, hc, _⟩
  · exact h
  · exact absurd hc (hno b hb)

/-- `m` carries `id` and was decoded from a unit that satisfies `U` -/
def FromUnit (isTCP : Bool) (U : Bytes → Prop) (id : Nat) (m : Msg) : Prop :=
  m.hdr.id = id ∧ ∃ b, U b ∧ unitStep isTCP b = .msg m

/-- Every message that waits in a channel after the loop was either there before, or was decoded from a unit
    that arrived, and carries the id of the channel's owner. -/
theorem runLoop_good (isTCP : Bool) (U : Bytes → Prop) (es : List Ev) :
    ∀ (q : Queue) (n : Nat), (∀ b, Ev.unit b ∈ es → U b) →
      Good (FromUnit isTCP U) q → Good (FromUnit isTCP U) (runLoop false isTCP q n es).1 := by
  induction es with
  | nil => exact fun _ _ _ hg => hg
  | cons e es ih =>
    intro q n hU hg
    have hU' : ∀ b, Ev.unit b ∈ es → U b := fun b hb => hU b (List.mem_cons_of_mem _ hb)
    cases e with
    | join id => exact ih _ n hU' (hg.qset id ⟨[], 1⟩ (by simp))
    | leave id => exact ih _ n hU' (hg.qdel id)
    | take id =>
      apply ih _ n hU'
      split
      · next ch hq => exact hg.qset _ _ fun m hm => hg.get hq m (List.mem_of_mem_drop hm)
      · exact hg
    | unit b =>
      rw [runLoop_unit]
      cases hu : unitStep isTCP b with
      | panic => exact hg
      | close => exact hg
      | skip => exact ih q (n + 1) hU' hg
      | msg m => exact ih _ (n + 1) hU' (deliver_good hg ⟨rfl, b, hU b List.mem_cons_self, hu⟩)

theorem delivered_good {P} {q : Queue} (h : Good P q) {id : Nat} {m : Msg} (hd : delivered q id = some m) : P id m := by
  unfold delivered at hd
  split at hd
  · next ch hq =>
    apply h.get hq
    exact List.mem_of_mem_head? hd
  · simp at hd

/-! ### DoH -/

theorem dohExchange_ne_panic (status : Nat) (cl : Int) (body : Bytes) (e : Bool) :
    dohExchange false status cl body e ≠ .panic := by
  unfold dohExchange
  split
  · simp
  · split
    · next h => simp at h
    · split
      · simp
      · exact unpackMsg_ne_panic _

end MosVerif.UpReply
