/-
  C05 — basic facts about the waiter table, the history functions and the connection-level
  operations of Model/Pipeline.lean; then `Move`, the transitions `step` is made of, and the
  induction principle `step_preserves` on which every invariant of the model is proved.
  One `step` may be two moves: a failed write that closes the connection is `abandon` then `conn`,
  `delQ` is `conn` then `retire`/`return`. A property handed to `step_preserves` must therefore hold
  in the state between the two, which is no state of the model: after the `conn` of `delQ` the waiter
  table has lost the entry while the exchange is still `leaving`.
-/
import MosVerif.Model.Pipeline
namespace MosVerif.Pipeline

theorem qget_nil (q : Nat) : qget q [] = none := rfl

theorem qget_qdel (a q : Nat) (l : Queue) : qget a (qdel q l) = if a = q then none else qget a l := by
  induction l with
  | nil => simp [qdel, qget]
  | cons x t ih =>
    obtain ⟨b, ch⟩ := x
    by_cases hb : b = q
    · rw [qdel, if_pos hb, ih, qget]
      by_cases ha : a = q
      · rw [if_pos ha, if_pos ha]
      · rw [if_neg ha, if_neg ha, if_neg (fun h : b = a => ha (h ▸ hb))]
    · rw [qdel, if_neg hb, qget, qget, ih]
      by_cases hba : b = a
      · rw [if_pos hba, if_pos hba, if_neg (hba ▸ hb)]
      · rw [if_neg hba, if_neg hba]

theorem qget_qput (a q ch : Nat) (l : Queue) : qget a (qput q ch l) = if a = q then some ch else qget a l := by
  rw [qput, qget, qget_qdel]
  by_cases h : a = q
  · rw [if_pos h.symm, if_pos h]
  · rw [if_neg (Ne.symm h), if_neg h, if_neg h]

theorem upd_empty_full {f : Nat → Slot} {ch ch' p k : Nat} (hf : upd f ch .empty ch' = .full p k) : f ch' = .full p k := by
  by_cases hc : ch' = ch
  · rw [hc, upd_same] at hf; cases hf
  · rwa [upd_other _ _ _ _ hc] at hf

theorem curAssign_cons (e : Nat) (ev : Ev) (h : List Ev) :
    curAssign e (ev :: h) = match ev with
      | .assign e' c id => if e' = e then some (c, id) else curAssign e h
      | _ => curAssign e h := by
  cases ev <;> rfl

theorem curAssign_cons_of_not_assign (e : Nat) (ev : Ev) (h : List Ev)
    (hne : ∀ c id, ev ≠ .assign e c id) : curAssign e (ev :: h) = curAssign e h := by
  cases ev with
  | assign e' c id =>
    have : e' ≠ e := fun he => hne c id (by rw [he])
    simp [curAssign, this]
  | _ => rfl

theorem replySince_cons_of_not_assign (e c q p : Nat) (ev : Ev) (h : List Ev)
    (hne : ∀ c id, ev ≠ .assign e c id) (hr : replySince e c q p h = true) :
    replySince e c q p (ev :: h) = true := by
  cases ev with
  | assign e' c' id' =>
    have : e' ≠ e := fun he => hne c' id' (by rw [he])
    simp [replySince, this, hr]
  | reply c' id' p' => simp [replySince, hr]
  | _ => simpa [replySince] using hr

theorem replySince_reply (e c q p : Nat) (h : List Ev) : replySince e c q p (.reply c q p :: h) = true := by
  simp [replySince]

theorem returned_cons (e : Nat) (ev : Ev) (h : List Ev) :
    returned e (ev :: h) = (isRetOf e ev || returned e h) := by
  simp [returned, List.any_cons]

theorem returned_cons_of_not_ret (e : Nat) (ev : Ev) (h : List Ev) (hne : ∀ r, ev ≠ .ret e r) :
    returned e (ev :: h) = returned e h := by
  rw [returned_cons]
  cases ev with
  | ret e' r =>
    have : e' ≠ e := fun he => hne r (by rw [he])
    simp [isRetOf, this]
  | _ => simp [isRetOf]

theorem returned_eq_true_iff (e : Nat) (h : List Ev) : returned e h = true ↔ ∃ r, .ret e r ∈ h := by
  rw [returned, List.any_eq_true]
  refine ⟨fun ⟨ev, hm, hp⟩ => ?_, fun ⟨r, hm⟩ => ⟨_, hm, beq_self_eq_true e⟩⟩
  cases ev with
  | ret e' r => exact ⟨r, eq_of_beq hp ▸ hm⟩
  | _ => cases hp

theorem idUsed_eq_true_iff (c id : Nat) (h : List Ev) : idUsed c id h = true ↔ ∃ e, .assign e c id ∈ h := by
  rw [idUsed, List.any_eq_true]
  refine ⟨fun ⟨ev, hm, hp⟩ => ?_, fun ⟨e, hm⟩ => ⟨_, hm, by simp [isAssignOf]⟩⟩
  cases ev with
  | assign e c' id' =>
    rw [isAssignOf, Bool.and_eq_true] at hp
    exact ⟨e, eq_of_beq hp.1 ▸ eq_of_beq hp.2 ▸ hm⟩
  | _ => cases hp

theorem reserve_nextQid (c : Conn) : c.reserve.nextQid = c.nextQid := by
  unfold Conn.reserve; split <;> rfl
theorem reserve_queue (c : Conn) : c.reserve.queue = c.queue := by
  unfold Conn.reserve; split <;> rfl
theorem reserve_closed (c : Conn) : c.reserve.closed = c.closed := by
  unfold Conn.reserve; split <;> rfl

theorem addQueueC_none {c c' : Conn} {ch : Nat} (h : c.addQueueC ch = (c', none)) :
    c'.nextQid = c.nextQid ∧ c'.queue = c.queue ∧ c'.closed = c.closed := by
  unfold Conn.addQueueC at h
  -- whether `reserved` was decremented makes no difference
  by_cases hr : c.reserved > 0
  all_goals
    by_cases hq : c.nextQid > 65535
    · simp [hr, hq] at h
      subst h
      exact ⟨rfl, rfl, rfl⟩
    · simp [hr, hq] at h

theorem addQueueC_some {c c' : Conn} {ch q : Nat} (h : c.addQueueC ch = (c', some q)) :
    c.nextQid ≤ 65535 ∧ q = c.nextQid ∧ c'.nextQid = c.nextQid + 1 ∧
      c'.queue = qput q ch c.queue ∧ c'.closed = c.closed := by
  unfold Conn.addQueueC at h
  by_cases hr : c.reserved > 0
  all_goals
    by_cases hq : c.nextQid > 65535
    · simp [hr, hq] at h
    · simp [hr, hq] at h
      obtain ⟨rfl, rfl⟩ := h
      -- `uint16(c.nextQid)` loses nothing below 65536
      have hm : c.nextQid % 65536 = c.nextQid := Nat.mod_eq_of_lt (by omega)
      exact ⟨by omega, hm, rfl, by simp [hm], rfl⟩

theorem deleteQueueC_nextQid (c : Conn) (q : Nat) : (c.deleteQueueC q).nextQid = c.nextQid := rfl
theorem deleteQueueC_queue (c : Conn) (q : Nat) : (c.deleteQueueC q).queue = qdel q c.queue := rfl

/-! ### what a step can do

  `step` guards every operation by the control state of the exchange that performs it and is the
  identity when the guard fails. `Move` lists the transitions that are left, with their guards as
  hypotheses; `Reserve`, `closeWithErr`, a failed `addQueueC` and the map side of `deleteQueueC`
  fall under one constructor. Every fact about all schedules is proved by cases on `Move`. -/

inductive Move (cfg : Cfg) (s : State) : State → Prop
  /-- connections change: the counters stay, no waiter is gained, nothing is reopened (`hc`; only
      Lemmas/RetryPipelineLink.lean needs it) -/
  | conn (conns : Nat → Conn) (hn : ∀ c, (conns c).nextQid = (s.conns c).nextQid)
      (hq : ∀ c q ch, qget q (conns c).queue = some ch → qget q (s.conns c).queue = some ch)
      (hc : ∀ c, (s.conns c).closed = true → (conns c).closed = true) :
      Move cfg s { s with conns := conns }
  | register (e c : Nat) (k : Conn) (q : Nat) (hpc : s.pcs e = .idle)
      (hk : (s.conns c).addQueueC s.nchan = (k, some q)) :
      Move cfg s { s with conns := upd s.conns c k, chans := upd s.chans s.nchan .empty, nchan := s.nchan + 1,
                          pcs := upd s.pcs e (.registered c q s.nchan), hist := .assign e c q :: s.hist }
  | sent (e c q ch : Nat) (hpc : s.pcs e = .registered c q ch) :
      Move cfg s { s with pcs := upd s.pcs e (.waiting c q ch), hist := .query e c q :: s.hist }
  /-- a failed write, `<-ctx.Done()`, `<-c.ctx.Done()` -/
  | abandon (e c q ch : Nat) (hpc : s.pcs e = .registered c q ch ∨ s.pcs e = .waiting c q ch) :
      Move cfg s { s with pcs := upd s.pcs e (.leaving c q none) }
  | discard (c id p : Nat) : Move cfg s { s with hist := .reply c id p :: s.hist }
  | deliver (c id p ch : Nat) (hq : qget id (s.conns c).queue = some ch) (hch : s.chans ch = .empty) :
      Move cfg s { s with hist := .reply c id p :: s.hist, chans := upd s.chans ch (.full p s.hist.length) }
  | take (e c q ch p k : Nat) (hpc : s.pcs e = .waiting c q ch) (hch : s.chans ch = .full p k) :
      Move cfg s { s with chans := upd s.chans ch .empty, pcs := upd s.pcs e (.leaving c q (some p)),
                          taken := (e, k) :: s.taken }
  | retire (e c q : Nat) (hpc : s.pcs e = .leaving c q none) : Move cfg s { s with pcs := upd s.pcs e .idle }
  | giveUp (e : Nat) (hpc : s.pcs e = .idle) :
      Move cfg s { s with pcs := upd s.pcs e .done, hist := .ret e none :: s.hist }
  | «return» (e c q p : Nat) (hpc : s.pcs e = .leaving c q (some p)) :
      Move cfg s { s with pcs := upd s.pcs e .done, hist := .ret e (some (cfg.cid e, p)) :: s.hist }

theorem Move.conn_upd {cfg : Cfg} {s : State} (c : Nat) (k : Conn) (hn : k.nextQid = (s.conns c).nextQid)
    (hq : ∀ q ch, qget q k.queue = some ch → qget q (s.conns c).queue = some ch)
    (hc : (s.conns c).closed = true → k.closed = true) : Move cfg s { s with conns := upd s.conns c k } := by
  refine .conn _ (fun c' => ?_) (fun c' => ?_) (fun c' => ?_) <;> by_cases h : c' = c
  · rw [h, upd_same, hn]
  · rw [upd_other _ _ _ _ h]
  · rw [h, upd_same]; exact hq
  · rw [upd_other _ _ _ _ h]; exact fun _ _ hg => hg
  · rw [h, upd_same]; exact hc
  · rw [upd_other _ _ _ _ h]; exact fun hg => hg

theorem step_preserves {cfg : Cfg} {P : State → Prop} (hP : ∀ {t u}, P t → Move cfg t u → P u) {s : State} (h : P s)
    (st : Step) : P (step cfg s st) := by
  cases st with
  | reserve c => exact hP h (.conn_upd c _ (reserve_nextQid _) (by simp [reserve_queue]) (by simp [reserve_closed]))
  | close c => exact hP h (.conn_upd c _ rfl (fun _ _ => id) (fun _ => rfl))
  | addQ e c =>
    simp only [step]
    split
    · rename_i hpc
      split
      · rename_i k hk
        obtain ⟨a2, a3, a4⟩ := addQueueC_none hk
        exact hP h (.conn_upd c k a2 (by simp [a3]) (by simp [a4]))
      · rename_i k q hk
        exact hP h (.register e c k q hpc hk)
    · exact h
  | write e ok closes =>
    simp only [step]
    split
    · rename_i c q ch hpc
      split
      · exact hP h (.sent e c q ch hpc)
      · cases closes
        · exact hP h (.abandon e c q ch (.inl hpc))
        · exact hP (hP h (.abandon e c q ch (.inl hpc))) (.conn_upd c _ rfl (fun _ _ => id) (fun _ => rfl))
    · exact h
  | srvReply c id p =>
    simp only [step]
    split
    · exact hP h (.discard c id p)
    · rename_i ch hq
      split
      · rename_i hch
        exact hP h (.deliver c id p ch hq hch)
      · exact hP h (.discard c id p)
  | take e =>
    simp only [step]
    split
    · rename_i c q ch hpc
      split
      · rename_i p k hch
        exact hP h (.take e c q ch p k hpc hch)
      · exact h
    · exact h
  | cancel e =>
    simp only [step]
    split
    · rename_i c q ch hpc
      exact hP h (.abandon e c q ch (.inr hpc))
    · exact h
  | dead e =>
    simp only [step]
    split
    · rename_i c q ch hpc
      split
      · exact hP h (.abandon e c q ch (.inr hpc))
      · exact h
    · exact h
  | delQ e =>
    simp only [step]
    split
    · rename_i c q r hpc
      have hc : Move cfg s { s with conns := upd s.conns c ((s.conns c).deleteQueueC q) } :=
        .conn_upd c _ rfl (fun a ch h => by simp [deleteQueueC_queue, qget_qdel] at h; exact h.2) (fun h => by simp [Conn.deleteQueueC, h])
      cases r with
      | none => exact hP (hP h hc) (.retire e c q hpc)
      | some p => exact hP (hP h hc) (.return e c q p hpc)
    · exact h
  | giveUp e =>
    simp only [step]
    split
    · rename_i hpc
      exact hP h (.giveUp e hpc)
    · exact h

theorem exec_preserves {cfg : Cfg} {P : State → Prop} (hP : ∀ {t u}, P t → Move cfg t u → P u) {s : State} (h : P s)
    (steps : List Step) : P (exec cfg s steps) := by
  induction steps generalizing s with
  | nil => exact h
  | cons st rest ih => exact ih (step_preserves hP h st)

end MosVerif.Pipeline
