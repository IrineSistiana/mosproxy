/-
  The `cacheKey` model (C07): the key is the layout, whatever the pooled buffer held, and the layout
  is injective.

  A buffer of the size `cacheKey` asks for splits into the five regions the function writes
  (`split_buf`); each write replaces exactly one region (`copyAt_front`, `setAt_mid`, `putU16_mid`,
  `copyAt_back`), so nothing of `dirty` survives (`cacheKey_eq`).  Injectivity (`keyLayout_inj`): a
  well-formed name followed by the zero octet parses uniquely, because the terminator cannot be a
  label length (`wf_prefix_inj`); the rest has fixed widths.  Last: `toLowerName` on a `WfName63` name is
  `map lowerByte` and stays well formed, and the executable `wfNameB` is sound.
-/
import MosVerif.Model.CacheKey
namespace MosVerif.CacheKey

theorem getBuf_length (d : Bytes) (n : Nat) : (getBuf d n).length = n := by
  rw [getBuf, List.length_append, List.length_take, List.length_replicate]
  omega

theorem exists_cons_of_length_succ {α} (l : List α) (k : Nat) (h : l.length = k + 1) :
    ∃ x r, l = x :: r ∧ r.length = k := by
  cases l with
  | nil => simp at h
  | cons x r => exact ⟨x, r, rfl, by simpa using h⟩

/-- a buffer of the size `cacheKey` asks for splits into the five regions the function writes -/
theorem split_buf (d : Bytes) (n m : Nat) (h : d.length = n + 1 + 4 + m) :
    ∃ d₁ x0 x1 x2 x3 x4 d₂, d = d₁ ++ x0 :: x1 :: x2 :: x3 :: x4 :: d₂ ∧
      d₁.length = n ∧ d₂.length = m := by
  have h0 : (d.drop n).length = (m + 4) + 1 := by
    rw [List.length_drop, h]
    omega
  obtain ⟨x0, r0, e0, h1⟩ := exists_cons_of_length_succ _ _ h0
  obtain ⟨x1, r1, e1, h2⟩ := exists_cons_of_length_succ r0 (m + 3) h1
  obtain ⟨x2, r2, e2, h3⟩ := exists_cons_of_length_succ r1 (m + 2) h2
  obtain ⟨x3, r3, e3, h4⟩ := exists_cons_of_length_succ r2 (m + 1) h3
  obtain ⟨x4, r4, e4, h5⟩ := exists_cons_of_length_succ r3 m h4
  refine ⟨d.take n, x0, x1, x2, x3, x4, r4, ?_, ?_, h5⟩
  · rw [← e4, ← e3, ← e2, ← e1, ← e0, List.take_append_drop]
  · rw [List.length_take, h]
    omega

/-! The offset is an argument with an equation (`ho`), so that the lemmas rewrite the literal offsets
    `0 + 1`, `0 + 1 + 2`, … of `cacheKey` as they stand. -/

theorem copyAt_front (d₁ rest src : Bytes) (h : d₁.length = src.length) :
    copyAt (d₁ ++ rest) 0 src = some (src ++ rest, src.length) := by
  have hn : min (d₁.length + rest.length) src.length = src.length := by omega
  simp [copyAt, hn, List.drop_left' h]

theorem copyAt_back (p d₂ src : Bytes) (off : Nat) (ho : off = p.length)
    (h : d₂.length = src.length) :
    copyAt (p ++ d₂) off src = some (p ++ src, src.length) := by
  subst ho
  simp [copyAt, h]

theorem setAt_mid (p rest : Bytes) (x v : UInt8) (off : Nat) (ho : off = p.length) :
    setAt (p ++ x :: rest) off v = some (p ++ v :: rest) := by
  subst ho
  simp [setAt]

theorem putU16_mid (p rest : Bytes) (x y : UInt8) (v : UInt16) (off : Nat) (ho : off = p.length) :
    putU16 (p ++ x :: y :: rest) off v = some (p ++ hi8 v :: lo8 v :: rest) := by
  subst ho
  have h1 : p.length + 2 ≤ p.length + (rest.length + 1 + 1) := by omega
  simp [putU16, h1]

/-- ★ the function writes every octet of its buffer: whatever the recycled array held, the
    result is exactly `name ‖ 0 ‖ class ‖ type ‖ mark`, and it never panics. -/
theorem cacheKey_eq (dirty : Bytes) (q : Question) (mark : Bytes) :
    cacheKey dirty q mark = some (keyLayout q mark) := by
  obtain ⟨d₁, x0, x1, x2, x3, x4, d₂, hd, h1, h2⟩ :=
    split_buf (getBuf dirty (q.name.length + 1 + 4 + mark.length)) q.name.length mark.length
      (getBuf_length _ _)
  unfold cacheKey
  rw [hd]
  simp only [copyAt_front d₁ _ q.name h1, Option.bind_some, bind, pure]
  rw [setAt_mid q.name _ x0 0 _ rfl]
  simp only [Option.bind_some]
  -- `e1`–`e3`: what has been written so far becomes the prefix `p` of the next write
  have e1 : q.name ++ 0 :: x1 :: x2 :: x3 :: x4 :: d₂ = (q.name ++ [0]) ++ x1 :: x2 :: x3 :: x4 :: d₂ := by
    simp
  rw [e1, putU16_mid (q.name ++ [0]) _ x1 x2 q.cls _ (by simp)]
  simp only [Option.bind_some]
  have e2 : (q.name ++ [0]) ++ hi8 q.cls :: lo8 q.cls :: x3 :: x4 :: d₂
      = (q.name ++ [0, hi8 q.cls, lo8 q.cls]) ++ x3 :: x4 :: d₂ := by simp
  rw [e2, putU16_mid (q.name ++ [0, hi8 q.cls, lo8 q.cls]) _ x3 x4 q.typ _ (by simp)]
  simp only [Option.bind_some]
  have e3 : (q.name ++ [0, hi8 q.cls, lo8 q.cls]) ++ hi8 q.typ :: lo8 q.typ :: d₂
      = (q.name ++ [0, hi8 q.cls, lo8 q.cls, hi8 q.typ, lo8 q.typ]) ++ d₂ := by simp
  rw [e3, copyAt_back _ d₂ mark _ (by simp) h2]
  simp [keyLayout, be16]    -- the same list, bracketed as `keyLayout` has it

/-! ### injectivity -/

theorem be16_inj {a b : UInt16} (h : be16 a = be16 b) : a = b := by
  simp only [be16, hi8, lo8, List.cons.injEq, and_true] at h
  obtain ⟨h1, h2⟩ := h
  have ha := a.toNat_lt
  have hb := b.toNat_lt
  have h1' := congrArg UInt8.toNat h1
  have h2' := congrArg UInt8.toNat h2
  simp only [UInt8.toNat_ofNat'] at h1' h2'
  apply UInt16.toNat_inj.mp
  omega

theorem be16_length (a : UInt16) : (be16 a).length = 2 := rfl

/-- a well-formed name followed by the zero octet parses uniquely: the terminator cannot be
    mistaken for a label length and no label length can be mistaken for the terminator. -/
theorem wf_prefix_inj {n₁ : Bytes} (h₁ : WfName n₁) :
    ∀ {n₂ r₁ r₂ : Bytes}, WfName n₂ → n₁ ++ 0 :: r₁ = n₂ ++ 0 :: r₂ → n₁ = n₂ ∧ r₁ = r₂ := by
  induction h₁ with
  | nil =>
    intro n₂ r₁ r₂ h₂ h
    cases h₂ with
    | nil => simpa using h
    | cons l lab rest hl _ _ =>
      simp only [List.nil_append, List.cons_append, List.cons.injEq] at h
      exact absurd h.1.symm hl
  | cons l lab rest hl hlen _ ih =>
    intro n₂ r₁ r₂ h₂ h
    cases h₂ with
    | nil =>
      simp only [List.nil_append, List.cons_append, List.cons.injEq] at h
      exact absurd h.1 hl
    | cons l' lab' rest' hl' hlen' hrest' =>
      simp only [List.cons_append, List.cons.injEq, List.append_assoc] at h
      obtain ⟨hll, h⟩ := h
      subst hll
      have hlens : lab.length = lab'.length := by rw [hlen, hlen']
      obtain ⟨e1, e2⟩ := List.append_inj h hlens
      obtain ⟨e3, e4⟩ := ih hrest' e2
      subst e1 e3
      exact ⟨rfl, e4⟩

theorem keyLayout_inj {q₁ q₂ : Question} {m₁ m₂ : Bytes} (h₁ : WfName q₁.name) (h₂ : WfName q₂.name)
    (h : keyLayout q₁ m₁ = keyLayout q₂ m₂) : q₁ = q₂ ∧ m₁ = m₂ := by
  obtain ⟨hn, hr⟩ := wf_prefix_inj h₁ h₂ h
  obtain ⟨hc, hr⟩ := List.append_inj hr (by simp [be16_length])
  obtain ⟨ht, hm⟩ := List.append_inj hr (by simp [be16_length])
  refine ⟨?_, hm⟩
  cases q₁
  cases q₂
  simp only [Question.mk.injEq]
  exact ⟨hn, be16_inj hc, be16_inj ht⟩

theorem keyLayout_eq_iff {q₁ q₂ : Question} {m₁ m₂ : Bytes} (h₁ : WfName q₁.name) (h₂ : WfName q₂.name) :
    keyLayout q₁ m₁ = keyLayout q₂ m₂ ↔
      q₁.name = q₂.name ∧ q₁.cls = q₂.cls ∧ q₁.typ = q₂.typ ∧ m₁ = m₂ := by
  constructor
  · intro h
    obtain ⟨rfl, rfl⟩ := keyLayout_inj h₁ h₂ h
    exact ⟨rfl, rfl, rfl, rfl⟩
  · intro ⟨a, b, c, d⟩
    unfold keyLayout
    rw [a, b, c, d]

/-! ### lower-casing -/

theorem WfName63.wf {n : Bytes} (h : WfName63 n) : WfName n := by
  induction h with
  | nil => exact .nil
  | cons l lab rest hl _ hlen _ ih => exact .cons l lab rest hl hlen ih

theorem lowerByte_small {l : UInt8} (h : l.toNat ≤ 63) : lowerByte l = l := by
  unfold lowerByte
  have : ¬ (65 ≤ l ∧ l ≤ 90) := by
    intro ⟨h1, _⟩
    have := UInt8.le_iff_toNat_le.mp h1
    simp at this
    omega
  simp [this]

/-- on a valid name `ToLowerName` lower-cases every octet (length octets are < 'A') -/
theorem lowerLabels_eq_map {n : Bytes} (h : WfName63 n) :
    ∀ fuel, n.length ≤ fuel → lowerLabels fuel n = n.map lowerByte := by
  induction h with
  | nil =>
    intro fuel _
    cases fuel <;> rfl
  | cons l lab rest hl h63 hlen _ ih =>
    intro fuel hf
    cases fuel with
    | zero => simp at hf
    | succ f =>
      have h0 : l.toNat ≠ 0 := fun h0 => hl (UInt8.toNat_inj.mp h0)
      have hfit : ¬ (l.toNat = 0 ∨ l.toNat > 63 ∨ l.toNat > (lab ++ rest).length) := by
        simp only [List.length_append]; omega
      have hf' : rest.length ≤ f := by
        simp only [List.length_cons, List.length_append] at hf; omega
      rw [lowerLabels, if_neg hfit, List.take_left' hlen, List.drop_left' hlen, ih f hf']
      simp [lowerByte_small h63]

theorem toLowerName_eq_map {n : Bytes} (h : WfName63 n) (hl : n.length ≤ 254) :
    toLowerName n = n.map lowerByte := by
  have : ¬ n.length > 254 := by omega
  simp [toLowerName, this, lowerLabels_eq_map h n.length (Nat.le_refl _)]

theorem wf63_map_lower {n : Bytes} (h : WfName63 n) : WfName63 (n.map lowerByte) := by
  induction h with
  | nil => exact .nil
  | cons l lab rest hl h63 hlen _ ih =>
    simp only [List.map_cons, List.map_append, lowerByte_small h63]
    exact .cons l _ _ hl h63 (by simpa using hlen) ih

/-- lower-casing keeps a valid name valid (so the key's name part always parses) -/
theorem wf_toLowerName {n : Bytes} (h : WfName63 n) : WfName (toLowerName n) := by
  by_cases hl : n.length ≤ 254
  · rw [toLowerName_eq_map h hl]; exact (wf63_map_lower h).wf
  · have : n.length > 254 := by omega
    simp [toLowerName, this, h.wf]

theorem wfNameB_sound : ∀ (fuel : Nat) (n : Bytes), wfNameB fuel n = true → WfName63 n := by
  intro fuel
  induction fuel with
  | zero =>
    intro n h
    cases n with
    | nil => exact .nil
    | cons _ _ => simp [wfNameB] at h
  | succ f ih =>
    intro n h
    cases n with
    | nil => exact .nil
    | cons l rest =>
      simp only [wfNameB, Bool.and_eq_true, decide_eq_true_eq, ne_eq] at h
      obtain ⟨⟨⟨h0, h63⟩, hfit⟩, hrest⟩ := h
      have e : rest = rest.take l.toNat ++ rest.drop l.toNat := (List.take_append_drop _ _).symm
      rw [e]
      refine .cons l _ _ ?_ h63 ?_ (ih _ hrest)
      · intro hl; apply h0; simp [hl]
      · simp; omega

end MosVerif.CacheKey
