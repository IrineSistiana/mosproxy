/-
  Tie by translation (C17): the integer / boolean tests of `tryTrimIpv6Brackets`, `getDialAddr`
  (internal/upstream/utils.go) and `makeTlsConfig` (app/router/tls.go), translated mechanically from the current Go
  source, equal the named tests `Addr.tryTrimIpv6Brackets?`, `Addr.getDialAddr` and `TlsCfg.makeTlsConfig` branch on.
-/
import MosVerif.Generated.Translated
import MosVerif.Lemmas.TranslatedTactics
import MosVerif.Model.Addr
import MosVerif.Model.TlsCfg
namespace MosVerif.Addr
open MosVerif

/-- `len(s) < 2` -/
theorem trimLenCond_translated (n : Nat) : trimTooShort n = Translated.c17_trimLenCond n := by
  unfold trimTooShort Translated.c17_trimLenCond
  bool_arith

/-- `s[0] == '[' && s[len(s)-1] == ']'`, on the octets Go reads, for every `s` that passed the length guard
    (`s[0]`, `s[len(s)-1]` are in range exactly then) -/
theorem trimBracketCond_translated (s : Str) (h : 2 ≤ s.length) :
    bracketed s = Translated.c17_trimBracketCond (s[0]'(by omega)).toNat (s[s.length - 1]'(by omega)).toNat := by
  unfold bracketed Translated.c17_trimBracketCond
  have h0 : s.head? = some (s[0]'(by omega)) := by
    cases s with
    | nil => simp at h
    | cons a t => rfl
  have h1 : s.getLast? = some (s[s.length - 1]'(by omega)) := by
    rw [List.getLast?_eq_getElem?]
    exact List.getElem?_eq_getElem (by omega)
  have e91 : (91 : Nat) = '['.toNat := rfl
  have e93 : (93 : Nat) = ']'.toNat := rfl
  rw [h0, h1, Bool.eq_iff_iff]
  simp only [Option.some.injEq, Bool.and_eq_true, decide_eq_true_eq, e91, e93, Char.toNat_inj]

/-- `len(dialAddr) > 0` -/
theorem gdaDialCond_translated (n : Nat) : lenPositive n = Translated.c17_gdaDialCond n := by
  unfold lenPositive Translated.c17_gdaDialCond
  bool_arith

/-- `len(port) == 0`, both occurrences (`dial_addr` branch, URL branch) -/
theorem gdaPortCond1_translated (n : Nat) : lenZero n = Translated.c17_gdaPortCond1 n := by
  unfold lenZero Translated.c17_gdaPortCond1
  bool_arith

theorem gdaPortCond2_translated (n : Nat) : lenZero n = Translated.c17_gdaPortCond2 n := by
  unfold lenZero Translated.c17_gdaPortCond2
  bool_arith

/-! `makeTlsConfig` -/
open TlsCfg

/-- `requireCert && (cfg.Cert == "" || cfg.Key == "") && !cfg.DebugUseTempCert` -/
theorem tlsRequireCond_translated (r c k t : Bool) : missingCert r c k t = Translated.c17_tlsRequireCond r c k t := by
  cases r <;> cases c <;> cases k <;> cases t <;> rfl

/-- `len(cfg.Key) > 0 && len(cfg.Cert) > 0` -/
theorem tlsKeyPairCond_translated (lk lc : Nat) :
    hasKeyPair (decide (lk > 0)) (decide (lc > 0)) = Translated.c17_tlsKeyPairCond lk lc := by
  unfold hasKeyPair Translated.c17_tlsKeyPairCond
  bool_arith

end MosVerif.Addr
