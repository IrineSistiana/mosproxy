/-
  Wire codec (C02), on Lemmas/CodecBasic and Lemmas/WireSafe: the decoder's name loop on buffers that contain an encoded name —
  a literal (`s ++ [0]`) or a label prefix followed by one compression pointer to a literal.
  Also: every name the decoder returns is well formed (`nameWF`).
-/
import MosVerif.Lemmas.CodecBasic
import MosVerif.Lemmas.WireSafe
namespace MosVerif.Wire

theorem getElem_at_prefix (pre : Bytes) (x : UInt8) (rest : Bytes) (h : pre.length < (pre ++ x :: rest).length) :
    (pre ++ x :: rest)[pre.length]'h = x := by
  simp

theorem nameLoop_zero (pre post : Bytes) (newOff ptr : Nat) (name : Bytes) (hn : name.length ≤ 254) :
    nameLoop (pre ++ 0 :: post) pre.length newOff ptr name
      = .ok (name, if ptr = 0 then pre.length + 1 else newOff) := by
  rw [nameLoop, dif_neg (by simp)]
  simp only [List.getElem_append_right (Nat.le_refl _), Nat.sub_self, List.getElem_cons_zero]
  rw [if_pos (by decide), if_pos (show (0 : UInt8).toNat = 0 from rfl), if_neg (Nat.not_lt.mpr hn)]

theorem nameLoop_label (pre : Bytes) (l : UInt8) (lab rest : Bytes) (newOff ptr : Nat) (name : Bytes)
    (h0 : l.toNat ≠ 0) (h63 : l.toNat ≤ 63) (hl : lab.length = l.toNat)
    (hn : name.length + 1 + l.toNat + 1 ≤ 255) :
    nameLoop (pre ++ l :: (lab ++ rest)) pre.length newOff ptr name
      = nameLoop (pre ++ l :: (lab ++ rest)) (pre.length + 1 + l.toNat) newOff ptr (name ++ l :: lab) := by
  conv => lhs; rw [nameLoop]
  have h4 : ((pre ++ l :: (lab ++ rest)).drop (pre.length + 1)).take l.toNat = lab := by
    rw [show pre ++ l :: (lab ++ rest) = (pre ++ [l]) ++ (lab ++ rest) by simp, ← hl,
      show pre.length + 1 = (pre ++ [l]).length by simp, List.drop_left, List.take_left]
  rw [dif_neg (by simp)]
  simp only [List.getElem_append_right (Nat.le_refl _), Nat.sub_self, List.getElem_cons_zero, h4]
  rw [if_pos (by omega), if_neg h0, if_neg (by simp only [List.length_append, List.length_cons]; omega),
    if_neg (by simp only [nameCap]; omega), UInt8.ofNat_toNat, List.append_assoc]
  rfl

theorem nameLoop_ptr (pre : Bytes) (hi lo : UInt8) (post : Bytes) (newOff ptr : Nat) (name : Bytes)
    (hhi : hi.toNat ≥ 192) (hp : ptr + 1 ≤ 10) :
    nameLoop (pre ++ hi :: lo :: post) pre.length newOff ptr name
      = nameLoop (pre ++ hi :: lo :: post) ((hi.toNat - 192) * 256 + lo.toNat)
          (if ptr = 0 then pre.length + 2 else newOff) (ptr + 1) name := by
  conv => lhs; rw [nameLoop]
  have hb2 : (pre ++ hi :: lo :: post)[pre.length + 1]'(by simp) = lo := by
    rw [List.getElem_append_right (by omega)]; simp
  rw [dif_neg (by simp)]
  simp only [List.getElem_append_right (Nat.le_refl _), Nat.sub_self, List.getElem_cons_zero]
  rw [if_neg (by omega), if_pos hhi, dif_neg (by simp), if_neg (by simp only [hopLimit]; omega), hb2]

theorem nameLoop_labels {p : Bytes} (hp : Labels p) :
    ∀ (pre rest : Bytes) (newOff ptr : Nat) (name : Bytes), name.length + p.length ≤ 254 →
    nameLoop (pre ++ (p ++ rest)) pre.length newOff ptr name
      = nameLoop (pre ++ (p ++ rest)) (pre.length + p.length) newOff ptr (name ++ p) := by
  induction hp with
  | nil => intros; simp
  | cons l lab tl h0 h63 hl _ ih =>
    intro pre rest newOff ptr name hn
    simp only [List.length_cons, List.length_append] at hn
    have e1 : pre ++ (l :: (lab ++ tl) ++ rest) = pre ++ l :: (lab ++ (tl ++ rest)) := by simp
    rw [e1, nameLoop_label pre l lab (tl ++ rest) newOff ptr name h0 h63 hl (by omega)]
    have e2 : pre ++ l :: (lab ++ (tl ++ rest)) = (pre ++ l :: lab) ++ (tl ++ rest) := by simp
    have e3 : pre.length + 1 + l.toNat = (pre ++ l :: lab).length := by
      simp only [List.length_append, List.length_cons, hl]; omega
    rw [e2, e3, ih (pre ++ l :: lab) rest newOff ptr (name ++ l :: lab)
      (by simp only [List.length_append, List.length_cons]; omega)]
    congr 1
    · simp only [List.length_append, List.length_cons]; omega
    · simp

theorem nameLoop_literal {s : Bytes} (hs : Labels s) (pre post : Bytes) (newOff ptr : Nat) (name : Bytes)
    (hn : name.length + s.length ≤ 254) :
    nameLoop (pre ++ (s ++ 0 :: post)) pre.length newOff ptr name
      = .ok (name ++ s, if ptr = 0 then pre.length + s.length + 1 else newOff) := by
  rw [nameLoop_labels hs pre (0 :: post) newOff ptr name hn]
  have e : pre ++ (s ++ 0 :: post) = (pre ++ s) ++ 0 :: post := by simp
  have e2 : pre.length + s.length = (pre ++ s).length := by simp
  rw [e, e2, nameLoop_zero (pre ++ s) post newOff ptr (name ++ s) (by simp; omega)]

/-- ★ For every well-formed name, decoding its literal encoding
    `n ++ [0]` placed at any offset of any buffer (whatever precedes and follows) yields `n` and
    the offset just behind the terminator. Stability under appending bytes is the arbitrary `post`. -/
theorem decode_literal (n : Name) (hn : nameWF n = true) (pre post : Bytes) :
    unpackName (pre ++ (n ++ 0 :: post)) pre.length = .ok (n, pre.length + n.length + 1) := by
  rw [nameWF_iff] at hn
  unfold unpackName
  rw [nameLoop_literal hn.2 pre post pre.length 0 [] (by simpa using hn.1), List.nil_append, if_pos rfl]

/-- the two octets `Name.pack` emits for a pointer to `off` -/
def ptrBytes (off : Nat) : Bytes := [UInt8.ofNat (Nat.lor (off / 256 % 256) 192), UInt8.ofNat (off % 256)]

theorem lor_192 (x : Nat) (h : x < 64) : Nat.lor x 192 = x + 192 :=
  ((Nat.two_pow_add_eq_or_of_lt (i := 6) h 3).trans (Nat.or_comm _ _)).symm.trans (Nat.add_comm _ _)

theorem ptrBytes_hi (off : Nat) (h : off ≤ 16383) :
    (UInt8.ofNat (Nat.lor (off / 256 % 256) 192)).toNat = off / 256 + 192 := by
  have h64 : off / 256 % 256 < 64 := by omega
  rw [lor_192 _ h64, u8_ofNat_toNat _ (by omega)]
  omega

theorem nameLoop_prefix_ptr {p s : Bytes} (hp : Labels p) (hs : Labels s)
    (pre post pre2 post2 : Bytes) (off : Nat) (hoff : off ≤ 16383)
    (hbuf : pre ++ (p ++ ptrBytes off ++ post) = pre2 ++ (s ++ 0 :: post2)) (hpre2 : pre2.length = off)
    (name : Bytes) (hn : name.length + p.length + s.length ≤ 254) :
    nameLoop (pre ++ (p ++ ptrBytes off ++ post)) pre.length pre.length 0 name
      = .ok (name ++ p ++ s, pre.length + p.length + 2) := by
  have e0 : pre ++ (p ++ ptrBytes off ++ post) = pre ++ (p ++ (ptrBytes off ++ post)) := by simp
  rw [e0, nameLoop_labels hp pre (ptrBytes off ++ post) pre.length 0 name (by omega)]
  have e1 : pre ++ (p ++ (ptrBytes off ++ post))
      = (pre ++ p) ++ UInt8.ofNat (Nat.lor (off / 256 % 256) 192) :: UInt8.ofNat (off % 256) :: post := by
    simp [ptrBytes]
  have e2 : pre.length + p.length = (pre ++ p).length := by simp
  rw [e1, e2, nameLoop_ptr (pre ++ p) _ _ post _ 0 (name ++ p)
    (by rw [ptrBytes_hi off hoff]; omega) (by omega)]
  have htgt : ((UInt8.ofNat (Nat.lor (off / 256 % 256) 192)).toNat - 192) * 256
      + (UInt8.ofNat (off % 256)).toNat = pre2.length := by
    rw [ptrBytes_hi off hoff, u8_ofNat_toNat _ (by omega)]; omega
  rw [htgt, ← e1, ← e0, hbuf]
  rw [nameLoop_literal hs pre2 post2 _ 1 (name ++ p) (by simp only [List.length_append]; omega), if_neg Nat.one_ne_zero,
    if_pos rfl, List.length_append]

/-- ★ Decoding `labels-prefix ++ pointer(off)` where the buffer
    holds a literal `s ++ [0]` at `off ≤ 0x3FFF` yields `prefix ++ s` (one hop, inside the hop
    limit 10) and continues right behind the two pointer octets. -/
theorem decode_prefix_pointer (p s : Name) (hp : Labels p) (hs : Labels s) (hlen : p.length + s.length ≤ 254)
    (pre post pre2 post2 : Bytes) (off : Nat) (hoff : off ≤ 16383)
    (hbuf : pre ++ (p ++ ptrBytes off ++ post) = pre2 ++ (s ++ 0 :: post2)) (hpre2 : pre2.length = off) :
    unpackName (pre ++ (p ++ ptrBytes off ++ post)) pre.length = .ok (p ++ s, pre.length + p.length + 2) := by
  unfold unpackName
  rw [nameLoop_prefix_ptr hp hs pre post pre2 post2 off hoff hbuf hpre2 [] (by simpa using hlen), List.nil_append]

theorem nameLoop_wf (msg : Bytes) (currOff newOff ptr : Nat) (name : Bytes) :
    Labels name → name.length ≤ 254 →
    ∀ n o, nameLoop msg currOff newOff ptr name = .ok (n, o) → Labels n ∧ n.length ≤ 254 := by
  -- as in `nameLoop_safe`: 3 is the terminator, 6 a label, 9 a pointer; the other branches return no name
  fun_induction nameLoop msg currOff newOff ptr name
  case case1 => intro _ _ _ _ h; cases h
  case case2 => intro _ _ _ _ h; cases h
  case case3 =>
    intro hL hl n o heq
    simp only [Res.ok.injEq, Prod.mk.injEq] at heq
    obtain ⟨rfl, _⟩ := heq
    exact ⟨hL, hl⟩
  case case4 => intro _ _ _ _ h; cases h
  case case5 => intro _ _ _ _ h; cases h
  case case6 currOff newOff ptr name h c currOff1 hlt hz endOff hend hcap ih =>
    intro hL hl
    simp only [nameCap] at hcap
    have hc : (UInt8.ofNat c).toNat = c := u8_ofNat_toNat _ (by omega)
    have hlab : ((msg.drop currOff1).take c).length = (UInt8.ofNat c).toNat := by
      rw [hc, List.length_take, List.length_drop]
      omega
    refine ih ?_ ?_
    · rw [List.append_assoc]
      exact hL.append (Labels.single _ _ (by omega) (by omega) hlab)
    · simp only [List.length_append, List.length_cons, List.length_nil, List.length_take, List.length_drop]
      omega
  case case7 => intro _ _ _ _ h; cases h
  case case8 => intro _ _ _ _ h; cases h
  case case9 ih => intro hL hl; exact ih hL hl
  case case10 => intro _ _ _ _ h; cases h

/-- every name the decoder returns is well formed (`nameWF` ⇐ decoder-producible; the converse
    is `decode_literal`) -/
theorem unpackName_wf (msg : Bytes) (off : Nat) (n : Name) (o : Nat)
    (e : unpackName msg off = .ok (n, o)) : nameWF n = true := by
  unfold unpackName at e
  have := nameLoop_wf msg off off 0 [] Labels.nil (by simp) n o e
  rw [nameWF_iff]; exact ⟨this.2, this.1⟩

theorem nameWF_iff_decodable (n : Name) :
    nameWF n = true ↔ ∃ msg off o, unpackName msg off = .ok (n, o) := by
  constructor
  · intro h
    refine ⟨[] ++ (n ++ 0 :: []), 0, _, decode_literal n h [] []⟩
  · intro ⟨msg, off, o, e⟩
    exact unpackName_wf msg off n o e

end MosVerif.Wire
