/-
  C13 — basic facts about the byte-level helpers of Model/Gnet
  (big-endian length, gnet `Next`, Go `copy`).
-/
import MosVerif.Model.Gnet
namespace MosVerif.Gnet

theorem rd16_lt (a b : UInt8) : rd16 a b < 65536 := by
  have ha := a.toNat_lt
  have hb := b.toNat_lt
  rw [rd16]
  omega

theorem be16_rd16 (a b : UInt8) : be16 (rd16 a b) = [a, b] := by
  have hb : b.toNat < 256 := b.toNat_lt
  have h1 : (a.toNat * 256 + b.toNat) / 256 = a.toNat := by
    rw [Nat.mul_comm, Nat.mul_add_div (by decide), Nat.div_eq_of_lt hb, Nat.add_zero]
  have h2 : UInt8.ofNat (a.toNat * 256 + b.toNat) = b :=
    UInt8.toNat_inj.mp ((UInt8.toNat_ofNat' ..).trans ((Nat.mul_add_mod_self_right ..).trans (Nat.mod_eq_of_lt hb)))
  rw [be16, rd16, h1, h2, UInt8.ofNat_toNat]

theorem rd16_be16 (n : Nat) (h : n < 65536) :
    rd16 (UInt8.ofNat (n / 256)) (UInt8.ofNat n) = n := by
  have h1 : n / 256 % 256 = n / 256 := Nat.mod_eq_of_lt (Nat.div_lt_of_lt_mul h)
  rw [rd16, UInt8.toNat_ofNat', UInt8.toNat_ofNat']
  show n / 256 % 256 * 256 + n % 256 = n
  rw [h1, Nat.mul_comm]
  exact Nat.div_add_mod n 256

theorem be16_length (n : Nat) : (be16 n).length = 2 := rfl

theorem next_short (inb : Bytes) (n : Int) (h : n > (inb.length : Int)) :
    next inb n = ([], inb) := by
  rw [next, if_pos h]

theorem next_exact (inb : Bytes) (n : Nat) (h0 : 0 < n) (h : n ≤ inb.length) :
    next inb (n : Int) = (inb.take n, inb.drop n) := by
  rw [next, if_neg (by omega), if_neg (by omega), Int.toNat_natCast]

theorem next_all (inb : Bytes) (n : Int) (h : n ≤ 0) : next inb n = (inb, []) := by
  rw [next, if_neg (by omega), if_pos h]

theorem getBuf_length (n : Nat) : (getBuf n).length = n := List.length_replicate

theorem goCopy_nil (buf : Bytes) : goCopy buf 0 [] = (buf, 0) := by
  simp [goCopy]

theorem goCopy_full (src : Bytes) : goCopy (getBuf src.length) 0 src = (src, src.length) := by
  simp [goCopy, getBuf]

end MosVerif.Gnet
