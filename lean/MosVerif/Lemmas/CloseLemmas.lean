/-
  C18 — invariants of the close-protocol model (Model/Close.lean), preserved by every step.

  `Inv` is the invariant as the property theorems read it off (five clauses, some of them overlapping); `Good` is
  the same with one clause per list, and is what the proofs work on (`Inv.good`, `Good.inv`).
  Every operation of the model is built from a few kinds of update: a map over the connections that opens none,
  a map over the exchanges under which callers only return, a dial that returns (its waiters fail or move to the
  new connection), and a connection, exchange or dial that is appended.  `Good` is shown to survive each kind of
  update once (`Good.mapConns` … `Good.addDial`); the operations are then compositions of these (`good_step`).

  After the invariant: what the operations leave alone (`Frame`: kind, closed flag, blocked-at-close record,
  dials), so that a closed transport stays closed; what a late dial and a start after Close do; and the
  epilogue of a script, which lets every pending dial return and so leaves nobody waiting (`epilogue_settled`).
-/
import MosVerif.Model.Close
namespace MosVerif.Close

/-- What holds in every reachable state:
    * an open connection is tracked by the transport (so `Close` reaches it);
    * once closed: no connection is open, only stubborn dials are still pending, and a caller that has not
      returned waits for such a dial (never on a pipelined transport, whose Close fails all waiters);
    * a caller that has not returned sits on a connection or on a pending dial. -/
structure Inv (s : St) : Prop where
  openTracked : ∀ c ∈ s.conns, c.isOpen = true → c.tracked = true
  closedNoOpen : s.closed = true → ∀ c ∈ s.conns, c.isOpen = false
  closedDials : s.closed = true → ∀ d ∈ s.dials, d.stubborn = true
  waiting : ∀ x ∈ s.exs, x.res = none → (∃ c, x.loc = .conn c) ∨ (∃ d ∈ s.dials, x.loc = .dial d.id)
  closedBlocked : s.closed = true → ∀ x ∈ s.exs, x.res = none →
      (∃ d ∈ s.dials, x.loc = .dial d.id) ∧ s.kind ≠ .pipe

theorem inv_init (k : Kind) : Inv (init k) := by
  constructor <;> simp [init]

theorem or_some_ne_none (r : Option Res) (v : Res) : (r.or (some v) = none) = False := by
  cases r <;> simp

/-- Case distinction on a guard of an operation.  (`split` does the same, but is slow to check on the large
    terms the operations unfold to.) -/
theorem ite_ind {α : Sort _} {P : α → Prop} {c : Prop} [Decidable c] {a b : α} (ha : c → P a) (hb : ¬c → P b) :
    P (if c then a else b) := by
  split
  · exact ha ‹_›
  · exact hb ‹_›

/-- `Inv` with one clause per list and nothing said twice: the form in which it is proved -/
structure Good (s : St) : Prop where
  okConns : ∀ c ∈ s.conns, c.isOpen = true → c.tracked = true ∧ s.closed = false
  okDials : s.closed = true → ∀ d ∈ s.dials, d.stubborn = true
  okWaits : ∀ x ∈ s.exs, x.res = none → (s.closed = false ∧ ∃ c, x.loc = .conn c) ∨
    ∃ d ∈ s.dials, x.loc = .dial d.id ∧ (s.closed = true → s.kind ≠ .pipe)

theorem Inv.good {s : St} (h : Inv s) : Good s := by
  refine ⟨fun c hc ho => ⟨h.openTracked c hc ho, ?_⟩, h.closedDials, fun x hx hn => ?_⟩
  all_goals cases hcl : s.closed
  · rfl
  · exact absurd ((h.closedNoOpen hcl c hc).symm.trans ho) Bool.false_ne_true
  · exact (h.waiting x hx hn).imp (fun hc => ⟨rfl, hc⟩) fun ⟨d, hd, hl⟩ => ⟨d, hd, hl, nofun⟩
  · obtain ⟨⟨d, hd, hl⟩, hk⟩ := h.closedBlocked hcl x hx hn
    exact Or.inr ⟨d, hd, hl, fun _ => hk⟩

theorem Good.inv {s : St} (h : Good s) : Inv s where
  openTracked c hc ho := (h.okConns c hc ho).1
  closedNoOpen hcl c hc := Bool.eq_false_iff.mpr fun ho => Bool.false_ne_true ((h.okConns c hc ho).2.symm.trans hcl)
  closedDials := h.okDials
  waiting x hx hn := (h.okWaits x hx hn).imp (·.2) fun ⟨d, hd, hl, _⟩ => ⟨d, hd, hl⟩
  closedBlocked hcl x hx hn := (h.okWaits x hx hn).elim
    (fun hc => absurd (hc.1.symm.trans hcl) Bool.false_ne_true) fun ⟨d, hd, hl, hk⟩ => ⟨⟨d, hd, hl⟩, hk hcl⟩

/-! ### the updates the operations are made of -/

/-- connections are only ever closed: `f` opens none and leaves the tracking alone -/
theorem Good.mapConns {s : St} (h : Good s) (f : Conn → Conn)
    (hf : ∀ c, (f c).isOpen = true → c.isOpen = true ∧ (f c).tracked = c.tracked) :
    Good { s with conns := s.conns.map f } :=
  { h with
    okConns := fun c' hc' ho => by
      obtain ⟨c, hc, rfl⟩ := List.mem_map.mp hc'
      exact (hf c ho).2 ▸ h.okConns c hc (hf c ho).1 }

/-- a new connection is closed, or tracked by a transport that is not closed -/
theorem Good.addConn {s : St} (h : Good s) (c : Conn)
    (hc : c.isOpen = true → c.tracked = true ∧ s.closed = false) : Good { s with conns := s.conns ++ [c] } :=
  { h with okConns := fun c' hc' =>
      (List.mem_append.mp hc').elim (h.okConns c') fun hc' => List.mem_singleton.mp hc' ▸ hc }

/-- callers only return: whoever is still waiting after `f` has not been touched -/
theorem Good.mapExs {s : St} (h : Good s) (f : Ex → Ex) (hf : ∀ y, (f y).res = none → f y = y) :
    Good { s with exs := s.exs.map f } :=
  { h with
    okWaits := fun x' hx' hn => by
      obtain ⟨y, hy, rfl⟩ := List.mem_map.mp hx'
      have he := hf y hn
      rw [he] at hn ⊢
      exact h.okWaits y hy hn }

/-- dial `d` returns: whoever is still waiting afterwards was not waiting for `d` and has not been touched, or
    sits on a connection of a transport that is not closed -/
theorem Good.dialDone {s : St} (h : Good s) (d : Nat) (f : Ex → Ex)
    (hf : ∀ y, (f y).res = none →
      f y = y ∧ y.loc ≠ .dial d ∨ s.closed = false ∧ ∃ c, (f y).loc = .conn c) :
    Good { s with dials := s.dials.filter (·.id != d), exs := s.exs.map f } :=
  { h with
    okDials := fun hcl d' hd' => h.okDials hcl d' (List.mem_filter.mp hd').1
    okWaits := fun x' hx' hn => by
      obtain ⟨y, hy, rfl⟩ := List.mem_map.mp hx'
      rcases hf y hn with ⟨he, hl⟩ | hc
      · rw [he] at hn ⊢
        -- a dial other than `d` that somebody waits for is still pending
        refine (h.okWaits y hy hn).imp_right fun ⟨d', hd', hl', hk⟩ =>
          ⟨d', List.mem_filter.mpr ⟨hd', ?_⟩, hl', hk⟩
        simpa using fun hid : _ = d => hl (hid ▸ hl')
      · exact Or.inl hc }

/-- a new exchange has returned, or waits — on a transport that is not closed — on a connection or a pending dial -/
theorem Good.addEx {s : St} (h : Good s) (x : Ex)
    (hx : x.res = none → s.closed = false ∧ ((∃ c, x.loc = .conn c) ∨ ∃ d ∈ s.dials, x.loc = .dial d.id)) :
    Good { s with exs := s.exs ++ [x] } :=
  { h with
    okWaits := fun x' hx' hn => (List.mem_append.mp hx').elim (fun hx' => h.okWaits x' hx' hn) fun hx' => by
      cases List.mem_singleton.mp hx'
      obtain ⟨hc, hl⟩ := hx hn
      exact hl.imp (fun hl => ⟨hc, hl⟩) fun ⟨d, hd, hl⟩ =>
        ⟨d, hd, hl, fun hcl => absurd (hc.symm.trans hcl) Bool.false_ne_true⟩ }

theorem Good.addDial {s : St} (h : Good s) (d : Dial) (hc : s.closed = false) :
    Good { s with dials := s.dials ++ [d] } :=
  { h with
    okDials := fun hcl => absurd (hc.symm.trans hcl) Bool.false_ne_true
    okWaits := fun x hx hn =>
      (h.okWaits x hx hn).imp_right fun ⟨d', hd', hl⟩ => ⟨d', List.mem_append_left _ hd', hl⟩ }

/-! the maps the operations use, in the form the lemmas above ask for -/

/-- a map `if p then c' else c` over the connections opens none and leaves the tracking alone, if `c'` does -/
theorem ite_opens_none (p : Prop) [Decidable p] (c' c : Conn) (ho : c'.isOpen = true → c.isOpen = true)
    (ht : c'.tracked = c.tracked) :
    (if p then c' else c).isOpen = true → c.isOpen = true ∧ (if p then c' else c).tracked = c.tracked := by
  split
  · exact fun h => ⟨ho h, ht⟩
  · exact fun h => ⟨h, rfl⟩

theorem ite_pending {p : Prop} [Decidable p] {y y' : Ex} (h' : y'.res ≠ none) :
    (if p then y' else y).res = none → (if p then y' else y) = y ∧ ¬p := by
  split
  · exact fun hn => absurd hn h'
  · exact fun _ => ⟨rfl, ‹¬p›⟩

/-! ### the operations -/

theorem good_cancel (s : St) (e : Nat) (h : Good s) : Good (cancelOp s e) :=
  h.mapExs _ fun _ hn => (ite_pending (Option.some_ne_none _) hn).1

theorem good_timer (s : St) (h : Good s) : Good (timerOp s) :=
  ite_ind (fun _ => h) fun _ => by
    split
    · exact h
    · exact h.mapConns _ fun c => ite_opens_none _ _ c nofun rfl
    · exact h.mapConns _ fun c => ite_opens_none _ _ c nofun rfl

theorem good_reply (s : St) (e : Nat) (h : Good s) : Good (replyOp s e) := by
  unfold replyOp
  split
  · split
    · refine ite_ind (fun _ => ?_) fun _ => h
      split
      · exact (h.mapExs _ fun _ hn => (ite_pending (or_some_ne_none _ _).mp hn).1).mapConns _ fun c =>
          ite_opens_none _ _ c id rfl
      · exact h.mapExs _ fun _ hn => (ite_pending (or_some_ne_none _ _).mp hn).1
    · exact h
  · exact h

theorem good_dialErr (s : St) (d : Nat) (h : Good s) : Good (dialErrOp s d) :=
  ite_ind (fun _ => h) fun _ => h.dialDone d _ fun _ hn => Or.inl (ite_pending (or_some_ne_none _ _).mp hn)

theorem good_dialOk (s : St) (d : Nat) (h : Good s) : Good (dialOkOp s d) :=
  -- no such dial: nothing happens
  ite_ind (fun _ => h) fun _ => ite_ind
    -- the transport is closed: the waiters fail, the new connection is closed at once
    (fun _ => (h.dialDone d _ fun _ hn => Or.inl (ite_pending (or_some_ne_none _ _).mp hn)).addConn _ nofun)
    -- the transport is not closed: the new connection is open and tracked
    fun hc => by
      have hc : s.closed = false := by simpa using hc
      refine (h.dialDone d _ fun y => ?_).addConn _ fun _ => ⟨rfl, hc⟩
      split
      · split
        · -- a waiter that has returned meanwhile: it is not pending
          rename_i hs
          exact fun hn : y.res = none => by rw [hn] at hs; cases hs
        · -- a waiter that is still there moves to the new connection
          exact fun _ => Or.inr ⟨hc, d, rfl⟩
      · -- not a waiter of `d`
        exact fun _ => Or.inl ⟨rfl, ‹_›⟩

theorem good_start (s : St) (e : Nat) (b : Bool) (h : Good s) : Good (startOp s e b) :=
  -- the id is taken: nothing happens; the transport is closed: the exchange fails at once
  ite_ind (fun _ => h) fun _ => ite_ind (fun _ => h.addEx _ nofun) fun hc => by
    have hc : s.closed = false := by simpa using hc
    split
    · -- a usable connection: the exchange goes on it
      rename_i c _
      exact (h.addEx ⟨e, none, .conn c.id⟩ fun _ => ⟨hc, Or.inl ⟨_, rfl⟩⟩).mapConns _ fun c =>
        ite_opens_none _ _ c id rfl
    · split
      · -- a dial that is shared (pipe, quic): the exchange waits for it
        rename_i d hd
        have hmem : d ∈ s.dials := by
          split at hd
          · cases hd
          · exact List.mem_of_mem_head? hd
        exact h.addEx ⟨e, none, .dial d.id⟩ fun _ => ⟨hc, Or.inr ⟨d, hmem, rfl⟩⟩
      · -- otherwise the exchange dials for itself
        have h' := (h.addDial ⟨e, b⟩ hc).addEx ⟨e, none, .dial e⟩ fun _ =>
          ⟨hc, Or.inr ⟨⟨e, b⟩, List.mem_append_right _ (List.mem_singleton_self _), rfl⟩⟩
        -- the count of dials is no part of the invariant
        exact ⟨h'.1, h'.2, h'.3⟩

theorem closeOp_of_closed (s : St) (h : s.closed = true) : closeOp s = s := by
  simp [closeOp, h]

theorem closeOp_closed (s : St) : (closeOp s).closed = true :=
  ite_ind (P := fun s' : St => s'.closed = true) id fun _ => rfl

/-- `Close`: what is tracked is closed, so nothing stays open; the dials that obey their context are gone, and a
    caller that is still blocked waits for one that does not (not on a pipelined transport, which fails them all) -/
theorem good_close (s : St) (h : Good s) : Good (closeOp s) := by
  by_cases hc : s.closed = true
  · rw [closeOp_of_closed s hc]
    exact h
  · simp only [closeOp, hc]
    refine ⟨fun c hc => ?_, fun _ d hd => (List.mem_filter.mp hd).2, fun x hx hn => ?_⟩
    · obtain ⟨c0, hc0, rfl⟩ := List.mem_map.mp hc
      split
      · nofun
      · exact fun ho => absurd (h.okConns c0 hc0 ho).1 ‹¬_›
    · obtain ⟨y, hy, hxy⟩ := List.mem_map.mp hx
      -- Close has failed `y` (then `x` has returned) or left it alone (then `x` is `y`)
      split at hxy
      · exact absurd (hxy ▸ hn) (or_some_ne_none _ _).mp
      · rename_i d hl
        split at hxy
        · exact absurd (hxy ▸ hn) (or_some_ne_none _ _).mp
        · rename_i hg
          subst hxy
          rcases h.okWaits y hy hn with ⟨_, c, hcn⟩ | ⟨d', hd', hl', _⟩
          · exact nomatch hl.symm.trans hcn
          · cases hl.symm.trans hl'
            have hg' := fun h => hg (List.any_eq_true.mpr ⟨d', hd', h⟩)
            simp at hg'
            exact Or.inr ⟨d', List.mem_filter.mpr ⟨hd', hg'.1⟩, hl, fun _ => hg'.2⟩
      · subst hxy
        rename_i hl
        rcases h.okWaits y hy hn with ⟨_, c, hcn⟩ | ⟨d', hd', hl', _⟩
        · exact nomatch hl.symm.trans hcn
        · exact nomatch hl.symm.trans hl'

/-! ### `sweep` (self-close of a connection without wire ids) and `burn` only touch connections -/

theorem sweep_eq (s : St) : sweep s = { s with conns := (sweep s).conns } := by
  unfold sweep
  split <;> rfl

theorem sweep_ndials (s : St) : (sweep s).ndials = s.ndials := by rw [sweep_eq]

theorem burn_eq (s : St) (k : Nat) : burnOp s k = { s with conns := (burnOp s k).conns } := by
  unfold burnOp
  repeat' split
  all_goals rfl

theorem good_sweep (s : St) (h : Good s) : Good (sweep s) :=
  ite_ind (fun _ => h.mapConns _ fun c => ite_opens_none _ _ c nofun rfl) fun _ => h

theorem good_burn (s : St) (k : Nat) (h : Good s) : Good (burnOp s k) :=
  ite_ind (fun _ => h) fun _ => by
    split
    · exact ite_ind (fun _ => h.mapConns _ fun c => ite_opens_none _ _ c id rfl) fun _ => h
    · exact h

/-- `step` without the self-close sweep and without the id bookkeeping of `burn`, which only touch connections -/
def step0 (s : St) : Op → St
  | .start e b => startOp s e b
  | .dialOk d => dialOkOp s d
  | .dialErr d => dialErrOp s d
  | .reply e => replyOp s e
  | .cancel e => cancelOp s e
  | .timer => timerOp s
  | .close => closeOp s
  | .trunc _ => s
  | .burn _ => s

theorem step_closed (s : St) (op : Op) : (step s op).closed = (step0 s op).closed := by
  cases op with
  | reply e => exact (congrArg St.closed (sweep_eq (replyOp s e)) :)
  | cancel e => exact (congrArg St.closed (sweep_eq (cancelOp s e)) :)
  | burn k =>
    show (sweep (burnOp s k)).closed = s.closed
    rw [sweep_eq, burn_eq]
  | _ => rfl

theorem good_step (s : St) (op : Op) (h : Good s) : Good (step s op) := by
  cases op with
  | start e b => exact good_start s e b h
  | dialOk d => exact good_dialOk s d h
  | dialErr d => exact good_dialErr s d h
  | reply e => exact good_sweep _ (good_reply s e h)
  | cancel e => exact good_sweep _ (good_cancel s e h)
  | burn k => exact good_sweep _ (good_burn s k h)
  | timer => exact good_timer s h
  | close => exact good_close s h
  | trunc e => exact h

theorem inv_step (s : St) (op : Op) (h : Inv s) : Inv (step s op) :=
  (good_step s op h.good).inv

/-- what every operation of a script preserves holds at its end -/
theorem run_induction {P : St → Prop} {l : List Op} (hstep : ∀ s, ∀ op ∈ l, P s → P (step s op))
    {s : St} (h : P s) : P (run s l) := by
  induction l generalizing s with
  | nil => exact h
  | cons op rest ih =>
    exact ih (fun s o ho => hstep s o (List.mem_cons_of_mem _ ho)) (hstep s op List.mem_cons_self h)

theorem run_append (s : St) (a b : List Op) : run s (a ++ b) = run (run s a) b := by
  simp [run, List.foldl_append]

theorem inv_run (s : St) (ops : List Op) (h : Inv s) : Inv (run s ops) :=
  run_induction (fun s op _ => inv_step s op) h

theorem reach_inv (k : Kind) (ops : List Op) : Inv (run (init k) ops) :=
  inv_run _ _ (inv_init k)

/-- What the operations leave alone: none changes the kind of the transport, only `close` touches the closed
    flag and the record of who was blocked at the first Close, only `start` adds a dial. -/
def Frame (s : St) (op : Op) (s' : St) : Prop :=
  s'.kind = s.kind ∧ (op ≠ .close → s'.closed = s.closed ∧ s'.atClose = s.atClose) ∧
    ∀ d ∈ s'.dials, d ∈ s.dials ∨ op = .start d.id d.stubborn

theorem Frame.same {s s' : St} {op : Op} (hk : s'.kind = s.kind) (hc : s'.closed = s.closed)
    (ha : s'.atClose = s.atClose) (hd : s'.dials.Sublist s.dials) : Frame s op s' :=
  ⟨hk, fun _ => ⟨hc, ha⟩, fun _ h => Or.inl (hd.subset h)⟩

theorem Frame.sweep {s s' : St} {op : Op} (h : Frame s op s') : Frame s op (sweep s') :=
  sweep_eq s' ▸ h

theorem step_frame (s : St) (op : Op) : Frame s op (step s op) := by
  -- where an operation does not touch the dials
  have keep : ∀ {s' : St}, s'.kind = s.kind → s'.closed = s.closed → s'.atClose = s.atClose →
      s'.dials = s.dials → Frame s op s' := fun hk hc ha hd => .same hk hc ha (hd ▸ .refl _)
  cases op with
  | trunc e => exact keep rfl rfl rfl rfl
  | burn k => exact Frame.sweep (burn_eq s k ▸ keep rfl rfl rfl rfl)
  | cancel e => exact Frame.sweep (keep rfl rfl rfl rfl)
  | timer =>
    refine ite_ind (fun _ => keep rfl rfl rfl rfl) fun _ => ?_
    split <;> exact keep rfl rfl rfl rfl
  | reply e =>
    refine Frame.sweep ?_
    unfold replyOp
    repeat' split
    all_goals exact keep rfl rfl rfl rfl
  | dialErr d =>
    exact ite_ind (fun _ => keep rfl rfl rfl rfl) fun _ => .same rfl rfl rfl List.filter_sublist
  | dialOk d =>
    exact ite_ind (fun _ => keep rfl rfl rfl rfl) fun _ =>
      ite_ind (fun _ => .same rfl rfl rfl List.filter_sublist) fun _ => .same rfl rfl rfl List.filter_sublist
  | close =>
    exact ite_ind (fun _ => keep rfl rfl rfl rfl) fun _ =>
      ⟨rfl, fun h => absurd rfl h, fun _ h => Or.inl (List.filter_sublist.subset h)⟩
  | start e b =>
    refine ite_ind (fun _ => keep rfl rfl rfl rfl) fun _ => ite_ind (fun _ => keep rfl rfl rfl rfl) fun _ => ?_
    repeat' split
    · exact keep rfl rfl rfl rfl
    · exact keep rfl rfl rfl rfl
    · -- the exchange dials for itself
      exact ⟨rfl, fun _ => ⟨rfl, rfl⟩, fun d h => (List.mem_append.mp h).imp_right fun h => by
        cases List.mem_singleton.mp h; rfl⟩

theorem closed_step (s : St) (op : Op) (h : s.closed = true) : (step s op).closed = true := by
  by_cases hop : op = .close
  · subst hop
    exact closeOp_closed s
  · exact ((step_frame s op).2.1 hop).1.trans h

theorem run_kind (s : St) (l : List Op) : (run s l).kind = s.kind :=
  run_induction (P := fun s' => s'.kind = s.kind) (fun s' op _ h => (step_frame s' op).1.trans h) rfl

theorem closed_run (s : St) (ops : List Op) (h : s.closed = true) : (run s ops).closed = true :=
  run_induction (fun s op _ => closed_step s op) h

theorem late_dial (s : St) (d : Nat) (hc : s.closed = true) (hd : s.hasDial d = true) :
    dialOkOp s d =
      { s with dials := s.dials.filter (·.id != d), conns := s.conns ++ [⟨d, false, false, false, 0⟩],
               exs := failWaiters d s.exs } := by
  simp [dialOkOp, hd, hc]

theorem start_after_close (s : St) (e : Nat) (b : Bool) (hc : s.closed = true) (he : s.hasEx e = false) :
    startOp s e b = { s with exs := s.exs ++ [⟨e, some .err, .none⟩] } := by
  simp [startOp, hc, he]

theorem dialOk_dials (s : St) (d : Nat) : ∀ d' ∈ (dialOkOp s d).dials, d' ∈ s.dials ∧ d'.id ≠ d := by
  have hf : ∀ d' ∈ s.dials.filter (·.id != d), d' ∈ s.dials ∧ d'.id ≠ d := by simp
  let P := fun s' : St => ∀ d' ∈ s'.dials, d' ∈ s.dials ∧ d'.id ≠ d
  refine ite_ind (P := P) (fun hno d' hd' => ?_) fun _ => ite_ind (P := P) (fun _ => hf) fun _ => hf
  simp only [St.hasDial, Bool.not_eq_true', List.any_eq_false, beq_iff_eq] at hno
  exact ⟨hd', hno d' hd'⟩

/-- once every pending dial has returned, no dial is pending (the epilogue of a manual script) -/
theorem drain_dials (l : List Dial) (s : St) (hs : ∀ d ∈ s.dials, d ∈ l) :
    (run s (l.map (fun d => Op.dialOk d.id))).dials = [] := by
  induction l generalizing s with
  | nil => exact List.eq_nil_iff_forall_not_mem.mpr fun d hd => nomatch hs d hd
  | cons a l ih =>
    refine ih (step s (.dialOk a.id)) fun d hd => ?_
    obtain ⟨h1, h2⟩ := dialOk_dials s a.id d hd
    rcases List.mem_cons.mp (hs d h1) with rfl | h
    · exact absurd rfl h2
    · exact h

/-- the epilogue is a run of returning dials -/
theorem epilogue_run (s : St) : ∃ l, (∀ op ∈ l, ∃ d, op = Op.dialOk d) ∧ epilogue s = run s l := by
  unfold epilogue
  split
  · exact ⟨_, fun op hop => (List.mem_map.mp hop).elim fun d h => ⟨d.id, h.2.symm⟩, rfl⟩
  · exact ⟨[], (fun _ h => nomatch h), rfl⟩

/-- the epilogue settles a closed transport: no dial is pending, nothing is open, every caller has returned -/
theorem epilogue_settled (s : St) (h : Inv s) (hc : s.closed = true) :
    (epilogue s).closed = true ∧ (epilogue s).dials = [] ∧ (∀ c ∈ (epilogue s).conns, c.isOpen = false) ∧
      ∀ x ∈ (epilogue s).exs, x.res ≠ none := by
  simp only [epilogue, hc, if_true]
  have hi := inv_run s (s.dials.map fun d => Op.dialOk d.id) h
  have hcl := closed_run s (s.dials.map fun d => Op.dialOk d.id) hc
  have hdl := drain_dials s.dials s fun _ hd => hd
  refine ⟨hcl, hdl, hi.closedNoOpen hcl, fun x hx hn => ?_⟩
  obtain ⟨⟨d, hdm, _⟩, _⟩ := hi.closedBlocked hcl x hx hn
  rw [hdl] at hdm
  cases hdm

end MosVerif.Close
