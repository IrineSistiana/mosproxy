/-
  C06 — the content invariant of the `Reuse` transition system: against a server that answers
  queries in order and may repeat frames it already sent (but does not forge frames), every
  frame whose wire id equals the id of the outstanding query answers that query.

  The server side of a connection carries labels `(wire id, query)`: on the frames in flight, on
  the frames ever sent and on the queries still owed.  Server moves shuffle labels between these
  three places and never invent one (`Labels.reply`, `Labels.dup`), so any predicate that holds of
  all labels survives them; only `workerWrite` creates a label, with a wire id larger than all
  that exist.  The invariant `InvC` reads only `hist`, `conn` and `chan` of the state, and is
  closed under each of the primitive updates of which a step is composed (`InvC.frame`,
  `InvC.setConn`, `InvC.emit`, …); `stepC_inv` puts every step together from these.  Where the
  model names intermediate states with `let`, `simp -zeta` keeps them and `extract_lets` brings
  them into the context (`s1`, `k`, `s2`), so that the invariant is stated of each of them once.
-/
import MosVerif.Lemmas.ReuseInv
namespace MosVerif.Reuse

/-- every label `(wire id, query)` on the server side of a connection satisfies `P` -/
structure Labels (P : Nat → Nat → Prop) (inbuf sentLog : List Frame) (owed : List (Nat × Nat)) : Prop where
  inbuf : ∀ f ∈ inbuf, P f.id f.q
  sentLog : ∀ f ∈ sentLog, P f.id f.q
  owed : ∀ p ∈ owed, P p.2 p.1

theorem Labels.mono {P Q : Nat → Nat → Prop} (h : Labels P ib sl ow) (hPQ : ∀ i q, P i q → Q i q) :
    Labels Q ib sl ow :=
  ⟨fun f hf => hPQ _ _ (h.inbuf f hf), fun f hf => hPQ _ _ (h.sentLog f hf), fun p hp => hPQ _ _ (h.owed p hp)⟩

/-- `srvReply`: the oldest owed query is answered with its own label -/
theorem Labels.reply (h : Labels P ib sl ((q, i) :: ow)) (g : Bool) :
    Labels P (ib ++ [⟨i, q, g⟩]) (sl ++ [⟨i, q, g⟩]) ow := by
  have hq : P i q := h.owed (q, i) List.mem_cons_self
  refine ⟨fun f hf => ?_, fun f hf => ?_, fun p hp => h.owed p (List.mem_cons_of_mem _ hp)⟩
  · rcases List.mem_append.1 hf with hf | hf
    · exact h.inbuf f hf
    · rw [List.mem_singleton.1 hf]; exact hq
  · rcases List.mem_append.1 hf with hf | hf
    · exact h.sentLog f hf
    · rw [List.mem_singleton.1 hf]; exact hq

/-- `srvDup`: a frame sent before is sent once more -/
theorem Labels.dup {n : Nat} (h : Labels P ib sl ow) (hf : sl[n]? = some f) : Labels P (ib ++ [f]) sl ow := by
  refine ⟨fun f' hf' => ?_, h.sentLog, h.owed⟩
  rcases List.mem_append.1 hf' with hf' | hf'
  · exact h.inbuf f' hf'
  · rw [List.mem_singleton.1 hf']; exact h.sentLog f (List.mem_of_getElem? hf)

/-- `workerReadOk`: the oldest frame in flight is consumed -/
theorem Labels.tail (h : Labels P (f :: ib) sl ow) : Labels P ib sl ow :=
  ⟨fun f' hf' => h.inbuf f' (List.mem_cons_of_mem _ hf'), h.sentLog, h.owed⟩

/-- `workerWrite`: the server owes one more reply -/
theorem Labels.owe (h : Labels P ib sl ow) (hq : P i q) : Labels P ib sl (ow ++ [(q, i)]) := by
  refine ⟨h.inbuf, h.sentLog, fun p hp => ?_⟩
  rcases List.mem_append.1 hp with hp | hp
  · exact h.owed p hp
  · rw [List.mem_singleton.1 hp]; exact hq

/-- content invariant of one connection: every label carries a wire id that was already handed
    out, and while a worker waits for the reply to the query it wrote with id `qid`, everything
    labelled `qid` belongs to that worker's exchange -/
structure CC (k : Conn) : Prop where
  bound : Labels (fun i _ => i < k.nextQid) k.inbuf k.sentLog k.owed
  read : ∀ e a qid, k.worker = some (.read e a qid) →
    qid + 1 = k.nextQid ∧ Labels (fun i q => i = qid → q = e) k.inbuf k.sentLog k.owed
  post : ∀ e a q, k.worker = some (.post e a (.ok q)) → q = e

/-- the labels are permuted (whatever holds of all labels before holds of all after), the worker and
    the id counter are untouched: a move of the server, or a change the invariant does not read -/
theorem CC.permute {k k' : Conn} (h : CC k) (hw : k'.worker = k.worker) (hn : k'.nextQid = k.nextQid)
    (hl : ∀ P, Labels P k.inbuf k.sentLog k.owed → Labels P k'.inbuf k'.sentLog k'.owed) : CC k' := by
  refine ⟨?_, fun e a qid hr => ?_, fun e a q hp => h.post e a q (hw ▸ hp)⟩
  · rw [hn]; exact hl _ h.bound
  · rw [hn]; exact ⟨(h.read e a qid (hw ▸ hr)).1, hl _ (h.read e a qid (hw ▸ hr)).2⟩

structure InvC (s : State) : Prop where
  own : (mon s.hist).own = true
  conn : ∀ c, CC (s.conn c)
  chan : ∀ e a q, s.chan e a = some (.ok q) → q = e

theorem invC_init : InvC State.init :=
  ⟨rfl, fun _ => ⟨⟨nofun, nofun, nofun⟩, nofun, nofun⟩, nofun⟩

/-- only a returned message can change the monitor's verdict `own` -/
theorem monStep_own (m : Mon) (ev : Event) (hev : ∀ e q, ev = .ret e (.ok q) → q = e) (h : m.own = true) :
    (monStep m ev).own = true := by
  cases ev with
  | ret e r =>
    cases r with
    | ok q => simp only [monStep, h, hev e q rfl, beq_self_eq_true, Bool.and_self]
    | _ => exact h
  | rd c q i =>
    simp only [monStep]
    split
    · split <;> exact h
    · exact h
  | _ => exact h

theorem InvC.frame {s s' : State} (h : InvC s) (hh : s'.hist = s.hist) (hc : s'.conn = s.conn)
    (hch : s'.chan = s.chan) : InvC s' :=
  ⟨hh ▸ h.own, hc ▸ h.conn, hch ▸ h.chan⟩

theorem InvC.setConn (h : InvC s) (hk : CC k) : InvC (s.setConn c k) := by
  refine ⟨h.own, fun c' => ?_, h.chan⟩
  simp only [State.setConn, upd_apply]
  split
  · exact hk
  · exact h.conn c'

theorem InvC.setCaller (h : InvC s) : InvC (s.setCaller e k) := h.frame rfl rfl rfl

theorem InvC.emit (h : InvC s) (hev : ∀ e q, ev = .ret e (.ok q) → q = e) : InvC (s.emit ev) :=
  ⟨by rw [State.emit, mon_append1]; exact monStep_own _ _ hev h.own, h.conn, h.chan⟩

theorem InvC.finish (h : InvC s) (hr : ∀ q, r = .ok q → q = e) : InvC (s.finish e r) :=
  h.setCaller.emit fun _ q he => by cases he; exact hr q rfl

/-- a change of connection `c` in fields the invariant does not read -/
theorem InvC.touch (h : InvC s) {k : Conn} (h1 : k.inbuf = (s.conn c).inbuf) (h2 : k.sentLog = (s.conn c).sentLog)
    (h3 : k.owed = (s.conn c).owed) (h4 : k.nextQid = (s.conn c).nextQid)
    (hr : ∀ e a qid, k.worker = some (.read e a qid) → (s.conn c).worker = some (.read e a qid))
    (hp : ∀ e a q, k.worker = some (.post e a (.ok q)) → (s.conn c).worker = some (.post e a (.ok q))) :
    InvC (s.setConn c k) := by
  refine h.setConn ⟨?_, fun e a qid hw => ?_, fun e a q hw => (h.conn c).post e a q (hp e a q hw)⟩
  · rw [h1, h2, h3, h4]; exact (h.conn c).bound
  · rw [h1, h2, h3, h4]; exact (h.conn c).read e a qid (hr e a qid hw)

/-- … in particular one that leaves the worker alone -/
theorem InvC.same (h : InvC s) {k : Conn} (h1 : k.inbuf = (s.conn c).inbuf) (h2 : k.sentLog = (s.conn c).sentLog)
    (h3 : k.owed = (s.conn c).owed) (h4 : k.nextQid = (s.conn c).nextQid) (hw : k.worker = (s.conn c).worker) :
    InvC (s.setConn c k) :=
  h.setConn ((h.conn c).permute hw h4 fun P hl => by rw [h1, h2, h3]; exact hl)

theorem InvC.netClose (h : InvC s) : InvC (s.netClose c) := by
  unfold State.netClose
  split
  · exact h
  · exact InvC.emit (h.same rfl rfl rfl rfl rfl) nofun

theorem InvC.rcClose (h : InvC s) : InvC (s.rcClose c) := by
  unfold State.rcClose
  split
  · exact h
  · exact InvC.netClose (h.same rfl rfl rfl rfl rfl)

theorem InvC.spawn (h : InvC s) : InvC (s.spawn e c new) :=
  InvC.emit (InvC.touch h.setCaller rfl rfl rfl rfl nofun nofun) nofun

theorem stepC_inv (h : InvC s) (a : Act) : InvC (stepCoreG false false s a) := by
  cases a with
  | start e =>
    simp only [stepCoreG]
    split
    · exact h.setCaller
    · exact h
  | cancel e => exact h.setCaller
  | getIdle e pick =>
    cases hph : (s.caller e).phase with
    | get =>
      simp -zeta only [stepCoreG, hph]
      refine iteInduction (fun _ => h.setCaller) fun _ => ?_
      refine iteInduction (fun _ => h.finish nofun) fun _ => ?_
      cases pick with
      | none => exact iteInduction (fun _ => h.setCaller) fun _ => h
      | some c =>
        dsimp -zeta only
        extract_lets s1 k s2
        have h1 : InvC s1 := h.frame rfl rfl rfl
        have h2 : InvC s2 := h1.same rfl rfl rfl rfl rfl
        refine iteInduction (fun _ => ?_) fun _ => h
        refine iteInduction (fun _ => h1.frame rfl rfl rfl) fun _ => ?_
        refine iteInduction (fun _ => h1.frame rfl rfl rfl) fun _ => ?_
        refine iteInduction (fun _ => h2.frame rfl rfl rfl) fun _ => ?_
        exact iteInduction (fun _ => h2.frame rfl rfl rfl) fun _ => h2.spawn
    | _ => simpa only [stepCoreG, hph] using h
  | recvRes e =>
    simp only [stepCoreG]
    split
    · split
      · rename_i q hq
        exact h.finish fun q' hq' => by cases hq'; exact h.chan _ _ _ hq
      · split
        · exact h.setCaller
        · exact h.finish nofun
      · exact h
    · exact h
  | giveUp e =>
    simp only [stepCoreG]
    split
    · split
      · exact h.finish nofun
      · exact h.finish nofun
      · exact h
    · exact h
  | dialDone e ok =>
    simp only [stepCoreG]
    split
    · split
      · exact InvC.setCaller (InvC.setConn (InvC.emit (h.frame rfl rfl rfl) nofun) ⟨⟨nofun, nofun, nofun⟩, nofun, nofun⟩)
      · exact h.setCaller
    · exact h
  | dialExit c =>
    simp -zeta only [stepCoreG]
    extract_lets k s1
    have h1 : InvC s1 :=
      iteInduction (fun _ => h) fun _ => h.same rfl rfl rfl rfl rfl
    split
    · refine iteInduction (fun _ => h.frame rfl rfl rfl) fun _ => ?_
      refine iteInduction (fun _ => ?_) fun _ => ?_
      · exact InvC.setCaller (InvC.touch h1.rcClose rfl rfl rfl rfl nofun nofun)
      · refine InvC.touch ?_ rfl rfl rfl rfl nofun nofun
        exact h1.frame rfl rfl rfl
    · exact h
  | dialDeliver c toCaller =>
    simp only [stepCoreG]
    split
    · split
      · exact h.spawn
      · exact h.touch rfl rfl rfl rfl nofun nofun
    · exact h
  | dialFail e toCaller =>
    simp only [stepCoreG]
    split
    · split
      · exact InvC.finish h.setCaller nofun
      · exact h.setCaller
    · exact h
  | workerWrite c fail =>
    simp only [stepCoreG]
    split
    · rename_i e a hw
      have hb := (h.conn c).bound.mono fun i _ (hi : i < (s.conn c).nextQid) => Nat.lt_succ_of_lt hi
      split
      · exact InvC.emit (h.setConn ⟨hb, nofun, nofun⟩) nofun
      · refine InvC.emit (h.setConn ⟨hb.owe (Nat.lt_succ_self _), fun e' a' qid' hw' => ?_, nofun⟩) nofun
        cases hw'
        exact ⟨rfl, ((h.conn c).bound.mono fun i q hi hq => absurd (hq ▸ hi) (Nat.lt_irrefl _)).owe fun _ => rfl⟩
    · exact h
  | workerReadPart c =>
    simp only [stepCoreG]
    split
    · split
      · exact h
      · exact h.same rfl rfl rfl rfl rfl
    · exact h
  | workerReadOk c =>
    simp only [stepCoreG]
    split
    · rename_i e a qid hw
      refine iteInduction (fun _ => h) fun _ => ?_
      split
      · rename_i f fs hin
        have hb := (h.conn c).bound
        have hr := ((h.conn c).read e a qid hw).2
        rw [hin] at hb hr
        refine iteInduction (fun _ => InvC.emit (h.setConn ⟨hb.tail, nofun, nofun⟩) nofun) fun _ => ?_
        refine iteInduction (fun hid => ?_) fun _ => InvC.emit (h.setConn ⟨hb.tail, nofun, nofun⟩) nofun
        refine InvC.emit (h.setConn ⟨hb.tail, nofun, fun e' a' q' hw' => ?_⟩) nofun
        cases hw'
        exact hr.inbuf f List.mem_cons_self hid
      · exact h
    · exact h
  | workerReadErr c =>
    simp only [stepCoreG]
    split
    · exact InvC.emit (h.touch rfl rfl rfl rfl nofun nofun) nofun
    · exact h
  | workerPost c =>
    simp only [stepCoreG]
    split
    · rename_i e a r hw
      have hs := h.touch (c := c) (k := { s.conn c with worker := some (.relA (decide (r ≠ .err))) })
        rfl rfl rfl rfl nofun nofun
      exact ⟨h.own, hs.conn, chan_post h.chan fun q hr => (h.conn c).post e a q (hr ▸ hw)⟩
    · exact h
  | workerRelA c =>
    simp only [stepCoreG]
    split
    · refine iteInduction (fun _ => ?_) fun _ => InvC.touch h.rcClose rfl rfl rfl rfl nofun nofun
      exact iteInduction (fun _ => h.frame rfl rfl rfl) fun _ => h.touch rfl rfl rfl rfl nofun nofun
    · exact h
  | workerRelB c =>
    simp -zeta only [stepCoreG]
    extract_lets k s1
    have h1 : InvC s1 := h.touch rfl rfl rfl rfl nofun nofun
    split
    · refine iteInduction (fun _ => iteInduction (fun _ => h1.rcClose) fun _ => h1) fun _ => ?_
      exact iteInduction (fun _ => h1.frame rfl rfl rfl) fun _ => h1.frame rfl rfl rfl
    · exact h
  | idleTimer c =>
    simp only [stepCoreG]
    refine iteInduction (fun _ => ?_) fun _ => h
    refine iteInduction (fun _ => h) fun _ => ?_
    refine iteInduction (fun _ => ?_) fun _ => h
    exact InvC.netClose (h.same rfl rfl rfl rfl rfl)
  | tClose =>
    simp only [stepCoreG]
    split
    · exact h
    · refine ⟨?_, fun c' => ?_, h.chan⟩
      · simp only [mon_append, List.foldl_cons, foldl_cl, monStep]
        exact h.own
      · show CC (if c' ∈ s.all then _ else _)
        split
        · -- `netClosed := true` leaves every field that `CC` reads as it was
          exact ⟨(h.conn c').bound, (h.conn c').read, (h.conn c').post⟩
        · exact h.conn c'
  | srvReply c good =>
    simp only [stepCoreG]
    split
    · split
      · rename_i q i rest how
        refine h.setConn ((h.conn c).permute rfl rfl fun P hl => ?_)
        rw [how] at hl
        exact hl.reply good
      · exact h
    · exact h
  | srvDup c n =>
    simp only [stepCoreG]
    split
    · split
      · rename_i f hf
        exact h.setConn ((h.conn c).permute rfl rfl fun P hl => hl.dup hf)
      · exact h
    · exact h
  | srvStray c f => exact h  -- `adv = false`: the guard `false && _` of `srvStray` reduces away
  | srvAbort c =>
    simp only [stepCoreG]
    split
    · exact h.same rfl rfl rfl rfl rfl
    · exact h

theorem stepC (h : InvC s) (a : Act) : InvC (step s a) := by
  unfold step
  split
  · exact h
  · exact stepC_inv h a

theorem reachC_inv (acts : List Act) : InvC (exec State.init acts) :=
  foldl_inv (P := InvC) (f := step) (fun _ a h => stepC h a) invC_init acts

end MosVerif.Reuse
