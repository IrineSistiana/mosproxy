/-
  C08 — the executable specification of timed histories (`specHist`, Model/Ttl.lean) accepts the model's own
  observations: provenance invariant of the memory model along a history of harness events.
-/
import MosVerif.Lemmas.TtlHist
namespace MosVerif.Ttl

theorem sorted_head_le (a : Ev) (l : List Ev) (h : sortedEvs (a :: l) = true) : ∀ b ∈ l, a.t ≤ b.t := by
  induction l generalizing a with
  | nil => intro b hb; cases hb
  | cons x xs ih =>
    intro b hb
    simp only [sortedEvs, Bool.and_eq_true, decide_eq_true_eq] at h
    cases hb with
    | head => exact h.1
    | tail _ hb' =>
      have := ih x h.2 b hb'
      omega

theorem sorted_tail (a : Ev) (l : List Ev) (h : sortedEvs (a :: l) = true) : sortedEvs l = true := by
  cases l with
  | nil => rfl
  | cons x xs => simp only [sortedEvs, Bool.and_eq_true] at h; exact h.2

/-- sortedness gives the order of planned times by position -/
theorem sorted_get (l : List Ev) (h : sortedEvs l = true) :
    ∀ (i j : Nat) (a b : Ev), i ≤ j → l[i]? = some a → l[j]? = some b → a.t ≤ b.t := by
  induction l with
  | nil => intro i j a b _ ha; simp at ha
  | cons x xs ih =>
    intro i j a b hij ha hb
    cases i with
    | zero =>
      simp at ha; subst ha
      cases j with
      | zero => simp at hb; subst hb; exact Nat.le_refl _
      | succ j =>
        simp at hb
        exact sorted_head_le _ xs h b (List.mem_of_getElem? hb)
    | succ i =>
      cases j with
      | zero => omega
      | succ j =>
        simp at ha hb
        exact ih (sorted_tail x xs h) i j a b (by omega) ha hb

/-! ### the last positive Store of a key -/

theorem lastPos_snoc (l : List Ev) (x : Ev) (k : Nat) :
    lastPos (l ++ [x]) k = if posStore x k then some x else lastPos l k := by
  simp [lastPos, List.foldl_append]

theorem lastPos_fold (l : List Ev) (k : Nat) (ev : Ev) : ∀ acc,
    l.foldl (fun acc e => if posStore e k then some e else acc) acc = some ev →
    (ev ∈ l ∧ posStore ev k = true) ∨ acc = some ev := by
  induction l with
  | nil => intro acc h; right; simpa using h
  | cons x xs ih =>
    intro acc h
    simp only [List.foldl_cons] at h
    rcases ih _ h with h' | h'
    · left; exact ⟨by simp [h'.1], h'.2⟩
    · by_cases hp : posStore x k = true
      · simp only [hp, if_true, Option.some.injEq] at h'
        subst h'; left; exact ⟨by simp, hp⟩
      · simp only [hp] at h'
        right; exact h'

theorem lastPos_some (l : List Ev) (k : Nat) (ev : Ev) (h : lastPos l k = some ev) :
    ev ∈ l ∧ posStore ev k = true := by
  rcases lastPos_fold l k ev none h with h' | h'
  · exact h'
  · cases h'

theorem take_succ_snoc (evs : List Ev) (n : Nat) (ev : Ev) (hn : evs[n]? = some ev) :
    evs.take (n + 1) = evs.take n ++ [ev] := by
  rw [List.take_add_one, hn]; rfl

theorem mem_take_succ (evs : List Ev) (n : Nat) (ev x : Ev) (hn : evs[n]? = some ev)
    (hx : x ∈ evs.take (n + 1)) : x ∈ evs.take n ∨ x = ev := by
  rw [take_succ_snoc evs n ev hn] at hx
  simpa using hx

theorem mem_take_get (evs : List Ev) (n : Nat) (x : Ev) (hx : x ∈ evs.take n) : ∃ i, i < n ∧ evs[i]? = some x := by
  obtain ⟨i, hi, he⟩ := List.getElem_of_mem hx
  have hlen := List.length_take (i := n) (l := evs)
  have hin : i < n := by omega
  have hil : i < evs.length := by omega
  refine ⟨i, hin, ?_⟩
  rw [List.getElem_take] at he
  rw [List.getElem?_eq_getElem hil, he]

theorem posStore_up (ev : Ev) (k : Nat) (h : posStore ev k = true) :
    ev.kind = 0 ∧ ev.key = k ∧ ∃ m, ev.up = .reply m ∧ m.rcode = 0 ∧ m.tc = false := by
  unfold posStore at h
  simp only [Bool.and_eq_true, beq_iff_eq] at h
  cases hu : ev.up with
  | err => rw [hu] at h; simp at h
  | reply m =>
    rw [hu] at h
    simp only [Bool.and_eq_true, beq_iff_eq, Bool.not_eq_true'] at h
    exact ⟨h.1.1, h.1.2, m, rfl, h.2.1, h.2.2⟩

/-! ### when the node of a Store expires on the harness' clock -/

/-- the cache configuration of a harness history -/
def histCfg (cfgMax : Int) : Cfg := ⟨true, initMaxTtl cfgMax⟩

/-- otter's getTTL of a whole number of seconds is that number: nothing to round, no uint32 truncation -/
theorem otterTtlTicks_sec (l : Nat) (h : l < u32) : otterTtlTicks ((l : Nat) * second) = l := by
  unfold otterTtlTicks second u32 at *
  rw [Int.tdiv_eq_ediv_of_nonneg (by omega)]
  omega

/-- the cache-clock tick at which the node written by a positive Store event expires -/
def expOf (cfgMax : Int) (ev : Ev) : Nat :=
  match ev.up with
  | .reply m => (histClock (ev.t * msNs) + otterTtlTicks (storeTtl m (initMaxTtl cfgMax))) % u32
  | .err => 0

/-- … which is the tick of the Store plus the specification's lifetime: within a history the uint32 clock does
    not wrap -/
theorem expOf_reply (cfgMax : Int) (h1 : -9223372037 < cfgMax) (h2 : cfgMax < 9223372037) (ev : Ev) (m : Msg)
    (hu : ev.up = .reply m) (hshort : ev.t ≤ histLimitMs) :
    expOf cfgMax ev = histClock (ev.t * msNs) + lifeSec m cfgMax := by
  have hl := lifeSec_le_tenYears m cfgMax
  unfold expOf
  rw [hu]
  simp only
  rw [storeTtl_sane m cfgMax h1 h2, otterTtlTicks_sec _ (by unfold tenYears u32 at *; omega)]
  apply Nat.mod_eq_of_lt
  unfold histClock msNs histLimitMs tenYears u32 at *
  omega

/-- if the last positive Store is "certainly alive" at `tMs` in the specification's sense, its node has not
    expired on the cache clock -/
theorem alive_of_spec (cfgMax : Int) (h1 : -9223372037 < cfgMax) (h2 : cfgMax < 9223372037)
    (ev : Ev) (m : Msg) (tMs : Nat) (hu : ev.up = .reply m) (hshort : ev.t ≤ histLimitMs)
    (hlive : tMs + tolMs + 1000 < ev.t + Nat.min (specLifetime m cfgMax) tenYears * 1000) :
    histClock (tMs * msNs) < expOf cfgMax ev := by
  have hl := le_lifeSec m cfgMax
  rw [expOf_reply cfgMax h1 h2 ev m hu hshort]
  generalize Nat.min (specLifetime m cfgMax) tenYears = s at *
  unfold histClock msNs tolMs at *
  omega

/-! ### provenance invariant -/

/-- where a node comes from: a storing event among the first `n`, of the same key, at that event's time, with
    otter's expiration computed from that time; an error response was stored only when the key's positive entry
    was not "certainly alive" -/
structure Prov (cfgMax : Int) (evs : List Ev) (n k : Nat) (e : Entry) : Prop where
  past : e.id ≤ n
  src : ∃ ev, evMsg evs e.id = some (ev, e.msg) ∧ ev.key = k ∧ e.stored = ev.t * msNs ∧
    (e.msg.rcode ≠ 0 → livePositiveBefore cfgMax evs (e.id - 1) k ev.t = false)

structure HInv (cfgMax : Int) (evs : List Ev) (n : Nat) (mem : Mem) : Prop where
  inv : Inv (histCfg cfgMax) histOff mem
  prov : ∀ k e, mem k = some e → Prov cfgMax evs n k e
  /-- the node of the last positive Store of a key is in place, unless an event has already seen it expired -/
  last : ∀ k ev, lastPos (evs.take n) k = some ev →
    (∃ e, mem k = some e ∧ e.expTick = expOf cfgMax ev) ∨
    (∃ x ∈ evs.take n, expOf cfgMax ev ≤ histClock (x.t * msNs))

theorem hinv_same (cfgMax : Int) (evs : List Ev) (n : Nat) (mem : Mem) (ev : Ev) (h : HInv cfgMax evs n mem)
    (hn : evs[n]? = some ev) (hp : ∀ k, posStore ev k = false) : HInv cfgMax evs (n + 1) mem := by
  refine ⟨h.inv, ?_, ?_⟩
  · intro k e he
    have := h.prov k e he
    exact ⟨Nat.le_succ_of_le this.past, this.src⟩
  · intro k ev0 hl
    rw [take_succ_snoc evs n ev hn, lastPos_snoc, hp k] at hl
    simp only [Bool.false_eq_true, if_false] at hl
    rcases h.last k ev0 hl with d1 | ⟨x, hx, hle⟩
    · left; exact d1
    · right; exact ⟨x, by rw [take_succ_snoc evs n ev hn]; simp [hx], hle⟩

/-- a prompt Store either changes nothing — the response is truncated, or an error response meets a live node —
    or puts its node in place, and then whatever node the key had was expired unless the response is positive -/
theorem cacheStore_cases (clock : Nat → Nat) (cfg : Cfg) (mem : Mem) (k : Nat) (m : Msg) (now id : Nat)
    (hb : cfg.hasBackend = true) :
    (cacheStore clock cfg mem k (some m) now 0 id = mem ∧ (m.tc = true ∨ m.rcode ≠ 0)) ∨
    (m.tc = false ∧ (∀ e0, mem k = some e0 → m.rcode = 0 ∨ e0.expTick ≤ clock now) ∧
      ∃ e', cacheStore clock cfg mem k (some m) now 0 id = mem.set k e' ∧ e'.msg = m ∧ e'.id = id ∧ e'.stored = now ∧
        e'.expTick = (clock now + otterTtlTicks (storeTtl m cfg.maximumTtl)) % u32) := by
  have hu : ∀ (L : Int), (now : Int) + L - (now : Int) = L := by intro L; omega
  cases htc : m.tc with
  | true => left; exact ⟨by simp [cacheStore, store, hb, htc], .inl rfl⟩
  | false =>
    by_cases hz : m.rcode = 0
    · right
      refine ⟨rfl, fun _ _ => .inl hz, ?_⟩
      simp only [cacheStore, store, hb, htc, hz, otterSet]
      simp only [Bool.not_true, Bool.false_eq_true, if_false, bne_self_eq_false, hu, Nat.add_zero]
      exact ⟨_, rfl, rfl, rfl, rfl, rfl⟩
    · have hne : (m.rcode != 0) = true := by simpa using hz
      cases hm : mem k with
      | none =>
        right
        refine ⟨rfl, nofun, ?_⟩
        simp only [cacheStore, store, hb, htc, otterSet, hm, hne]
        simp only [Bool.not_true, Bool.false_eq_true, if_false, if_true, hu, Nat.add_zero]
        exact ⟨_, rfl, rfl, rfl, rfl, rfl⟩
      | some e0 =>
        by_cases hx : e0.expTick ≤ clock now
        · right
          refine ⟨rfl, fun e1 he1 => by cases he1; exact .inr hx, ?_⟩
          simp only [cacheStore, store, hb, htc, otterSet, hm, hne]
          simp only [Bool.not_true, Bool.false_eq_true, if_false, if_true, hu, Nat.add_zero, hx]
          exact ⟨_, rfl, rfl, rfl, rfl, rfl⟩
        · left
          exact ⟨cacheStore_neg_present clock cfg mem k m now 0 id e0 hz hm (Nat.lt_of_not_le hx), .inr hz⟩

theorem histClock_mono (a b : Nat) (h : a ≤ b) : histClock (a * msNs) ≤ histClock (b * msNs) := by
  unfold histClock msNs
  apply Nat.div_le_div_right
  omega

/-- The event `ev` stores `m` (a Store event's own response, or a client query's upstream reply: `hsrc`): the
    invariant moves on by one event. `hp`: if `ev` is a positive Store, `m` is its response. `hq`: a positive `m`
    meets a node of the key only if `ev` is a positive Store (which replaces it) or the node is expired (a query
    stores only after a miss). -/
theorem hinv_store (cfgMax : Int) (h1 : -9223372037 < cfgMax) (h2 : cfgMax < 9223372037)
    (evs : List Ev) (hsorted : sortedEvs evs = true) (hshort : shortEvs evs = true)
    (n : Nat) (mem : Mem) (ev : Ev) (m : Msg) (h : HInv cfgMax evs n mem)
    (hn : evs[n]? = some ev) (hsrc : evMsg evs (n + 1) = some (ev, m))
    (hp : ∀ k, posStore ev k = true → ev.up = .reply m)
    (hq : ∀ e0, mem ev.key = some e0 → m.rcode = 0 → m.tc = false →
      (posStore ev ev.key = true ∨ e0.expTick ≤ histClock (ev.t * msNs))) :
    HInv cfgMax evs (n + 1)
      (cacheStore histClock (histCfg cfgMax) mem ev.key (some m) (ev.t * msNs) 0 (n + 1)) := by
  have hcap : 0 < (histCfg cfgMax).maximumTtl := initMaxTtl_pos cfgMax h1 h2
  have hinv' := cacheStore_inv histClock histOff (histCfg cfgMax) mem ev.key (some m) (ev.t * msNs) 0 (n + 1)
    clockOK_hist hcap (by decide) h.inv
  have hposfacts : ∀ k, posStore ev k = true → k = ev.key ∧ m.rcode = 0 ∧ m.tc = false := by
    intro k hk
    obtain ⟨-, hkey, m', hu, hr, ht⟩ := posStore_up ev k hk
    have := hp k hk
    rw [hu] at this
    cases this
    exact ⟨hkey.symm, hr, ht⟩
  rcases cacheStore_cases histClock (histCfg cfgMax) mem ev.key m (ev.t * msNs) (n + 1) rfl with
    ⟨he, hwhy⟩ | ⟨htc', hexpd, e', hset, hmsg, hid, hst, hexp⟩
  · -- nothing changes, and the event is no positive Store
    rw [he]
    refine hinv_same cfgMax evs n mem ev h hn fun k => ?_
    cases hk : posStore ev k with
    | false => rfl
    | true =>
      obtain ⟨-, hr, ht⟩ := hposfacts k hk
      rcases hwhy with hw | hw
      · rw [ht] at hw; cases hw
      · exact absurd hr hw
  · -- whatever node the key had is expired now, unless this is a positive Store
    have hold : ∀ e0, mem ev.key = some e0 → posStore ev ev.key = true ∨ e0.expTick ≤ histClock (ev.t * msNs) :=
      fun e0 he0 => (hexpd e0 he0).elim (fun hz => hq e0 he0 hz htc') .inr
    have hevmem : ev ∈ evs.take (n + 1) := by rw [take_succ_snoc evs n ev hn]; simp
    rw [hset] at hinv' ⊢
    refine ⟨hinv', ?_, ?_⟩
    · intro k e he
      by_cases hk : k = ev.key
      · rw [hk, Mem.set_self, Option.some.injEq] at he
        subst he
        refine ⟨by omega, ⟨ev, by rw [hid, hmsg]; exact hsrc, hk.symm, hst, ?_⟩⟩
        intro hneg
        rw [hid, hmsg] at *
        simp only [Nat.add_sub_cancel]
        unfold livePositiveBefore
        cases hl : lastPos (evs.take n) k with
        | none => rfl
        | some ev0 =>
          simp only
          obtain ⟨hmem0, hps0⟩ := lastPos_some _ _ _ hl
          obtain ⟨-, -, m0, hu0, -, -⟩ := posStore_up ev0 k hps0
          rw [hu0]
          simp only [decide_eq_false_iff_not]
          intro hlive
          obtain ⟨i0, hi0, hget0⟩ := mem_take_get evs n ev0 hmem0
          have hshort0 : ev0.t ≤ histLimitMs := by
            have := List.all_eq_true.1 hshort ev0 (List.mem_of_getElem? hget0)
            simpa using this
          have halive := alive_of_spec cfgMax h1 h2 ev0 m0 ev.t hu0 hshort0 hlive
          -- but the node was expired (or absent) when this error response went in
          have hgone : expOf cfgMax ev0 ≤ histClock (ev.t * msNs) := by
            rcases h.last k ev0 hl with ⟨e0, he0, hx0⟩ | ⟨x, hx, hle⟩
            · rw [hk] at he0
              rcases hold e0 he0 with hpp | hxx
              · exact absurd (hposfacts _ hpp).2.1 hneg
              · omega
            · obtain ⟨ix, hix, hgetx⟩ := mem_take_get evs n x hx
              have := sorted_get evs hsorted ix n x ev (by omega) hgetx hn
              exact Nat.le_trans hle (histClock_mono _ _ this)
          omega
      · rw [Mem.set_ne _ _ _ _ hk] at he
        have := h.prov k e he
        exact ⟨Nat.le_succ_of_le this.past, this.src⟩
    · intro k ev0 hl
      rw [take_succ_snoc evs n ev hn, lastPos_snoc] at hl
      by_cases hps : posStore ev k = true
      · simp only [hps, if_true, Option.some.injEq] at hl
        subst hl
        obtain ⟨hkk, -, -⟩ := hposfacts k hps
        left
        refine ⟨e', by rw [hkk, Mem.set_self], ?_⟩
        rw [hexp]
        unfold expOf
        rw [hp k hps]
        rfl
      · simp only [hps] at hl
        rcases h.last k ev0 hl with ⟨e0, he0, hx0⟩ | ⟨x, hx, hle⟩
        · by_cases hkk : k = ev.key
          · right
            refine ⟨ev, hevmem, ?_⟩
            rw [hkk] at he0
            rcases hold e0 he0 with hpp | hxx
            · rw [← hkk] at hpp; exact absurd hpp hps
            · omega
          · left
            exact ⟨e0, by rw [Mem.set_ne _ _ _ _ hkk, he0], hx0⟩
        · right; exact ⟨x, by rw [take_succ_snoc evs n ev hn]; simp [hx], hle⟩

/-! ### the checks of `specHit` on a hit of the model -/

theorem evMsg_some (evs : List Ev) (j : Nat) (ev : Ev) (m : Msg) (h : evMsg evs j = some (ev, m)) :
    j ≠ 0 ∧ evs[j - 1]? = some ev := by
  unfold evMsg at h
  by_cases hj : j = 0
  · simp [hj] at h
  · simp only [hj, if_false] at h
    cases he : evs[j - 1]? with
    | none => simp [he] at h
    | some e =>
      simp only [he] at h
      split at h
      · simp only [Option.some.injEq, Prod.mk.injEq] at h; exact ⟨hj, by rw [h.1]⟩
      · simp only [Option.some.injEq, Prod.mk.injEq] at h; exact ⟨hj, by rw [h.1]⟩
      · cases h

theorem mem_popOPT (l : List RR) : ∀ x ∈ popOPT l, x ∈ l := by
  induction l with
  | nil => intro x hx; simp [popOPT] at hx
  | cons rr rest ih =>
    intro x hx
    unfold popOPT at hx
    split at hx
    · cases hx with
      | head => simp
      | tail _ h => exact List.mem_cons_of_mem _ (ih x h)
    · split at hx
      · cases hl : rest.getLast? with
        | none => rw [hl] at hx; simp at hx
        | some l =>
          rw [hl] at hx
          simp only at hx
          cases hx with
          | head => exact List.mem_cons_of_mem _ (List.mem_of_getLast? hl)
          | tail _ h => exact List.mem_cons_of_mem _ (List.dropLast_subset _ h)
      · exact hx

/-- the order-insensitive check accepts any sub-collection of the aged records -/
theorem specServedAnyRRs_sub (d : UInt32) (el : Nat) (hel : el ≤ d.toNat) (l served : List RR)
    (hsub : ∀ x ∈ served, x ∈ l.map (subRR d)) : specServedAnyRRs el l served = true := by
  unfold specServedAnyRRs
  rw [List.all_eq_true]
  intro x hx
  have hx' : x ∈ served := by
    simp only [realRRs, List.mem_filter] at hx; exact hx.1
  have hreal : x.isOPT = false := by
    simp only [realRRs, List.mem_filter, Bool.not_eq_true'] at hx; exact hx.2
  obtain ⟨o, ho, hox⟩ := List.mem_map.1 (hsub x hx')
  rw [List.any_eq_true]
  have hoopt : o.isOPT = false := by rw [← subRR_isOPT d o, hox]; exact hreal
  have hotyp : o.typ ≠ typeOPT := by
    intro hc; rw [(isOPT_iff o).2 hc] at hoopt; cases hoopt
  refine ⟨o, by simp [realRRs, ho, hoopt], ?_⟩
  simp only [Bool.and_eq_true, beq_iff_eq, decide_eq_true_eq]
  rw [← hox]
  exact ⟨(subRR_real d o hotyp).1.symm, subRR_aged d el hel o hotyp⟩

theorem specServedAny_sub (m : Msg) (d : UInt32) (el : Nat) (hel : el ≤ d.toNat) :
    specServedAny el m (popEDNS0 (subtractTTL m d)) = true := by
  unfold specServedAny popEDNS0 subtractTTL
  simp only [Bool.and_eq_true]
  refine ⟨⟨specServedAnyRRs_sub d el hel _ _ (fun x hx => hx), specServedAnyRRs_sub d el hel _ _ (fun x hx => hx)⟩,
    specServedAnyRRs_sub d el hel _ _ (fun x hx => mem_popOPT _ x hx)⟩

/-- a node stored at `t0` ms that lives `l` s and is served at `t` ms less than a tick after its end -/
theorem hit_arith (t t0 l ex : Nat) (hlife : (ex : Int) = ((t0 * msNs : Nat) : Int) + (l : Nat) * second)
    (hexp : t * msNs < ex + G) : ex - t0 * msNs = l * G ∧ t - t0 < l * 1000 + 1000 := by
  simp only [G, msNs, second] at hlife hexp ⊢
  omega

/-- a hit of the model passes every check of `specHit`, with the entry's own lifetime (a lookup) and without
    (a client query, whose answer has lost its OPT record) -/
theorem specHit_ok (cfgMax : Int) (h1 : -9223372037 < cfgMax) (h2 : cfgMax < 9223372037)
    (evs : List Ev) (hsorted : sortedEvs evs = true) (n : Nat) (mem : Mem) (h : HInv cfgMax evs n mem)
    (ev : Ev) (hn : evs[n]? = some ev) (served : Msg) (e : Entry)
    (hg : cacheGet histClock mem ev.key (ev.t * msNs) = some (served, e)) :
    specHit cfgMax evs (n + 1) ev.key ev.t e.id (some (e.expire - e.stored)) served = true ∧
    specHit cfgMax evs (n + 1) ev.key ev.t e.id none (popEDNS0 served) = true := by
  obtain ⟨hm, hl, hs⟩ := cacheGet_some _ _ _ _ _ _ hg
  have hok := h.inv ev.key e hm
  obtain ⟨hpast, ⟨ev0, hsrc, hkey, hst, hneg⟩⟩ := h.prov ev.key e hm
  obtain ⟨hj0, hev0⟩ := evMsg_some _ _ _ _ hsrc
  have hord : ev0.t ≤ ev.t := sorted_get evs hsorted (e.id - 1) n ev0 ev (by omega) hev0 hn
  -- the node lives for the specification's lifetime from the planned time of its event, and the exact clock
  -- serves it less than one tick longer
  have hlife : (e.expire : Int) = ((ev0.t * msNs : Nat) : Int) + (lifeSec e.msg cfgMax : Nat) * second := by
    rw [← storeTtl_sane e.msg cfgMax h1 h2, ← hst]; exact hok.life
  -- `histClock` is the exact clock `fun t => (t + histOff) / G`: no lag
  have hexp : ev.t * msNs < e.expire + (0 + 1) * G :=
    hit_within histClock histOff _ e (ev.t * msNs) 0 (Nat.le_add_right _ 0) hok hl
  rw [Nat.zero_add, Nat.one_mul] at hexp
  obtain ⟨a1, a2⟩ := hit_arith ev.t ev0.t _ e.expire hlife hexp
  have hlifeOK : specLifeOK e.msg cfgMax (e.expire - e.stored) = true := by
    unfold specLifeOK
    rw [hst, a1, decide_eq_true_eq]
    exact Nat.mul_le_mul_right _ (Nat.min_le_left _ _)
  have hwindow : ev.t - ev0.t < specLifetime e.msg cfgMax * 1000 + 2000 + tolMs := by
    have := lifeSec_le_succ e.msg cfgMax
    have h' : ev.t - ev0.t ≤ specLifetime e.msg cfgMax * 1000 + 2000 := by
      omega
    exact Nat.lt_of_le_of_lt h' (Nat.lt_add_of_pos_right (by decide))
  -- elapsed seconds, no uint32 wrap
  have hdelta : (elapsedDelta (ev.t * msNs - e.stored)).toNat = (ev.t - ev0.t) / 1000 := by
    have := lifeSec_le_tenYears e.msg cfgMax
    unfold elapsedDelta
    rw [UInt32.toNat_ofNat', hst]
    simp only [msNs, tenYears] at this ⊢
    omega
  have hel : (ev.t - ev0.t - tolMs) / 1000 ≤ (elapsedDelta (ev.t * msNs - e.stored)).toNat := by
    rw [hdelta]; exact Nat.div_le_div_right (Nat.sub_le _ _)
  have hdispl : (e.msg.rcode == 0 || !livePositiveBefore cfgMax evs (e.id - 1) ev.key ev0.t) = true := by
    by_cases hz : e.msg.rcode = 0
    · simp [hz]
    · rw [hneg hz]; simp
  have common : ∀ (life : Option Nat) (sv : Msg),
      (match life with | none => true | some l => specLifeOK e.msg cfgMax l) = true →
      (if life.isSome then specServed ((ev.t - ev0.t - tolMs) / 1000) e.msg sv
       else specServedAny ((ev.t - ev0.t - tolMs) / 1000) e.msg sv) = true →
      specHit cfgMax evs (n + 1) ev.key ev.t e.id life sv = true := by
    intro life sv hlf hsv
    unfold specHit
    rw [hsrc]
    simp only [Bool.and_eq_true, decide_eq_true_eq, beq_iff_eq, Bool.not_eq_true']
    exact ⟨⟨⟨⟨⟨⟨⟨by omega, hkey⟩, hord⟩, hok.notTC⟩, hlf⟩, hwindow⟩, hsv⟩, hdispl⟩
  constructor
  · apply common (some (e.expire - e.stored)) served hlifeOK
    simp only [Option.isSome_some, if_true]
    rw [hs]; exact specServed_sub _ _ _ hel
  · apply common none (popEDNS0 served) rfl
    simp only [Option.isSome_none, Bool.false_eq_true, if_false]
    rw [hs]; exact specServedAny_sub _ _ _ hel

/-! ### one event, then a whole history -/

/-- one event: the invariant moves on and the model's observation is accepted -/
theorem step_spec (cfgMax : Int) (h1 : -9223372037 < cfgMax) (h2 : cfgMax < 9223372037)
    (evs : List Ev) (hsorted : sortedEvs evs = true) (hshort : shortEvs evs = true)
    (n : Nat) (mem : Mem) (h : HInv cfgMax evs n mem)
    (ev : Ev) (hn : evs[n]? = some ev) (hkind : ev.kind ≤ 3) :
    HInv cfgMax evs (n + 1) (step histClock (histCfg cfgMax) mem (n + 1) ev.toStep).1 ∧
    specObs cfgMax evs (n + 1) ev (step histClock (histCfg cfgMax) mem (n + 1) ev.toStep).2 = true := by
  have hsame : ∀ (hp : ∀ k, posStore ev k = false), HInv cfgMax evs (n + 1) mem :=
    fun hp => hinv_same cfgMax evs n mem ev h hn hp
  have hnotpos : ev.kind ≠ 0 → ∀ k, posStore ev k = false := by
    intro hk k
    cases hp : posStore ev k with
    | false => rfl
    | true => exact absurd ((posStore_up ev k hp).1) hk
  have hk4 : ev.kind = 0 ∨ ev.kind = 1 ∨ ev.kind = 2 ∨ ev.kind = 3 := by omega
  rcases hk4 with hk | hk | hk | hk
  · -- s: Store
    cases hup : ev.up with
    | err =>
      have hstep : ev.toStep = .store ev.key none (ev.t * msNs) 0 := by simp [Ev.toStep, hk, hup]
      rw [hstep]
      simp only [step, cacheStore_none]
      refine ⟨hsame ?_, by simp [specObs, hk]⟩
      intro k; simp [posStore, hup]
    | reply m =>
      have hstep : ev.toStep = .store ev.key (some m) (ev.t * msNs) 0 := by simp [Ev.toStep, hk, hup]
      rw [hstep]
      simp only [step]
      refine ⟨?_, by simp [specObs, hk]⟩
      apply hinv_store cfgMax h1 h2 evs hsorted hshort n mem ev m h hn
      · simp [evMsg, hn, hk, hup]
      · intro k _; exact hup
      · intro e0 _ hz htc
        left
        simp [posStore, hk, hup, hz, htc]
  · -- n: Store(nil)
    have hstep : ev.toStep = .store ev.key none (ev.t * msNs) 0 := by simp [Ev.toStep, hk]
    rw [hstep]
    simp only [step, cacheStore_none]
    exact ⟨hsame (hnotpos (by omega)), by simp [specObs, hk]⟩
  · -- g: Get
    have hstep : ev.toStep = .get ev.key (ev.t * msNs) := by simp [Ev.toStep, hk]
    rw [hstep]
    cases hg : cacheGet histClock mem ev.key (ev.t * msNs) with
    | none =>
      simp only [step, hg]
      exact ⟨hsame (hnotpos (by omega)), by simp [specObs, hk]⟩
    | some p =>
      obtain ⟨served, e⟩ := p
      simp only [step, hg]
      refine ⟨hsame (hnotpos (by omega)), ?_⟩
      have := (specHit_ok cfgMax h1 h2 evs hsorted n mem h ev hn served e hg).1
      simp [specObs, hk, this]
  · -- q: client query
    have hstep : ev.toStep = .query ev.key ev.up (ev.t * msNs) 0 := by simp [Ev.toStep, hk]
    rw [hstep]
    cases hg : cacheGet histClock mem ev.key (ev.t * msNs) with
    | some p =>
      obtain ⟨served, e⟩ := p
      simp only [step, handleQuery, hg]
      refine ⟨hsame (hnotpos (by omega)), ?_⟩
      have := (specHit_ok cfgMax h1 h2 evs hsorted n mem h ev hn served e hg).2
      simp [specObs, hk, this]
    | none =>
      cases hup : ev.up with
      | err =>
        simp only [step, handleQuery, hg]
        exact ⟨hsame (hnotpos (by omega)), by simp [specObs, hk]⟩
      | reply m =>
        simp only [step, handleQuery, hg]
        refine ⟨?_, by simp [specObs, hk]⟩
        apply hinv_store cfgMax h1 h2 evs hsorted hshort n mem ev (removeEDNS0 m) h hn
        · simp [evMsg, hn, hk, hup]
        · intro k hp
          exact absurd ((posStore_up ev k hp).1) (by omega)
        · intro e0 he0 _ _
          exact .inr (cacheGet_none _ _ _ _ e0 hg he0)

/-- `suf` is what is left of `evs` after `n` events (`suf = evs.drop n`, said position by position) -/
theorem run_spec (cfgMax : Int) (h1 : -9223372037 < cfgMax) (h2 : cfgMax < 9223372037)
    (evs : List Ev) (hsorted : sortedEvs evs = true) (hshort : shortEvs evs = true)
    (hkinds : ∀ e ∈ evs, e.kind ≤ 3) (suf : List Ev) :
    ∀ (n : Nat) (mem : Mem), HInv cfgMax evs n mem → (∀ i, suf[i]? = evs[n + i]?) →
      specHistFrom cfgMax evs (n + 1) suf
        (runFrom histClock (histCfg cfgMax) mem (n + 1) (suf.map Ev.toStep)).2 = true := by
  induction suf with
  | nil => intro n mem _ _; rfl
  | cons ev rest ih =>
    intro n mem h hal
    have hn : evs[n]? = some ev := by have := hal 0; simpa using this.symm
    have hkind := hkinds ev (List.mem_of_getElem? hn)
    obtain ⟨hinv', hobs⟩ := step_spec cfgMax h1 h2 evs hsorted hshort n mem h ev hn hkind
    have hrest := ih (n + 1) _ hinv' (by
      intro i
      have := hal (i + 1)
      simp only [List.getElem?_cons_succ] at this
      rw [this]; congr 1; omega)
    simp only [List.map_cons, runFrom, specHistFrom, Bool.and_eq_true]
    exact ⟨hobs, hrest⟩

theorem hinv_start (cfgMax : Int) (evs : List Ev) : HInv cfgMax evs 0 Mem.empty := by
  refine ⟨inv_empty _ _, ?_, ?_⟩
  · intro k e he; simp [Mem.empty] at he
  · intro k ev hl; simp [lastPos] at hl

end MosVerif.Ttl
