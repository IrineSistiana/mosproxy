/-
  Tie by translation (C01/C02): `Msg.Unpack` as a whole.
  * `header.unpack` translated from msg.go is the 12-octet match that `Wire.unpackMsg` starts with
    (`header_unpack_translated`, `unpackMsg_header_translated`);
  * `unpackResource` (rr.go): the `switch hdr.Type` that picks the per-type decoder (`unpackResource_translated`);
  * the four `for i := 0; i < int(h.<count>); i++` loops of `Msg.Unpack`: each is translated to a step function
    (`Translated.Msg_Unpack_loop<k>_step`) run by `GoSem.loop`; `questionsStep_eq` / `answersStep_eq` are the canonical form of one
    iteration, `<section>Loop_translated` proves (induction on the remaining count, `GoSem.loop_unfold` at every
    step) that the loop IS `Wire.unpackQuestions` / `Wire.unpackResources`;
  * `unpackMsg_translated`: `Wire.unpackMsg msg` = the translation of `Msg.Unpack` on a fresh message.
  Records are carried as values of `Wire.Resource` / `Wire.Question` built by the templates of
  `extract/translate.d/codec.json` ("boxed", see extract/gotolean/bytes_boxed.go).
-/
import MosVerif.Lemmas.TranslatedCodecRecord
namespace MosVerif.Wire
open MosVerif

/-- `header.unpack` -/
theorem header_unpack_translated (msg : Bytes) (off : Nat) :
    Translated.header_unpack msg off =
      (sliceFrom msg off >>= fun hdr =>
        match hdr with
        | i0 :: i1 :: b0 :: b1 :: q0 :: q1 :: a0 :: a1 :: n0 :: n1 :: x0 :: x1 :: _ =>
          .ok (be16 i0 i1, be16 b0 b1, be16 q0 q1, be16 a0 a1, be16 n0 n1, be16 x0 x1, off + 12)
        | _ => .err) := by
  unfold Translated.header_unpack
  rw [goSem_sliceFrom]
  cases sliceFrom msg off with
  | err => rfl
  | panic => rfl
  | ok buf =>
    -- on a header whose octets are named both sides compute; the tail behind the twelfth octet is split once more
    -- only because the bound check `12 ≤ len(hdr)` of the last window evaluates on `[]` and on `_ :: _`, not on a variable
    rcases buf with _|⟨i0,_|⟨i1,_|⟨b0,_|⟨b1,_|⟨q0,_|⟨q1,_|⟨a0,_|⟨a1,_|⟨n0,_|⟨n1,_|⟨x0,_|⟨x1,_|⟨y,r⟩⟩⟩⟩⟩⟩⟩⟩⟩⟩⟩⟩⟩
    all_goals rfl

/-- `Msg.Unpack` starts with the translated `header.unpack` at offset 0 and feeds its six words on. -/
theorem unpackMsg_header_translated (msg : Bytes) :
    unpackMsg msg =
      (Translated.header_unpack msg 0 >>= fun r =>
        (unpackQuestions msg r.2.2.1 r.2.2.2.2.2.2 >>= fun (qs, off) =>
         unpackResources msg r.2.2.2.1 off >>= fun (an, off) =>
         unpackResources msg r.2.2.2.2.1 off >>= fun (ns, off) =>
         unpackResources msg r.2.2.2.2.2.1 off >>= fun (ar, _) =>
         (Res.ok ⟨headerOfBits r.1 r.2.1, qs, an, ns, ar⟩ : Res Msg))) := by
  rw [header_unpack_translated]
  unfold unpackMsg
  cases sliceFrom msg 0 with
  | err => rfl
  | panic => rfl
  | ok buf =>
    rcases buf with _|⟨i0,_|⟨i1,_|⟨b0,_|⟨b1,_|⟨q0,_|⟨q1,_|⟨a0,_|⟨a1,_|⟨n0,_|⟨n1,_|⟨x0,_|⟨x1,r⟩⟩⟩⟩⟩⟩⟩⟩⟩⟩⟩⟩
    all_goals rfl

/-- `unpackResource` (rr.go): `ResourceHdr.unpack`, then the `switch hdr.Type` that picks the per-type decoder
    (`r = NewA()` … `r.unpack(msg, off, hdr)`), the record carrying the header that was just decoded.
    The proof splits on the nine classes of the type code and evaluates BOTH if-chains in each, so the order in
    which the source lists the (disjoint) cases does not matter. -/
theorem unpackResource_translated (msg : Bytes) (off : Nat) :
    unpackResource msg off = Translated.unpackResource msg off := by
  unfold unpackResource
  rw [unpackRHdr_translated]
  unfold Translated.unpackResource
  cases Translated.ResourceHdr_unpack msg off with
  | err => rfl
  | panic => rfl
  | ok r =>
    obtain ⟨n, t, c, ttl, len, o⟩ := r
    simp only [Res.bind_ok', Res.pure_eq]
    -- in each class the model's `unpackRData` is the translated decoder (the lemmas of `TranslatedCodecRecord`), and
    -- with the type code known both if-chains pick that decoder: what is left is compared outcome by outcome
    by_cases h1 : t = typeA
    · subst h1
      rw [unpackRData_A_translated msg o len (List.replicate 4 0) rfl]
      cases Translated.A_unpack msg o len (List.replicate 4 0) <;> simp [typeA]
    by_cases h2 : t = typeAAAA
    · subst h2
      rw [unpackRData_AAAA_translated msg o len (List.replicate 16 0) rfl]
      cases Translated.AAAA_unpack msg o len (List.replicate 16 0) <;> simp [typeAAAA]
    by_cases h3 : t = typeMX
    · subst h3
      rw [unpackRData_MX_translated msg o len]
      cases Translated.MX_unpack msg o len <;> simp [typeMX]
    by_cases h4 : t = typeCNAME ∨ t = typeNS ∨ t = typePTR
    · rw [unpackRData_NAME_translated msg o len t h4]
      rcases h4 with h | h | h
      all_goals subst h
      all_goals cases Translated.NAMEResource_unpack msg o len <;> simp [typeCNAME, typeNS, typePTR]
    by_cases h5 : t = typeSOA
    · subst h5
      rw [unpackRData_SOA_translated msg o len]
      cases Translated.SOA_unpack msg o len <;> simp [typeSOA]
    by_cases h6 : t = typeSRV
    · subst h6
      rw [unpackRData_SRV_translated msg o len]
      cases Translated.SRV_unpack msg o len <;> simp [typeSRV]
    · rw [unpackRData_Raw_translated msg o len t h1 h2 h3 (fun h => h4 (.inl h)) (fun h => h4 (.inr (.inl h)))
        (fun h => h4 (.inr (.inr h))) h5 h6]
      simp only [typeA, typeAAAA, typeMX, typeCNAME, typeNS, typePTR, typeSOA, typeSRV] at h1 h2 h3 h4 h5 h6
      have h4' : ¬ t = 5 ∧ ¬ t = 2 ∧ ¬ t = 12 := by omega
      cases Translated.RawResource_unpack msg o len <;> simp [h1, h2, h3, h4'.1, h4'.2.1, h4'.2.2, h5, h6]

/-- canonical form of one iteration of the questions loop (`for i := 0; i < int(h.questions); i++`) -/
theorem questionsStep_eq (msg : Bytes) (cnt off i : Nat) (acc : List Question) :
    Translated.Msg_Unpack_loop1_step msg cnt (off, acc, i) =
      if i < cnt then
        unpackQuestion msg off >>= fun (q, o) => .ok (.inl (o, acc ++ [q], i + 1))
      else .ok (.inr (off, acc, i)) := by
  unfold Translated.Msg_Unpack_loop1_step
  rw [unpackQuestion_translated]
  by_cases h : i < cnt
  · simp only [h, decide_true, Bool.not_true, Bool.false_eq_true, if_false, if_true]
    cases Translated.unpackQuestion msg off <;> simp
  · simp [h]

/-- canonical form of one iteration of a records loop; the three loops (answers, authorities, additionals) are
    the same function of (msg, count, state): `Msg_Unpack_loop3_step` and `Msg_Unpack_loop4_step` unfold to the very
    term of `Msg_Unpack_loop2_step`, and `authoritiesLoop_translated` / `additionalsLoop_translated` below use this lemma
    for them by that definitional equality (if the Go loops ever differ, those two fail to elaborate) -/
theorem answersStep_eq (msg : Bytes) (cnt off i : Nat) (acc : List Resource) :
    Translated.Msg_Unpack_loop2_step msg cnt (off, acc, i) =
      if i < cnt then
        unpackResource msg off >>= fun (r, o) => .ok (.inl (o, acc ++ [r], i + 1))
      else .ok (.inr (off, acc, i)) := by
  unfold Translated.Msg_Unpack_loop2_step
  rw [unpackResource_translated]
  by_cases h : i < cnt
  · simp only [h, decide_true, Bool.not_true, Bool.false_eq_true, if_false, if_true]
    cases Translated.unpackResource msg off <;> simp
  · simp [h]

/-- A count-driven loop whose iteration is `one`: `k` more iterations from counter `i` (`i + k = cnt`) are the
    recursive section decoder `sect k`, the decoded items appended to the accumulator. -/
theorem countLoop {α : Type} (step : Nat × List α × Nat → Res ((Nat × List α × Nat) ⊕ (Nat × List α × Nat)))
    (one : Nat → Res (α × Nat)) (sect : Nat → Nat → Res (List α × Nat)) (cnt : Nat)
    (hstep : ∀ off acc i, step (off, acc, i) =
      if i < cnt then one off >>= fun (x, o) => .ok (.inl (o, acc ++ [x], i + 1)) else .ok (.inr (off, acc, i)))
    (h0 : ∀ off, sect 0 off = .ok ([], off))
    (hs : ∀ k off, sect (k + 1) off = one off >>= fun (x, o) => sect k o >>= fun (xs, o') => .ok (x :: xs, o')) :
    ∀ (k i off : Nat) (acc : List α), i + k = cnt →
      GoSem.loop step (off, acc, i) = sect k off >>= fun (xs, o) => .ok (o, acc ++ xs, cnt) := by
  intro k
  induction k with
  | zero =>
    intro i off acc hi
    rw [GoSem.loop_unfold, hstep, h0]
    have : ¬ i < cnt := by omega
    simp [this]; omega
  | succ k ih =>
    intro i off acc hi
    rw [GoSem.loop_unfold, hstep, hs]
    have : i < cnt := by omega
    simp only [this, if_true]
    cases one off with
    | err => rfl
    | panic => rfl
    | ok r =>
      obtain ⟨x, o⟩ := r
      simp only [Res.bind_ok']
      rw [ih (i + 1) o (acc ++ [x]) (by omega)]
      cases sect k o with
      | err => rfl
      | panic => rfl
      | ok r2 => obtain ⟨xs, o'⟩ := r2; simp

/-- the questions loop of `Msg.Unpack` IS `Wire.unpackQuestions` -/
theorem questionsLoop_translated (msg : Bytes) (cnt off : Nat) (acc : List Question) :
    GoSem.loop (Translated.Msg_Unpack_loop1_step msg cnt) (off, acc, 0) =
      unpackQuestions msg cnt off >>= fun (qs, o) => .ok (o, acc ++ qs, cnt) :=
  countLoop _ (unpackQuestion msg) (unpackQuestions msg) cnt (fun off acc i => questionsStep_eq msg cnt off i acc)
    (fun _ => rfl) (fun _ _ => rfl) cnt 0 off acc (by omega)

/-- the answers / authorities / additionals loops of `Msg.Unpack` ARE `Wire.unpackResources` -/
theorem answersLoop_translated (msg : Bytes) (cnt off : Nat) (acc : List Resource) :
    GoSem.loop (Translated.Msg_Unpack_loop2_step msg cnt) (off, acc, 0) =
      unpackResources msg cnt off >>= fun (rs, o) => .ok (o, acc ++ rs, cnt) :=
  countLoop _ (unpackResource msg) (unpackResources msg) cnt (fun off acc i => answersStep_eq msg cnt off i acc)
    (fun _ => rfl) (fun _ _ => rfl) cnt 0 off acc (by omega)

theorem authoritiesLoop_translated (msg : Bytes) (cnt off : Nat) (acc : List Resource) :
    GoSem.loop (Translated.Msg_Unpack_loop3_step msg cnt) (off, acc, 0) =
      unpackResources msg cnt off >>= fun (rs, o) => .ok (o, acc ++ rs, cnt) :=
  countLoop _ (unpackResource msg) (unpackResources msg) cnt (fun off acc i => answersStep_eq msg cnt off i acc)
    (fun _ => rfl) (fun _ _ => rfl) cnt 0 off acc (by omega)

theorem additionalsLoop_translated (msg : Bytes) (cnt off : Nat) (acc : List Resource) :
    GoSem.loop (Translated.Msg_Unpack_loop4_step msg cnt) (off, acc, 0) =
      unpackResources msg cnt off >>= fun (rs, o) => .ok (o, acc ++ rs, cnt) :=
  countLoop _ (unpackResource msg) (unpackResources msg) cnt (fun off acc i => answersStep_eq msg cnt off i acc)
    (fun _ => rfl) (fun _ _ => rfl) cnt 0 off acc (by omega)

/-- the message built from the fifteen components of the translated `Msg.Unpack` (the eleven `Header` fields in
    the order of the Go struct, then the four sections) -/
def msgOfTranslated
    (r : Nat × Bool × Nat × Bool × Bool × Bool × Bool × Bool × Bool × Bool × Nat × List Question × List Resource × List Resource × List Resource) : Msg :=
  match r with
  | (id, resp, op, aa, tc, rd, ra, z, ad, cd, rc, qs, an, ns, ar) =>
    ⟨{ id := id, response := resp, opcode := op, authoritative := aa, truncated := tc, rd := rd, ra := ra, ad := ad,
       cd := cd, rcode := rc, z := z }, qs, an, ns, ar⟩

/-- **`Wire.unpackMsg` IS the translation of `Msg.Unpack`** (msg.go) on a fresh message (`NewMsg()`: the four
    sections empty), for every byte string: header, the four count-driven loops, the type dispatch of
    `unpackResource`, every RDATA decoder, the name loop and the primitives below them. -/
theorem unpackMsg_translated (msg : Bytes) :
    unpackMsg msg = Translated.Msg_Unpack msg [] [] [] [] >>= fun r => .ok (msgOfTranslated r) := by
  rw [unpackMsg_header_translated]
  unfold Translated.Msg_Unpack
  simp only [Res.bind_assoc', Res.bind_ok', Res.pure_eq]
  refine Res.bind_congr' fun r _ => ?_
  obtain ⟨id, bits, q, a, n, x, off⟩ := r
  simp only [headerOfBits_translated, Res.bind_ok', questionsLoop_translated, answersLoop_translated,
    authoritiesLoop_translated, additionalsLoop_translated, Res.bind_assoc', List.nil_append]
  refine Res.bind_congr' fun r1 _ => ?_
  obtain ⟨qs, o1⟩ := r1
  simp only []
  refine Res.bind_congr' fun r2 _ => ?_
  obtain ⟨an, o2⟩ := r2
  simp only []
  refine Res.bind_congr' fun r3 _ => ?_
  obtain ⟨ns, o3⟩ := r3
  simp only []
  refine Res.bind_congr' fun r4 _ => ?_
  obtain ⟨ar, o4⟩ := r4
  simp [msgOfTranslated, headerOfBits]

end MosVerif.Wire
