/-
  The netlist model (C07): `Build` and `Lookup` are right for the ranges added.

  `cmp` is the order of the 128-bit values (`cmp_eq`), so everything is said about `val`.  Ranges that
  are valid (`start ≤ end`) and pass `Build`'s test on neighbours are pairwise `Sep` — each ends before
  the next starts — by transitivity through `Valid`; `Sep` is what the binary search of `Lookup` needs
  (`lookup_of_sep`).  The specification sees only `Disj`, pairwise disjointness of the ranges as
  added, which for a list sorted by start is the same thing (`overlapAdj_iff`).
-/
import MosVerif.Model.Netlist
namespace MosVerif.Netlist

/-! ### `cmp` -/

/-- `cmp` is the three-way comparison of the 128-bit values -/
theorem cmp_eq (a b : Ipv6) : a.cmp b = if a.val < b.val then -1 else if b.val < a.val then 1 else 0 := by
  have := a.l.toNat_lt
  have := b.l.toNat_lt
  unfold Ipv6.cmp Ipv6.val
  simp only [UInt64.lt_iff_toNat_lt, gt_iff_lt]
  split
  · rw [if_pos (by omega)]
  · split
    · rw [if_neg (by omega), if_pos (by omega)]
    · split
      · rw [if_pos (by omega)]
      · split
        · rw [if_neg (by omega), if_pos (by omega)]
        · rw [if_neg (by omega), if_neg (by omega)]

theorem cmp_lt_iff (a b : Ipv6) : a.cmp b < 0 ↔ a.val < b.val := by
  rw [cmp_eq]
  split
  · omega
  · split
    · omega
    · omega

theorem cmp_le_iff (a b : Ipv6) : a.cmp b ≤ 0 ↔ a.val ≤ b.val := by
  rw [cmp_eq]
  split
  · omega
  · split
    · omega
    · omega

theorem cmp_gt_iff (a b : Ipv6) : a.cmp b > 0 ↔ b.val < a.val := by
  rw [gt_iff_lt, ← Int.not_le, cmp_le_iff, Nat.not_le]

theorem cmp_ge_iff (a b : Ipv6) : a.cmp b ≥ 0 ↔ b.val ≤ a.val := by
  rw [ge_iff_le, ← Int.not_lt, cmp_lt_iff, Nat.not_lt]

theorem val_inj {a b : Ipv6} : a.val = b.val ↔ a = b := by
  constructor
  · intro h
    have := a.l.toNat_lt
    have := b.l.toNat_lt
    unfold Ipv6.val at h
    cases a
    cases b
    simp only [Ipv6.mk.injEq]
    simp only at *
    constructor
    · exact UInt64.toNat_inj.mp (by omega)
    · exact UInt64.toNat_inj.mp (by omega)
  · intro h
    rw [h]

/-! ### `sort.Search` -/

theorem mid_bounds {i j : Nat} (h : i < j) : i ≤ (i + j) / 2 ∧ (i + j) / 2 < j := by omega

/-- The loop of `sort.Search` on a predicate that never panics on `[0,n)` and is monotone there
    returns the first index at which it holds (or `n`). -/
theorem searchLoop_spec (f : Nat → Option Bool) (p : Nat → Bool) (n : Nat)
    (hf : ∀ k, k < n → f k = some (p k))
    (mono : ∀ k k', k ≤ k' → k' < n → p k = true → p k' = true) (i j : Nat) :
    i ≤ j → j ≤ n → (∀ k, k < i → p k = false) → (∀ k, j ≤ k → k < n → p k = true) →
      ∃ r, searchLoop f i j = some r ∧ r ≤ n ∧ (∀ k, k < r → p k = false) ∧
        (∀ k, r ≤ k → k < n → p k = true) := by
  fun_induction searchLoop f i j with
  | case1 i j hlt h hnone =>
    intro _ hjn _ _
    rw [hf h (Nat.lt_of_lt_of_le (mid_bounds hlt).2 hjn)] at hnone
    cases hnone
  | case2 i j hlt h hfalse ih =>
    intro _ hjn hlo hhi
    have hn : h < n := Nat.lt_of_lt_of_le (mid_bounds hlt).2 hjn
    rw [hf h hn, Option.some.injEq] at hfalse
    refine ih (mid_bounds hlt).2 hjn (fun k hk => ?_) hhi
    cases hpk : p k with
    | false => rfl
    | true => exact absurd ((mono k h (Nat.le_of_lt_succ hk) hn hpk).symm.trans hfalse) Bool.noConfusion
  | case3 i j hlt h htrue ih =>
    intro _ hjn hlo hhi
    have hn : h < n := Nat.lt_of_lt_of_le (mid_bounds hlt).2 hjn
    rw [hf h hn, Option.some.injEq] at htrue
    exact ih (mid_bounds hlt).1 (Nat.le_of_lt hn) hlo fun k hk hkn => mono h k hk hkn htrue
  | case4 i j hge =>
    intro hij hjn hlo hhi
    exact ⟨i, rfl, Nat.le_trans hij hjn, hlo, fun k hk hkn => hhi k (Nat.le_trans (Nat.le_of_not_lt hge) hk) hkn⟩

/-! ### `Build` -/

variable {V : Type}

/-- `start ≤ end` (what `Add` guarantees) -/
def Range.Valid (r : Range V) : Prop := r.start.val ≤ r.stop.val
/-- `r` lies strictly before `s` -/
def Sep (r s : Range V) : Prop := r.stop.val < s.start.val
/-- the two ranges have no address in common -/
def Disj (r s : Range V) : Prop := r.stop.val < s.start.val ∨ s.stop.val < r.start.val
def StartLe (r s : Range V) : Prop := r.start.val ≤ s.start.val

theorem Disj.symm {r s : Range V} (h : Disj r s) : Disj s r := Or.symm h

theorem sep_of_overlapAdj_false : ∀ (l : List (Range V)), (∀ r ∈ l, r.Valid) →
    overlapAdj l = false → List.Pairwise Sep l
  | [], _, _ => List.Pairwise.nil
  | [_], _, _ => by simp
  | a :: b :: rest, hv, h => by
    simp only [overlapAdj, Bool.or_eq_false_iff, decide_eq_false_iff_not] at h
    obtain ⟨hab, hrest⟩ := h
    have hab' : a.stop.val < b.start.val := by
      have : ¬ b.start.val ≤ a.stop.val := fun h => hab ((cmp_ge_iff a.stop b.start).mpr h)
      omega
    have ih := sep_of_overlapAdj_false (b :: rest) (fun r hr => hv r (List.mem_cons_of_mem _ hr)) hrest
    refine List.pairwise_cons.mpr ⟨?_, ih⟩
    intro s hs
    rcases List.mem_cons.mp hs with rfl | hs
    · exact hab'
    · have hbs : Sep b s := (List.pairwise_cons.mp ih).1 s hs
      have hvb : b.Valid := hv b (by simp)
      unfold Sep Range.Valid at *
      omega

theorem overlapAdj_false_of_sep : ∀ (l : List (Range V)), List.Pairwise Sep l → overlapAdj l = false
  | [], _ => rfl
  | [_], _ => rfl
  | a :: b :: rest, h => by
    have hab : Sep a b := (List.pairwise_cons.mp h).1 b (by simp)
    have ih := overlapAdj_false_of_sep (b :: rest) (List.pairwise_cons.mp h).2
    simp only [overlapAdj, Bool.or_eq_false_iff, decide_eq_false_iff_not, ih, and_true]
    intro hge
    have := (cmp_ge_iff a.stop b.start).mp hge
    unfold Sep at hab
    omega

theorem sep_of_disj_sorted {l : List (Range V)} (hv : ∀ r ∈ l, r.Valid)
    (hs : List.Pairwise StartLe l) (hd : List.Pairwise Disj l) : List.Pairwise Sep l := by
  induction l with
  | nil => exact List.Pairwise.nil
  | cons a rest ih =>
    obtain ⟨hs1, hs2⟩ := List.pairwise_cons.mp hs
    obtain ⟨hd1, hd2⟩ := List.pairwise_cons.mp hd
    refine List.pairwise_cons.mpr ⟨?_, ih (fun r hr => hv r (List.mem_cons_of_mem _ hr)) hs2 hd2⟩
    intro s hsm
    have h1 := hs1 s hsm
    have h2 := hd1 s hsm
    have h3 : s.Valid := hv s (List.mem_cons_of_mem _ hsm)
    unfold Sep StartLe Disj Range.Valid at *
    omega

theorem disj_of_sep {l : List (Range V)} (h : List.Pairwise Sep l) : List.Pairwise Disj l :=
  h.imp (fun h => Or.inl h)

theorem startLe_trans (a b c : Range V) : startLe a b = true → startLe b c = true → startLe a c = true := by
  simp only [startLe, decide_eq_true_eq, cmp_le_iff]; omega

theorem startLe_total (a b : Range V) : (startLe a b || startLe b a) = true := by
  simp only [startLe, Bool.or_eq_true, decide_eq_true_eq, cmp_le_iff]; omega

/-- what a successful `Build` returns: a permutation of the added ranges, sorted by start,
    that passed the adjacent overlap test -/
structure IsBuildOf (l b : List (Range V)) : Prop where
  perm : l.Perm b
  sorted : List.Pairwise StartLe l
  noOverlap : overlapAdj l = false

theorem mergeSort_sorted (b : List (Range V)) : List.Pairwise StartLe (b.mergeSort startLe) := by
  have := List.pairwise_mergeSort (le := startLe) startLe_trans startLe_total b
  exact this.imp (fun h => by simpa [startLe, cmp_le_iff, StartLe] using h)

theorem build_spec {b l : List (Range V)} (h : build b = some l) : IsBuildOf l b := by
  unfold build at h
  by_cases ho : overlapAdj (b.mergeSort startLe) = true
  · simp [ho] at h
  · simp only [ho, Bool.false_eq_true, if_false, Option.some.injEq] at h
    subst h
    exact ⟨List.mergeSort_perm _ _, mergeSort_sorted b, by simpa using ho⟩

theorem valid_of_perm {l b : List (Range V)} (hp : l.Perm b) (hv : ∀ r ∈ b, r.Valid) :
    ∀ r ∈ l, r.Valid := fun r hr => hv r (hp.mem_iff.mp hr)

/-- for sorted valid ranges the adjacent test is exactly pairwise disjointness of the *input* -/
theorem overlapAdj_iff {l b : List (Range V)} (hp : l.Perm b) (hs : List.Pairwise StartLe l)
    (hv : ∀ r ∈ b, r.Valid) : overlapAdj l = false ↔ List.Pairwise Disj b := by
  have hvl := valid_of_perm hp hv
  constructor
  · intro h
    exact (hp.pairwise_iff Disj.symm).mp (disj_of_sep (sep_of_overlapAdj_false l hvl h))
  · intro h
    exact overlapAdj_false_of_sep l (sep_of_disj_sorted hvl hs ((hp.pairwise_iff Disj.symm).mpr h))

/-- `Build` fails exactly when two of the added ranges intersect -/
theorem build_eq_none_iff {b : List (Range V)} (hv : ∀ r ∈ b, r.Valid) :
    build b = none ↔ ¬ List.Pairwise Disj b := by
  rw [← overlapAdj_iff (List.mergeSort_perm b startLe) (mergeSort_sorted b) hv]
  unfold build
  cases h : overlapAdj (b.mergeSort startLe) <;> simp [h]

/-- a successful `Build` returns valid, strictly separated ranges -/
theorem build_sep {b l : List (Range V)} (hv : ∀ r ∈ b, r.Valid) (h : build b = some l) :
    List.Pairwise Sep l ∧ (∀ r ∈ l, r.Valid) ∧ l.Perm b := by
  have hb := build_spec h
  have hvl := valid_of_perm hb.perm hv
  exact ⟨sep_of_overlapAdj_false l hvl hb.noOverlap, hvl, hb.perm⟩

/-- … hence the ranges as added are pairwise disjoint -/
theorem build_disj {b l : List (Range V)} (hv : ∀ r ∈ b, r.Valid) (h : build b = some l) :
    List.Pairwise Disj b :=
  have ⟨hsep, _, hperm⟩ := build_sep hv h
  (hperm.pairwise_iff Disj.symm).mp (disj_of_sep hsep)

/-! ### `Lookup` -/

theorem contains_eq_some {r : Range V} {ip : Ipv6} {v : V} :
    r.contains ip = some v ↔ r.start.val ≤ ip.val ∧ ip.val ≤ r.stop.val ∧ r.v = v := by
  unfold Range.contains
  simp only [cmp_le_iff]
  by_cases h : r.start.val ≤ ip.val ∧ ip.val ≤ r.stop.val
  · simp [h]
  · simp only [h, if_false]
    constructor
    · intro h'; cases h'
    · intro h'; exact absurd ⟨h'.1, h'.2.1⟩ h

/-- On a list of valid, strictly separated ranges (what `Build` returns) `Lookup` never panics
    and finds exactly the range containing the address, if any. -/
theorem lookup_of_sep {l : List (Range V)} (hv : ∀ r ∈ l, r.Valid) (hsep : List.Pairwise Sep l)
    (ip : Ipv6) :
    ∃ res, lookup l ip = some res ∧
      ∀ v, res = some v ↔ ∃ r ∈ l, r.start.val ≤ ip.val ∧ ip.val ≤ r.stop.val ∧ r.v = v := by
  have hidx := List.pairwise_iff_getElem.mp hsep
  -- the search predicate, made total (`getD false`) so that `searchLoop_spec` applies; on `[0, length)`
  -- it is the function `lookup` hands to the loop (`hf`)
  let p : Nat → Bool := fun k => ((l[k]?).map fun r => decide (ip.cmp r.start < 0)).getD false
  have hpt k (hk : k < l.length) : p k = true ↔ ip.val < l[k].start.val := by
    simp only [p, List.getElem?_eq_getElem hk, Option.map_some, Option.getD_some, decide_eq_true_eq,
      cmp_lt_iff]
  have hpf k (hk : k < l.length) (h : p k = false) : l[k].start.val ≤ ip.val :=
    Nat.le_of_not_lt fun hlt => Bool.noConfusion (h.symm.trans ((hpt k hk).mpr hlt))
  have hf : ∀ k, k < l.length →
      (fun i => (l[i]?).map fun r => decide (ip.cmp r.start < 0)) k = some (p k) := by
    intro k hk
    simp only [p, List.getElem?_eq_getElem hk, Option.map_some, Option.getD_some]
  have mono : ∀ k k', k ≤ k' → k' < l.length → p k = true → p k' = true := by
    intro k k' hkk hk' hp
    have hk : k < l.length := Nat.lt_of_le_of_lt hkk hk'
    have hp' := (hpt k hk).mp hp
    rw [hpt k' hk']
    rcases Nat.eq_or_lt_of_le hkk with rfl | hlt
    · exact hp'
    · have h1 : Sep l[k] l[k'] := hidx k k' hk hk' hlt
      have h2 : (l[k]).Valid := hv _ (List.getElem_mem hk)
      unfold Sep at h1
      unfold Range.Valid at h2
      omega
  obtain ⟨i, hi, hin, hlo, hhi⟩ := searchLoop_spec _ p l.length hf mono 0 l.length
    (Nat.zero_le _) (Nat.le_refl _) (fun k hk => absurd hk (Nat.not_lt_zero _))
    (fun k hk hkn => absurd hkn (Nat.not_lt.mpr hk))
  unfold lookup
  rw [hi]
  by_cases hi0 : i = 0
  · subst hi0
    refine ⟨none, by simp, ?_⟩
    intro v
    simp only [reduceCtorEq, false_iff, not_exists, not_and]
    intro r hr h1 _ _
    obtain ⟨k, hk, rfl⟩ := List.mem_iff_getElem.mp hr
    have := (hpt k hk).mp (hhi k (Nat.zero_le _) hk)
    omega
  · have hi1 : i - 1 < l.length := by omega
    refine ⟨(l[i - 1]).contains ip, by simp [hi0, List.getElem?_eq_getElem hi1], ?_⟩
    intro v
    rw [contains_eq_some]
    constructor
    · intro h; exact ⟨_, List.getElem_mem hi1, h⟩
    · rintro ⟨r, hr, h1, h2, h3⟩
      obtain ⟨k, hk, rfl⟩ := List.mem_iff_getElem.mp hr
      have hki : k < i := by
        apply Decidable.byContradiction
        intro hn
        have := (hpt k hk).mp (hhi k (by omega) hk)
        omega
      have hlo1 := hpf (i - 1) hi1 (hlo (i - 1) (by omega))
      by_cases hk1 : k = i - 1
      · subst hk1; exact ⟨h1, h2, h3⟩
      · have hs : Sep l[k] l[i - 1] := hidx k (i - 1) hk hi1 (by omega)
        unfold Sep at hs
        omega

/-- same, for an address given as `netip.Addr` (`LookupAddr`) -/
theorem lookupAddr_of_sep {l : List (Range V)} (hv : ∀ r ∈ l, r.Valid) (hsep : List.Pairwise Sep l)
    (a : Addr) (ha : a.isValid = true) :
    ∃ res, lookupAddr l a = some res ∧
      ∀ v, res = some v ↔ ∃ r ∈ l, r.start.val ≤ (addr2Ipv6 a).val ∧ (addr2Ipv6 a).val ≤ r.stop.val ∧ r.v = v := by
  unfold lookupAddr
  simp only [ha, Bool.not_true, Bool.false_eq_true, if_false]
  exact lookup_of_sep hv hsep _

end MosVerif.Netlist
