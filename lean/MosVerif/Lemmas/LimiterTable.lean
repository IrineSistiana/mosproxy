/-
  C15: the bucket table of `ClientLimiter`, for histories (arrivals and gc passes) whose time
  stamps are handed to the buckets as they come (`allowNAt`, `runOpsAtWith`).  Rests on `LimiterBucket`.

  An arrival lowers what the bucket of its key holds by exactly what it admits and leaves every
  other key alone; a gc pass with the fullness requirement never raises what a bucket holds.
  Summed along a time-ordered history this is the window bound behind `C15.bucket_bound`
  (`window_inside`, `window_outside`).  It is proved here, on the histories' own times, and not
  taken from the account of `LimiterClock` (`ClockPot`), because a window may contain gc passes: a
  pass can drop the entry the account is kept on, whereas here a dropped bucket is just a full one.
  Clause 1 of the executable specification, which speaks of arrivals only, comes from `ClockPot`.
  The second half is isolation for `allowNAt` (`isolation_gen`; with the clamp: `LimiterClock`).
-/
import MosVerif.Lemmas.LimiterBucket
namespace MosVerif.Limiter

/-- the bucket a key currently has (`LoadOrCompute`: a missing entry is a new limiter) -/
def ClientLimiter.bucketOf (cl : ClientLimiter) (k : Addr) : Bucket :=
  match cl.m k with
  | some e => e.b
  | none => Bucket.fresh

@[simp] theorem ClientLimiter.allowN_opts (cl : ClientLimiter) (a : Addr) (t n : Nat) :
    (cl.allowNAt a t n).2.opts = cl.opts := rfl
@[simp] theorem ClientLimiter.allowN_limit (cl : ClientLimiter) (a : Addr) (t n : Nat) :
    (cl.allowNAt a t n).2.limit = cl.limit := rfl
@[simp] theorem ClientLimiter.allowN_burst (cl : ClientLimiter) (a : Addr) (t n : Nat) :
    (cl.allowNAt a t n).2.burst = cl.burst := rfl
@[simp] theorem ClientLimiter.gcWith_opts (rf : Bool) (cl : ClientLimiter) (now : Nat) (only : Option Addr) :
    (cl.gcWith rf now only).opts = cl.opts := rfl
@[simp] theorem ClientLimiter.gcWith_limit (rf : Bool) (cl : ClientLimiter) (now : Nat) (only : Option Addr) :
    (cl.gcWith rf now only).limit = cl.limit := rfl
@[simp] theorem ClientLimiter.gcWith_burst (rf : Bool) (cl : ClientLimiter) (now : Nat) (only : Option Addr) :
    (cl.gcWith rf now only).burst = cl.burst := rfl

theorem ClientLimiter.bucketOf_some {cl : ClientLimiter} {k : Addr} {e : Entry} (h : cl.m k = some e) :
    cl.bucketOf k = e.b := by
  unfold ClientLimiter.bucketOf; rw [h]

theorem ClientLimiter.bucketOf_none {cl : ClientLimiter} {k : Addr} (h : cl.m k = none) :
    cl.bucketOf k = Bucket.fresh := by
  unfold ClientLimiter.bucketOf; rw [h]

theorem ClientLimiter.bucketOf_new (o : Opts) (k : Addr) : (ClientLimiter.new o).bucketOf k = Bucket.fresh := rfl

theorem ClientLimiter.allowNAt_fst (cl : ClientLimiter) (a : Addr) (t n : Nat) :
    (cl.allowNAt a t n).1 = ((cl.bucketOf (mask cl.opts a)).allowN cl.limit cl.burst t n).1 := rfl

theorem ClientLimiter.m_allowNAt_same (cl : ClientLimiter) (a : Addr) (t n : Nat) :
    (cl.allowNAt a t n).2.m (mask cl.opts a)
      = some ⟨((cl.bucketOf (mask cl.opts a)).allowN cl.limit cl.burst t n).2, t⟩ :=
  if_pos rfl

theorem ClientLimiter.m_allowNAt_other (cl : ClientLimiter) (a : Addr) (t n : Nat) (k : Addr)
    (h : mask cl.opts a ≠ k) : (cl.allowNAt a t n).2.m k = cl.m k :=
  if_neg fun e => h e.symm

theorem ClientLimiter.bucketOf_allowNAt_same (cl : ClientLimiter) (a : Addr) (t n : Nat) :
    (cl.allowNAt a t n).2.bucketOf (mask cl.opts a)
      = ((cl.bucketOf (mask cl.opts a)).allowN cl.limit cl.burst t n).2 :=
  ClientLimiter.bucketOf_some (cl.m_allowNAt_same a t n)

theorem ClientLimiter.bucketOf_allowNAt_other (cl : ClientLimiter) (a : Addr) (t n : Nat) (k : Addr)
    (h : mask cl.opts a ≠ k) : (cl.allowNAt a t n).2.bucketOf k = cl.bucketOf k := by
  unfold ClientLimiter.bucketOf; rw [cl.m_allowNAt_other a t n k h]

/-- an arrival at `t` takes what it admits out of what the bucket of its key holds at `t`, and
    nothing out of any other bucket -/
theorem ClientLimiter.avail_allowNAt (cl : ClientLimiter) (a : Addr) (t n : Nat) (k : Addr) :
    ((cl.allowNAt a t n).2.bucketOf k).avail cl.limit cl.burst t
        + (((if mask cl.opts a = k ∧ (cl.allowNAt a t n).1 = true then n else 0) * nano : Nat) : Int)
      = (cl.bucketOf k).avail cl.limit cl.burst t := by
  by_cases hk : mask cl.opts a = k
  · subst hk
    rw [cl.bucketOf_allowNAt_same]
    simp only [eq_self, true_and]
    exact Bucket.avail_allowN _ _ _ t n
  · rw [cl.bucketOf_allowNAt_other a t n k hk, if_neg fun h => hk h.1, Nat.zero_mul]
    exact Int.add_zero _

theorem ClientLimiter.m_gcWith_some (rf : Bool) (cl : ClientLimiter) (now : Nat) (only : Option Addr) {k : Addr}
    {e : Entry} (h : cl.m k = some e) :
    (cl.gcWith rf now only).m k =
      if (only = none ∨ only = some k) ∧ e.lastSeen + entryTtl < now ∧
          (rf = false ∨ ((cl.burst * nano : Nat) : Int) ≤ e.b.avail cl.limit cl.burst now)
      then none else some e := by
  simp only [ClientLimiter.gcWith, h]

theorem ClientLimiter.m_gcWith_none (rf : Bool) (cl : ClientLimiter) (now : Nat) (only : Option Addr) {k : Addr}
    (h : cl.m k = none) : (cl.gcWith rf now only).m k = none := by
  simp only [ClientLimiter.gcWith, h]

/-- gc only deletes -/
theorem ClientLimiter.m_gcWith_sub (rf : Bool) (cl : ClientLimiter) (now : Nat) (only : Option Addr) {k : Addr}
    {e : Entry} (h : (cl.gcWith rf now only).m k = some e) : cl.m k = some e := by
  cases hm : cl.m k with
  | none => rw [cl.m_gcWith_none rf now only hm] at h; cases h
  | some e' =>
    rw [cl.m_gcWith_some rf now only hm] at h
    split at h
    · cases h
    · exact h

/-- a gc pass either leaves a key's bucket alone or replaces it by a new one; with the
    fullness requirement only a bucket that is full at `now` is replaced. -/
theorem ClientLimiter.bucketOf_gcWith (rf : Bool) (cl : ClientLimiter) (now : Nat) (only : Option Addr) (k : Addr) :
    (cl.gcWith rf now only).bucketOf k = cl.bucketOf k ∨
    ((cl.gcWith rf now only).bucketOf k = Bucket.fresh ∧
      (rf = true → ((cl.burst * nano : Nat) : Int) ≤ (cl.bucketOf k).avail cl.limit cl.burst now)) := by
  cases hm : cl.m k with
  | none =>
    left
    rw [ClientLimiter.bucketOf_none hm, ClientLimiter.bucketOf_none (cl.m_gcWith_none rf now only hm)]
  | some e =>
    have hg := cl.m_gcWith_some rf now only hm
    rw [ClientLimiter.bucketOf_some hm]
    split at hg
    · rename_i hc
      right
      refine ⟨ClientLimiter.bucketOf_none hg, fun hrf => hc.2.2.resolve_left ?_⟩
      rw [hrf]
      exact Bool.noConfusion
    · left
      exact ClientLimiter.bucketOf_some hg

/-- a gc pass (with the fullness requirement) never increases what a bucket holds -/
theorem ClientLimiter.avail_gc_le (cl : ClientLimiter) (k : Addr) (now : Nat) (only : Option Addr) :
    ((cl.gcWith true now only).bucketOf k).avail cl.limit cl.burst now ≤ (cl.bucketOf k).avail cl.limit cl.burst now := by
  rcases cl.bucketOf_gcWith true now only k with h1 | ⟨h1, h2⟩
  · rw [h1]; exact Int.le_refl _
  · rw [h1]
    exact Int.le_trans (Bucket.avail_le_cap _ _ _ _) (h2 rfl)

def ClientLimiter.Inv (cl : ClientLimiter) (τ : Nat) : Prop := ∀ k, (cl.bucketOf k).Inv cl.limit τ

theorem ClientLimiter.bucket_inv_step (cl : ClientLimiter) (k : Addr) {τ : Nat} (e : Ev)
    (h : (cl.bucketOf k).Inv cl.limit τ) (ht : τ ≤ e.t) :
    ((cl.allowNAt e.addr e.t e.n).2.bucketOf k).Inv cl.limit e.t := by
  by_cases hk : mask cl.opts e.addr = k
  · subst hk
    rw [ClientLimiter.bucketOf_allowNAt_same]
    exact Bucket.allowN_inv h ht
  · rw [ClientLimiter.bucketOf_allowNAt_other _ _ _ _ _ hk]
    exact h.mono ht

theorem ClientLimiter.bucket_inv_gc (rf : Bool) (cl : ClientLimiter) (k : Addr) {τ now : Nat} (only : Option Addr) (hL : 0 < cl.limit)
    (h : (cl.bucketOf k).Inv cl.limit τ) (ht : τ ≤ now) :
    ((cl.gcWith rf now only).bucketOf k).Inv cl.limit now := by
  rcases cl.bucketOf_gcWith rf now only k with h1 | ⟨h1, _⟩
  · rw [h1]; exact h.mono ht
  · rw [h1]; exact Bucket.inv_fresh _ hL _

theorem ClientLimiter.inv_step (cl : ClientLimiter) {τ : Nat} (e : Ev) (h : cl.Inv τ) (ht : τ ≤ e.t) :
    (cl.allowNAt e.addr e.t e.n).2.Inv e.t := fun k => cl.bucket_inv_step k e (h k) ht

theorem ClientLimiter.inv_gc (rf : Bool) (cl : ClientLimiter) {τ now : Nat} (only : Option Addr) (hL : 0 < cl.limit) (h : cl.Inv τ) (ht : τ ≤ now) :
    (cl.gcWith rf now only).Inv now := fun k => cl.bucket_inv_gc rf k only hL (h k) ht

/-- the op times are non-decreasing and not before `τ` -/
def sortedFrom (τ : Nat) : List Op → Prop
  | [] => True
  | o :: os => τ ≤ o.time ∧ sortedFrom o.time os

theorem sortedFrom_mono {τ τ' : Nat} (h : τ' ≤ τ) : ∀ {os : List Op}, sortedFrom τ os → sortedFrom τ' os
  | [], _ => trivial
  | _ :: _, hs => ⟨Nat.le_trans h hs.1, hs.2⟩

theorem sortedFrom_of_sortedOps : ∀ (os : List Op), sortedOps os = true → sortedFrom 0 os
  | [], _ => trivial
  | [o], _ => ⟨Nat.zero_le _, trivial⟩
  | o :: o' :: os, h => by
    simp only [sortedOps, Bool.and_eq_true, decide_eq_true_eq] at h
    exact ⟨Nat.zero_le _, h.1, (sortedFrom_of_sortedOps (o' :: os) h.2).2⟩

/-- total cost of the admitted arrivals selected by `P` (`ds` = the verdicts of the arrivals) -/
def admittedCost (P : Ev → Bool) : List Op → List Bool → Nat
  | .allow e :: os, d :: ds => (if P e && d then e.n else 0) + admittedCost P os ds
  | .allow _ :: _, [] => 0
  | .gc _ _ :: os, ds => admittedCost P os ds
  | [], _ => 0

/-- arrivals of subnet key `k` in the closed time window `[a, b]` -/
def inWindow (o : Opts) (k : Addr) (a b : Nat) (e : Ev) : Bool :=
  decide (mask o e.addr = k) && decide (a ≤ e.t) && decide (e.t ≤ b)

theorem inWindow_inside (o : Opts) (k : Addr) {a b : Nat} {e : Ev} (h1 : a ≤ e.t) (h2 : e.t ≤ b) :
    inWindow o k a b e = decide (mask o e.addr = k) := by
  simp only [inWindow, h1, h2, decide_true, Bool.and_true]

theorem inWindow_outside (o : Opts) (k : Addr) {a b : Nat} {e : Ev} (h : e.t < a ∨ b < e.t) :
    inWindow o k a b e = false := by
  simp only [inWindow, Bool.and_eq_false_imp, Bool.and_eq_true, decide_eq_true_eq, decide_eq_false_iff_not]
  omega

theorem admittedCost_outside (o : Opts) (k : Addr) (a b : Nat) (e : Ev) (h : e.t < a ∨ b < e.t) (os : List Op) (d : Bool)
    (ds : List Bool) :
    admittedCost (inWindow o k a b) (.allow e :: os) (d :: ds) = admittedCost (inWindow o k a b) os ds := by
  simp only [admittedCost, inWindow_outside o k h, Bool.false_and, Bool.false_eq_true, if_false, Nat.zero_add]

theorem admittedCost_past (o : Opts) (k : Addr) (a b : Nat) :
    ∀ (os : List Op) (τ : Nat) (ds : List Bool), sortedFrom τ os → b < τ → admittedCost (inWindow o k a b) os ds = 0
  | [], _, _, _, _ => rfl
  | .gc _ _ :: os, _, ds, hs, hb => admittedCost_past o k a b os _ ds hs.2 (Nat.lt_of_lt_of_le hb hs.1)
  | .allow _ :: _, _, [], _, _ => rfl
  | .allow e :: os, _, d :: ds, hs, hb => by
    have hbe : b < e.t := Nat.lt_of_lt_of_le hb hs.1
    rw [admittedCost_outside o k a b e (Or.inr hbe)]
    exact admittedCost_past o k a b os _ ds hs.2 hbe

/-- **potential argument, inside the window.**  From any state at time `τ` in `[a, b]`: what is
    still admitted for `k` up to `b` is bounded by what the bucket holds now plus the refill
    until `b` plus the truncation slack. -/
theorem window_inside (k : Addr) (a b : Nat) :
    ∀ (os : List Op) (cl : ClientLimiter) (τ : Nat), 0 < cl.limit →
      (cl.bucketOf k).Inv cl.limit τ → sortedFrom τ os → a ≤ τ → τ ≤ b →
      ((admittedCost (inWindow cl.opts k a b) os (cl.runOpsAtWith true os) * nano : Nat) : Int)
        ≤ (cl.bucketOf k).avail cl.limit cl.burst τ + ((cl.limit * (b - τ) : Nat) : Int) + ((cl.limit : Int) - 1) := by
  intro os
  induction os with
  | nil =>
    intro cl τ hL hinv _ _ _
    have := Bucket.avail_ge cl.limit cl.burst hL _ τ τ hinv
    rw [admittedCost, Nat.zero_mul]
    omega
  | cons o os ih =>
    intro cl τ hL hinv hs ha hb
    obtain ⟨hte, hs'⟩ := hs
    by_cases hob : o.time ≤ b
    · -- `hstep`: the refill from `τ` to `o.time`; then what `o` does to the bucket at `o.time`
      -- (`hpay`: an arrival takes out what it admits, `hgc`: a gc pass adds nothing); then the rest
      -- from `o.time` on (`IH`).  The refill until `b` is split at `o.time` to match.
      have hstep := Bucket.avail_step cl.limit cl.burst (cl.bucketOf k) hinv.2 (Nat.le_refl τ) hte
      rw [mul_sub_split cl.limit hte hob]
      cases o with
      | gc now only =>
        have IH := ih (cl.gcWith true now only) now hL (cl.bucket_inv_gc true k only hL hinv hte) hs'
          (Nat.le_trans ha hte) hob
        have hgc := cl.avail_gc_le k now only
        rw [ClientLimiter.runOpsAtWith, admittedCost]
        simp only [ClientLimiter.gcWith_opts, ClientLimiter.gcWith_limit, ClientLimiter.gcWith_burst, Op.time] at IH hstep ⊢
        omega
      | allow e =>
        have IH := ih (cl.allowNAt e.addr e.t e.n).2 e.t hL (cl.bucket_inv_step k e hinv hte) hs'
          (Nat.le_trans ha hte) hob
        have hpay := cl.avail_allowNAt e.addr e.t e.n k
        rw [ClientLimiter.runOpsAtWith, admittedCost, inWindow_inside _ k (Nat.le_trans ha hte) hob, Nat.add_mul]
        simp only [ClientLimiter.allowN_opts, ClientLimiter.allowN_limit, ClientLimiter.allowN_burst, Op.time,
          Bool.and_eq_true, decide_eq_true_eq] at IH hstep ⊢
        omega
    · have := Bucket.avail_ge cl.limit cl.burst hL _ τ τ hinv
      rw [admittedCost_past cl.opts k a b (o :: os) o.time _ ⟨Nat.le_refl _, hs'⟩ (Nat.lt_of_not_le hob), Nat.zero_mul]
      omega

/-- **before the window.**  Whatever happened earlier, the window `[a, b]` admits at most a
    full bucket plus the refill during the window plus the truncation slack. -/
theorem window_outside (k : Addr) (a b : Nat) (hab : a ≤ b) :
    ∀ (os : List Op) (cl : ClientLimiter) (τ : Nat), 0 < cl.limit →
      (cl.bucketOf k).Inv cl.limit τ → sortedFrom τ os → τ ≤ a →
      ((admittedCost (inWindow cl.opts k a b) os (cl.runOpsAtWith true os) * nano : Nat) : Int)
        ≤ ((cl.burst * nano : Nat) : Int) + ((cl.limit * (b - a) : Nat) : Int) + ((cl.limit : Int) - 1) := by
  intro os
  induction os with
  | nil =>
    intro cl τ hL _ _ _
    rw [admittedCost, Nat.zero_mul]
    omega
  | cons o os ih =>
    intro cl τ hL hinv hs hτa
    by_cases hea : a ≤ o.time
    · -- the window has begun: the whole rest is "inside" from time `a`
      have hin := window_inside k a b (o :: os) cl a hL (hinv.mono hτa) ⟨hea, hs.2⟩ (Nat.le_refl a) hab
      have := Bucket.avail_le_cap cl.limit cl.burst (cl.bucketOf k) a
      omega
    · cases o with
      | gc now only =>
        exact ih (cl.gcWith true now only) now hL (cl.bucket_inv_gc true k only hL hinv hs.1) hs.2 (Nat.le_of_not_le hea)
      | allow e =>
        have IH := ih (cl.allowNAt e.addr e.t e.n).2 e.t hL (cl.bucket_inv_step k e hinv hs.1) hs.2 (Nat.le_of_not_le hea)
        rw [ClientLimiter.runOpsAtWith, admittedCost_outside _ k a b e (Or.inl (Nat.lt_of_not_le hea))]
        exact IH

/-- the verdicts of the arrivals of key `k` -/
def decisionsFor (o : Opts) (k : Addr) : List Op → List Bool → List Bool
  | .allow e :: os, d :: ds => if mask o e.addr = k then d :: decisionsFor o k os ds else decisionsFor o k os ds
  | .allow _ :: _, [] => []
  | .gc _ _ :: os, ds => decisionsFor o k os ds
  | [], _ => []

/-- erase the arrivals of every other key (gc passes stay) -/
def onlyKey (o : Opts) (k : Addr) : List Op → List Op
  | [] => []
  | .allow e :: os => if mask o e.addr = k then .allow e :: onlyKey o k os else onlyKey o k os
  | .gc now only :: os => .gc now only :: onlyKey o k os

theorem ClientLimiter.limit_congr {c1 c2 : ClientLimiter} (ho : c1.opts = c2.opts) : c1.limit = c2.limit := by
  unfold ClientLimiter.limit; rw [ho]

theorem ClientLimiter.burst_congr {c1 c2 : ClientLimiter} (ho : c1.opts = c2.opts) : c1.burst = c2.burst := by
  unfold ClientLimiter.burst; rw [ho]

/-- what a gc pass does to a key depends only on the options and on that key's entry -/
theorem ClientLimiter.m_gcWith (rf : Bool) (c1 c2 : ClientLimiter) (now : Nat) (only : Option Addr) (k : Addr)
    (ho : c1.opts = c2.opts) (hm : c1.m k = c2.m k) : (c1.gcWith rf now only).m k = (c2.gcWith rf now only).m k := by
  simp only [ClientLimiter.gcWith, hm, ClientLimiter.limit_congr ho, ClientLimiter.burst_congr ho]

/-- … and so does what an arrival of that key does, verdict and new entry -/
theorem ClientLimiter.allowNAt_congr (c1 c2 : ClientLimiter) (a : Addr) (t n : Nat) (ho : c1.opts = c2.opts)
    (hm : c1.m (mask c1.opts a) = c2.m (mask c1.opts a)) :
    (c1.allowNAt a t n).1 = (c2.allowNAt a t n).1 ∧
    (c1.allowNAt a t n).2.m (mask c1.opts a) = (c2.allowNAt a t n).2.m (mask c1.opts a) := by
  simp only [ClientLimiter.allowNAt, Table.set, ← ho, hm, ClientLimiter.limit_congr ho, ClientLimiter.burst_congr ho,
    if_true, and_self]

/-- two limiters with the same options and the same entry for `k` decide `k`'s arrivals alike,
    whatever else is in their tables and whatever other keys' arrivals are interleaved. -/
theorem isolation_gen (rf : Bool) (k : Addr) :
    ∀ (os : List Op) (c1 c2 : ClientLimiter), c1.opts = c2.opts → c1.m k = c2.m k →
      decisionsFor c1.opts k os (c1.runOpsAtWith rf os) = c2.runOpsAtWith rf (onlyKey c1.opts k os) := by
  intro os
  induction os with
  | nil => intro c1 c2 _ _; rfl
  | cons o os ih =>
    intro c1 c2 ho hm
    cases o with
    | gc now only =>
      exact ih (c1.gcWith rf now only) (c2.gcWith rf now only) ho (ClientLimiter.m_gcWith rf c1 c2 now only k ho hm)
    | allow e =>
      by_cases hk : mask c1.opts e.addr = k
      · subst hk
        obtain ⟨hfst, hsnd⟩ := c1.allowNAt_congr c2 e.addr e.t e.n ho hm
        simp only [ClientLimiter.runOpsAtWith, decisionsFor, onlyKey, if_true]
        rw [hfst]
        exact congrArg _ (ih (c1.allowNAt e.addr e.t e.n).2 (c2.allowNAt e.addr e.t e.n).2 ho hsnd)
      · simp only [ClientLimiter.runOpsAtWith, decisionsFor, onlyKey, hk, if_false]
        exact ih (c1.allowNAt e.addr e.t e.n).2 c2 ho ((c1.m_allowNAt_other e.addr e.t e.n k hk).trans hm)

end MosVerif.Limiter
