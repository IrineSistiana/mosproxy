/-
  C17 — lemmas about `makeTlsConfig` and the handshake histories (`Model/TlsCfg.lean`).

  `mk_ok_fields` gives the `tls.Config` of a successful `makeTlsConfig` as one equation; the tables of
  the harness' certificate kinds (`verdict_kind`, `serves_iff_allowedLi`, `ownVerdict_allowed`) and the
  history lemmas rest on it. A listener step is a resumption or a full handshake (`liStep_cases`);
  `liStep_mem` is what a step keeps of the cached sessions, `specLi_run` the induction over a history.
-/
import MosVerif.Model.TlsCfg
namespace MosVerif.C17
open MosVerif.TlsCfg

/-- every successful `makeTlsConfig` maps the options field by field: only the certificate source
    depends on the branch taken, and there is no session cache -/
theorem mk_ok_fields {cfg : TlsConfig} {req : Bool} {g : GoTls} (h : makeTlsConfig cfg req = .ok g) :
    ∃ certs, g = ⟨cfg.insecureSkipVerify, caPool cfg.ca, caPool cfg.ca,
        if cfg.verifyClientCert then .requireAndVerifyClientCert else .noClientCert, certs, none⟩ ∧
      (req = true → certs ≠ .none) := by
  -- `by_cases` and `rw [if_pos]`, not `split`: `split` on a term of this size is slow to check
  unfold makeTlsConfig at h
  by_cases hm : missingCert req cfg.cert.isEmpty cfg.key.isEmpty cfg.debugUseTempCert = true
  · rw [if_pos hm] at h
    cases h
  rw [if_neg hm] at h
  cases hca : cfg.ca
  case bad =>
    rw [hca] at h
    cases h
  all_goals
    rw [hca] at h
    dsimp only at h
    by_cases ht : cfg.debugUseTempCert = true
    · rw [if_pos ht] at h
      cases h
      exact ⟨.temp, rfl, fun _ => nofun⟩
    rw [if_neg ht] at h
    by_cases hk : hasKeyPair (!cfg.key.isEmpty) (!cfg.cert.isEmpty) = true
    · rw [if_pos hk] at h
      split at h
      · split at h
        · cases h
          exact ⟨_, rfl, fun _ => nofun⟩
        · cases h
      · cases h
    rw [if_neg hk] at h
    cases h
    refine ⟨.none, rfl, ?_⟩
    -- no key pair: one of the two paths is empty, so a certificate was not required
    rintro rfl
    cases hc : cfg.cert.isEmpty <;> cases hy : cfg.key.isEmpty <;> simp [hc, hy, ht] at hm hk

/-- the `tls.Config` built by `makeTlsConfig` has no client session cache -/
theorem mk_no_session_cache {cfg : TlsConfig} {req : Bool} {g : GoTls}
    (h : makeTlsConfig cfg req = .ok g) : g.sessionCache = none := by
  obtain ⟨_, rfl, _⟩ := mk_ok_fields h
  rfl

/-- without a session cache an exchange is a full handshake and leaves the resumable sessions alone -/
theorem upStep_noCache {peer : CertKind} {ss : Sessions} {g : GoTls} {h : Bool}
    (hg : g.sessionCache = none) : upStep peer ss g h = (fullVerdict peer g h, ss) := by
  simp [upStep, hg]

/-- a specification that constrains only one kind of outcome -/
theorem ite_true_of {c : Prop} [Decidable c] {b : Bool} (h : c → b = true) :
    (if c then b else true) = true := by
  split
  · exact h ‹_›
  · rfl

/-! The harness' certificate kinds against a `tls.Config` built by `makeTlsConfig`: the pool is
    `caPool cfg.ca`, so `chains` asks whether the configured CA is the kind's issuer. -/

theorem caPool_beq (ca : FileRef) (i : Nat) : (caPool ca == some i) = (ca == .good i) := by
  cases ca <;> simp [caPool, Bool.beq_eq_decide_eq]

/-- lets `simp` evaluate `==` between two given kinds -/
theorem kind_beq (a b : CertKind) : (a == b) = decide (a = b) := Bool.beq_eq_decide_eq a b

/-- which server certificates an upstream accepts -/
theorem verdict_kind {cfg : TlsConfig} {req : Bool} {g : GoTls} (h : makeTlsConfig cfg req = .ok g)
    {k : CertKind} {p : Peer} (hp : k.peer = some p) (hv : verdict g p = true) :
    (cfg.insecureSkipVerify || (k == .valid && cfg.ca == .good 1) ||
      (k == .unknownCA && cfg.ca == .good 2)) = true := by
  obtain ⟨_, rfl, _⟩ := mk_ok_fields h
  cases hi : cfg.insecureSkipVerify
  · -- one row of the table for each of the five kinds that present a certificate
    cases k <;> cases hp <;> simp [verdict, hi, caPool_beq, kind_beq] at hv ⊢ <;> exact hv
  · rfl

/-- for a listener built with `verify_client_cert`, "served in a full handshake" is exactly "presented a
    certificate chaining to the configured CA, within validity" -/
theorem serves_iff_allowedLi (cfg : TlsConfig) (g : GoTls) (k : CertKind)
    (hv : cfg.verifyClientCert = true) (h : makeTlsConfig cfg true = .ok g) :
    serves g k.peer = allowedLi cfg k := by
  obtain ⟨_, rfl, _⟩ := mk_ok_fields h
  -- one row of the table for each kind
  cases k <;> simp [serves, hv, CertKind.peer, allowedLi, caPool_beq, kind_beq]

/-- the verdict of one upstream on its own: its options, its server name, the peer certificate -/
def ownVerdict (peer : CertKind) (u : UpCfg) : Bool :=
  match makeTlsConfig u.cfg false with
  | .ok g => fullVerdict peer g u.hostSrv
  | _ => false

theorem ownVerdict_allowed (peer : CertKind) (u : UpCfg) (hv : ownVerdict peer u = true) :
    allowedUp u peer = true := by
  unfold ownVerdict at hv
  cases h : makeTlsConfig u.cfg false with
  | ok g =>
    rw [h] at hv
    obtain ⟨_, rfl, _⟩ := mk_ok_fields h
    cases hi : u.cfg.insecureSkipVerify
    · -- kind by kind, for either URL host: first what the verdict says of the kind, then the specification
      cases peer <;> cases hs : u.hostSrv <;>
        simp [fullVerdict, peerFor, CertKind.peer, verdict, caPool_beq, hs, hi] at hv <;>
        simp [allowedUp, hs, hv, kind_beq]
    · simp [allowedUp, hi]
  | _ => rw [h] at hv; cases hv

theorem allOk_own (peer : CertKind) (us : List UpCfg) : allOk us (us.map (ownVerdict peer)) peer = true := by
  induction us with
  | nil => rfl
  | cons u rest ih =>
    simp only [List.map_cons, allOk, Bool.and_eq_true, Bool.or_eq_true, Bool.not_eq_true']
    refine ⟨?_, ih⟩
    cases hv : ownVerdict peer u
    · exact Or.inl rfl
    · exact Or.inr (ownVerdict_allowed peer u hv)

/-- a full handshake is served only on an acceptable certificate -/
theorem liFull_served {g : GoTls} {ss : CliSessions} {s : CliStep} (h : (liFull g ss s).1 = true) :
    serves g s.cert.peer = true := by
  simp only [liFull, Bool.and_eq_true] at h
  exact h.2

/-- a connection either resumes a session of its cache that was created with a certificate the listener
    accepts, and changes no cache, or it makes a full handshake -/
theorem liStep_cases (g : GoTls) (ss : CliSessions) (s : CliStep) :
    (∃ c orig, s.cache = some c ∧ ss.lookup c = some orig ∧ serves g orig.peer = true ∧
      liStep g ss s = (true, ss)) ∨ liStep g ss s = liFull g ss s := by
  unfold liStep
  split
  · rename_i orig hl
    split
    · rename_i hc
      cases hcache : s.cache with
      | none => simp [hcache] at hl
      | some c =>
        simp only [hcache, Option.bind_some] at hl
        simp only [Bool.and_eq_true] at hc
        exact .inl ⟨c, orig, rfl, hl, hc.2, rfl⟩
    · exact .inr rfl
  · exact .inr rfl

/-- a step keeps whatever holds of every cached session, provided it holds of the session that a served
    full handshake leaves in the client's cache -/
theorem liStep_mem {P : Nat → CertKind → Prop} (g : GoTls) (ss : CliSessions) (s : CliStep)
    (hi : ∀ c k, (c, k) ∈ ss → P c k)
    (hnew : ∀ c, s.cache = some c → liStep g ss s = liFull g ss s → (liFull g ss s).1 = true → P c s.cert) :
    ∀ c k, (c, k) ∈ (liStep g ss s).2 → P c k := by
  rcases liStep_cases g ss s with ⟨_, _, _, _, _, e⟩ | e
  · rw [e]
    exact hi
  -- a full handshake adds at most the session it has just been served with
  rw [e]
  intro c k hm
  unfold liFull at hm
  cases hc : s.cache with
  | none =>
    rw [hc] at hm
    exact hi c k hm
  | some c' =>
    rw [hc] at hm
    dsimp only at hm
    split at hm
    · rename_i ho
      rcases List.mem_cons.mp hm with h | h
      · cases h
        exact hnew _ hc e ho
      · exact hi c k h
    · exact hi c k hm

theorem runLi_length (g : GoTls) (ss : CliSessions) (steps : List CliStep) :
    (runLi g ss steps).length = steps.length := by
  induction steps generalizing ss with
  | nil => rfl
  | cons s rest ih => simp [runLi, ih]

/-- the specification's `auth` knows every client cache that holds a session -/
def LiRel (ss : CliSessions) (auth : List Nat) : Prop :=
  ∀ c k, (c, k) ∈ ss → auth.contains c = true

theorem authNext_contains {auth : List Nat} {c : Nat} (h : auth.contains c = true) (cache : Option Nat)
    (good : Bool) : (authNext auth cache good).contains c = true := by
  unfold authNext
  split
  · split
    · rw [List.contains_cons, h, Bool.or_true]
    · exact h
  · exact h

theorem specLi_run (cfg : TlsConfig) (g : GoTls) (hv : cfg.verifyClientCert = true)
    (h : makeTlsConfig cfg true = .ok g) (steps : List CliStep) :
    ∀ (ss : CliSessions) (auth : List Nat), LiRel ss auth →
      specLi cfg auth steps (runLi g ss steps) = true := by
  induction steps with
  | nil => intros; rfl
  | cons s rest ih =>
    intro ss auth hrel
    have hown : (liFull g ss s).1 = true → allowedLi cfg s.cert = true := fun ho =>
      serves_iff_allowedLi cfg g s.cert hv h ▸ liFull_served ho
    simp only [runLi, specLi, Bool.and_eq_true]
    refine ⟨?_, ih _ _ (liStep_mem g ss s (fun c k hm => authNext_contains (hrel c k hm) _ _) ?_)⟩
    · rcases liStep_cases g ss s with ⟨c, orig, hc, hl, -, e⟩ | e
      · -- resumed: the cache is one the specification knows to hold an authenticated session
        obtain ⟨l₁, l₂, rfl, -⟩ := List.lookup_eq_some_iff.mp hl
        have hvia : viaCache auth s.cache = true := hc ▸ hrel c orig (by simp)
        simp [e, hvia]
      · rw [e]
        cases ho : (liFull g ss s).1
        · rfl
        · simp [hown ho]
    · -- a served full handshake: the connection is served, on its own certificate
      intro c hc e ho
      simp [hc, e, ho, hown ho, authNext]

end MosVerif.C17
