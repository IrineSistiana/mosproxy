/-
  C05 — the wire ids handed out on a connection (`assignedIds`) and their order: strictly increasing
  along every schedule. Rests on the invariant (Lemmas/PipelineSteps.lean).
-/
import MosVerif.Lemmas.PipelineSteps
namespace MosVerif.Pipeline

/-- wire ids handed out on connection `c`, newest first -/
def assignedIds (c : Nat) : List Ev → List Nat
  | [] => []
  | .assign _ c' id :: t => if c' = c then id :: assignedIds c t else assignedIds c t
  | _ :: t => assignedIds c t

theorem mem_assignedIds_iff {c id : Nat} {h : List Ev} : id ∈ assignedIds c h ↔ ∃ e, Ev.assign e c id ∈ h := by
  induction h with
  | nil => simp [assignedIds]
  | cons ev t ih =>
    cases ev with
    | assign e' c' id' =>
      by_cases hc : c' = c
      · subst hc
        simp only [assignedIds, if_true, List.mem_cons, ih, Ev.assign.injEq, true_and]
        constructor
        · rintro (h1 | ⟨e, he⟩)
          · exact ⟨e', .inl ⟨rfl, h1⟩⟩
          · exact ⟨e, .inr he⟩
        · rintro ⟨e, h1 | he⟩
          · exact .inl h1.2
          · exact .inr ⟨e, he⟩
      · have hc' : ¬ c = c' := fun h => hc h.symm
        simp [assignedIds, hc, hc', ih]
    | _ => simp [assignedIds, ih]

theorem assignedIds_cons_of_not_assign (c : Nat) (ev : Ev) (h : List Ev) (hne : ∀ e c' q, ev ≠ .assign e c' q) :
    assignedIds c (ev :: h) = assignedIds c h := by
  cases ev with
  | assign e c' q => exact absurd rfl (hne e c' q)
  | _ => rfl

theorem assignedIds_append (c : Nat) (l1 l2 : List Ev) :
    assignedIds c (l1 ++ l2) = assignedIds c l1 ++ assignedIds c l2 := by
  induction l1 with
  | nil => rfl
  | cons ev t ih =>
    cases ev with
    | assign e c' id =>
      by_cases hc : c' = c <;> simp [assignedIds, hc, ih]
    | _ => simpa [assignedIds] using ih

/-- ids are handed out in strictly increasing order (newest first: strictly decreasing) -/
def Mono (s : State) : Prop := ∀ c, (assignedIds c s.hist).Pairwise (· > ·)

section
variable {cfg : Cfg} {s s' : State}

theorem Move.ids (m : Move cfg s s') (c : Nat) :
    assignedIds c s'.hist = assignedIds c s.hist ∨
    (s.conns c).nextQid ≤ 65535 ∧ assignedIds c s'.hist = (s.conns c).nextQid :: assignedIds c s.hist := by
  cases m with
  | register e c' k q hpc hk =>
    obtain ⟨a1, rfl, _⟩ := addQueueC_some hk
    by_cases hc : c' = c
    · rw [← hc]; exact .inr ⟨a1, if_pos rfl⟩
    · exact .inl (if_neg hc)
  | _ => exact .inl rfl

theorem Mono.move (hi : Inv cfg s) (hm : Mono s) (m : Move cfg s s') : Mono s' := fun c => by
  rcases m.ids c with h | ⟨_, h⟩
  · rw [h]; exact hm c
  · rw [h]
    refine .cons (fun id hid => ?_) (hm c)
    obtain ⟨e, he⟩ := mem_assignedIds_iff.mp hid
    exact hi.asg_lt e c id he

theorem mono_exec (hi : Inv cfg s) (hm : Mono s) (steps : List Step) : Mono (exec cfg s steps) :=
  (exec_preserves (P := fun t => Inv cfg t ∧ Mono t) (fun h m => ⟨h.1.move m, h.2.move h.1 m⟩) ⟨hi, hm⟩ steps).2

end

end MosVerif.Pipeline
