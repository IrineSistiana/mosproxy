/-
  C04 ∘ C07: the composed protocol model of `Model/System` works on abstract keys (`Key = Nat`, "a key stands for
  (lower-cased name, class, type, client group)").  Here the abstraction is discharged: a request carries a concrete
  question and the client's group label, its key is the byte string `cacheCtl` really builds (`CacheKey.reqKey`,
  whose layout is `CacheKey.keyLayout`, `Props/C07.key_layout`), numbered injectively into `Nat`.  The theorems of
  `Props/C04` then speak of questions: whatever the schedule, the data a request answers with is the upstream's
  answer for a question with the same lower-cased name, class, type and client group.
-/
import MosVerif.Lemmas.SystemInv
import MosVerif.Lemmas.CacheKeyLemmas
namespace MosVerif.SystemConcrete
open MosVerif MosVerif.System MosVerif.CacheKey

/-- an injective base-256 numbering of byte strings (`dec` is a left inverse: `dec_enc`) -/
def enc : Bytes → Nat
  | [] => 0
  | b :: bs => b.toNat + 1 + 256 * enc bs

def dec (n : Nat) : Bytes :=
  if h : n = 0 then [] else UInt8.ofNat ((n - 1) % 256) :: dec ((n - 1) / 256)
termination_by n
decreasing_by omega

theorem dec_enc (l : Bytes) : dec (enc l) = l := by
  induction l with
  | nil =>
    rw [enc, dec]
    exact dif_pos rfl
  | cons b bs ih =>
    have hb : b.toNat < 256 := b.toNat_lt
    rw [enc, dec]
    have h0 : b.toNat + 1 + 256 * enc bs ≠ 0 := by omega
    simp only [h0, ↓reduceDIte]
    have h1 : (b.toNat + 1 + 256 * enc bs - 1) % 256 = b.toNat := by omega
    have h2 : (b.toNat + 1 + 256 * enc bs - 1) / 256 = enc bs := by omega
    rw [h1, h2, ih]
    simp

theorem enc_inj {a b : Bytes} (h : enc a = enc b) : a = b := by
  have := congrArg dec h
  rwa [dec_enc, dec_enc] at this

/-- a request as the handler sees it: the question and the client's group label (ip marker) -/
structure Req where
  q : Question
  mark : Bytes

/-- the byte string `cacheCtl.Get/Store` use as the key of the request (after `ToLowerName`) -/
def layoutOf (r : Req) : Bytes := keyLayout { r.q with name := toLowerName r.q.name } r.mark

/-- … and its number: the abstract key of `Model/System` -/
def keyOf (r : Req) : Key := enc (layoutOf r)

theorem layoutOf_is_reqKey (dirty : Bytes) (r : Req) : reqKey dirty r.q r.mark = some (layoutOf r) := by
  unfold reqKey layoutOf
  exact cacheKey_eq dirty _ r.mark

/-- two requests share a key exactly when they agree on the lower-cased name, class, type and group -/
theorem keyOf_eq_iff {r₁ r₂ : Req} (h₁ : WfName63 r₁.q.name) (h₂ : WfName63 r₂.q.name) :
    keyOf r₁ = keyOf r₂ ↔
      (toLowerName r₁.q.name = toLowerName r₂.q.name ∧ r₁.q.cls = r₂.q.cls ∧ r₁.q.typ = r₂.q.typ ∧ r₁.mark = r₂.mark) :=
  ⟨fun h => (keyLayout_eq_iff (wf_toLowerName h₁) (wf_toLowerName h₂)).mp (enc_inj h),
    fun h => congrArg enc ((keyLayout_eq_iff (wf_toLowerName h₁) (wf_toLowerName h₂)).mpr h)⟩

/-- ★ the composed statement on concrete questions: the upstream answers a query as a function `F` of what
    identifies it (the key layout: lower-cased name, class, type, group); for EVERY interleaving of any number of
    requests, a request that answers with data answers with `F` of ITS OWN identification.
    (The model's upstream answers key numbers, so it is `F ∘ dec`: `dec` undoes the numbering.) -/
theorem answers_own_concrete (F : Bytes → Val) (reqs : List Req) (steps : List Step) (t : Nat) (th : Thread)
    (v : Val) (ht : (run (fun k => F (dec k)) (init (reqs.map keyOf)) steps).threads[t]? = some th)
    (hd : th.stage = .done (some v)) :
    ∃ r, reqs[t]? = some r ∧ v = F (layoutOf r) := by
  have hinv := inv_run (fun k => F (dec k)) (init (reqs.map keyOf)) steps (inv_init _ _)
  have hv := hinv.done_ok t th v ht hd
  have hq := run_init_q _ _ steps t th ht
  rw [List.getElem?_map] at hq
  cases hr : reqs[t]? with
  | none =>
    rw [hr] at hq
    cases hq
  | some r =>
    rw [hr] at hq
    refine ⟨r, rfl, ?_⟩
    rw [hv, ← Option.some.inj hq, keyOf, dec_enc]

/-- ★ consequence for two requests of different identification: whatever the schedule, the data of one is never
    the other one's unless the upstream itself answers both alike. -/
theorem never_anothers_answer (F : Bytes → Val) (reqs : List Req) (steps : List Step) (t u : Nat) (th : Thread)
    (v : Val) (r ru : Req)
    (ht : (run (fun k => F (dec k)) (init (reqs.map keyOf)) steps).threads[t]? = some th)
    (hd : th.stage = .done (some v)) (hr : reqs[t]? = some r) (_hu : reqs[u]? = some ru)
    (hne : F (layoutOf ru) ≠ F (layoutOf r)) : v ≠ F (layoutOf ru) := by
  obtain ⟨r', hr', hv⟩ := answers_own_concrete F reqs steps t th v ht hd
  rw [hr] at hr'
  cases hr'
  rw [hv]
  exact fun h => hne h.symm

end MosVerif.SystemConcrete
