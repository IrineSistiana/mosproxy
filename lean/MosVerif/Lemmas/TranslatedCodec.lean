/-
  Tie by translation (C01/C02): the DNS wire DECODER.  `MosVerif/Generated/TranslatedCodec.lean` is regenerated
  from the current Go source of /repo/internal/dnsmsg by the byte-slice mode of /verif/extract/gotolean against the
  prelude `Model/GoSem.lean`; the hand-written model `Model/Wire.lean` is proved EQUAL to it, for all byte strings
  and all offsets.  This file: how `>>=` of `Wire.Res` computes (the lemmas every file of the tie rewrites with), then
  the primitives of utils.go.
-/
import MosVerif.Generated.TranslatedCodec
namespace MosVerif.Wire
open MosVerif

@[simp] theorem Res.bind_ok' {α β} (a : α) (f : α → Res β) : (Res.ok a >>= f) = f a := rfl
@[simp] theorem Res.bind_err' {α β} (f : α → Res β) : ((Res.err : Res α) >>= f) = .err := rfl
@[simp] theorem Res.bind_panic' {α β} (f : α → Res β) : ((Res.panic : Res α) >>= f) = .panic := rfl
@[simp] theorem Res.pure_eq {α} (a : α) : (pure a : Res α) = .ok a := rfl

theorem Res.bind_assoc' {α β γ} (x : Res α) (f : α → Res β) (g : β → Res γ) :
    ((x >>= f) >>= g) = (x >>= fun a => f a >>= g) := by
  cases x <;> rfl

theorem goSem_sliceFrom (msg : Bytes) (off : Nat) : GoSem.sliceFrom msg off = sliceFrom msg off := rfl

theorem u16At_translated (msg : Bytes) (off : Nat) : u16At msg off = Translated.unpackUint16Msg msg off := by
  unfold u16At Translated.unpackUint16Msg Translated.unpackUint16
  rw [goSem_sliceFrom]
  cases h : sliceFrom msg off with
  | err => rfl
  | panic => rfl
  | ok buf =>
    match buf with
    | [] => rfl
    | [_] => rfl
    | a :: b :: r => simp [GoSem.beUint16]

theorem u32At_translated (msg : Bytes) (off : Nat) : u32At msg off = Translated.unpackUint32Msg msg off := by
  unfold u32At Translated.unpackUint32Msg
  rw [goSem_sliceFrom]
  cases h : sliceFrom msg off with
  | err => rfl
  | panic => rfl
  | ok buf =>
    match buf with
    | [] => rfl
    | [_] => rfl
    | [_, _] => rfl
    | [_, _, _] => rfl
    | a :: b :: c :: d :: r => simp [GoSem.beUint32]

/-- `unpackBytesMsgToBuffer` (the pool buffer is a plain copy) -/
theorem bytesAt_translated (msg : Bytes) (off l : Nat) : bytesAt msg off l = Translated.unpackBytesMsgToBuffer msg off l := by
  unfold bytesAt Translated.unpackBytesMsgToBuffer
  rw [goSem_sliceFrom]
  cases h : sliceFrom msg off with
  | err => rfl
  | panic => rfl
  | ok buf =>
    by_cases hl : buf.length < l
    · simp [hl]
    · have : l ≤ buf.length := by omega
      simp [hl, GoSem.sliceTo, this]

/-- `unpackBytesMsg`: `dst` (a fixed-size array slice `r.A[:]`) receives `len(dst)` octets -/
theorem bytesAt_translated_dst (msg : Bytes) (off : Nat) (dst : Bytes) :
    bytesAt msg off dst.length = Translated.unpackBytesMsg msg off dst := by
  unfold bytesAt Translated.unpackBytesMsg
  rw [goSem_sliceFrom]
  cases h : sliceFrom msg off with
  | err => rfl
  | panic => rfl
  | ok buf =>
    by_cases hl : buf.length < dst.length
    · simp [hl]
    · have h1 : dst.length ≤ buf.length := by omega
      have h2 : List.drop buf.length dst = [] := List.drop_eq_nil_of_le h1
      simp [hl, GoSem.copy, h2, Nat.min_eq_left h1]
      omega

end MosVerif.Wire
