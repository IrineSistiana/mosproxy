/-
  Tie by translation (C01, upstream side): the integer / boolean conditions of the upstream-reply readers
  (`dnsutils.ReadMsgFromTCP`, `dnsutils.ReadMsgFromUDP`, `pipelineConn.readLoop`, `exchangeConn`), translated
  mechanically from the current Go source (`extract/translate.d/C01.json` → `Generated/Translated.lean`), equal
  the named definitions `Model/UpReply.lean` is built from.
-/
import MosVerif.Generated.Translated
import MosVerif.Lemmas.TranslatedTactics
import MosVerif.Model.UpReply
import MosVerif.Lemmas.TranslatedCodecRecord
namespace MosVerif.UpReply
open MosVerif

/-- bit 1 of a number, as a mask test and arithmetically -/
theorem land2 (b2 : Nat) : decide (b2 &&& (1 <<< 1) ≠ 0) = decide (b2 / 2 % 2 = 1) :=
  (Wire.testBit_land b2 1).symm

/-- `if bufSize < 2048 { bufSize = 2048 }` (`ReadMsgFromUDP`) -/
theorem udpFloor_translated (n : Nat) : udpFloor n = Translated.c01up_udpFloor n := by
  unfold udpFloor Translated.c01up_udpFloor
  tr_val

/-- the read buffer of the model is the translated floor applied to the argument `readLoop` passes -/
theorem udpBuf_translated : udpBuf = Translated.c01up_udpFloor Facts.c01up_udpBufSize := by
  unfold udpBuf
  exact udpFloor_translated _

/-- `msgBuf := pool.GetBuf(int(length))` (`ReadMsgFromTCP`): exactly `length` octets are read after the prefix -/
theorem tcpBodyLen_translated (length : Nat) : tcpBodyLen length = Translated.c01up_tcpBodyLen length := by
  unfold Translated.c01up_tcpBodyLen tcpBodyLen
  omega

/-- `err != nil && n >= 12 && b[2]&(1<<1) != 0` (`ReadMsgFromUDP`): with `failed = true` — the `.err` branch of
    `readMsgFromUDPn`, the only place where `headerOnly` is consulted — the condition is `tcCut`; with
    `failed = false` it is false (a decoded message is returned as it is). -/
theorem tcCut_translated (failed : Bool) (n b2 : Nat) :
    (failed && decide (tcCut n b2)) = Translated.c01up_udpTcCut failed n b2 := by
  unfold Translated.c01up_udpTcCut tcCut
  rw [land2]
  cases failed <;> bool_arith

/-- `headerOnly` answers exactly when the translated condition holds (on the datagram's length and third octet) -/
theorem headerOnly_isSome_translated (a b f : UInt8) (rest : Wire.Bytes) :
    (headerOnly (a :: b :: f :: rest)).isSome =
      Translated.c01up_udpTcCut true (a :: b :: f :: rest).length f.toNat := by
  rw [← tcCut_translated]
  unfold headerOnly
  generalize (a :: b :: f :: rest).length = n
  by_cases h : tcCut n f.toNat
  · simp only [if_pos h, Option.isSome_some, Bool.true_and, decide_eq_true h]
  · simp only [if_neg h, Option.isSome_none, Bool.true_and, decide_eq_false h]

/-- `if n > 0 { … continue }` (`readLoop`, udp) -/
theorem udpSkips_translated (n : Nat) : decide (udpSkips n) = Translated.c01up_udpSkip n := by
  unfold Translated.c01up_udpSkip udpSkips
  bool_arith

/-- `if r.Header.ID != qid { … error }` (`exchangeConn`) -/
theorem idMatches_translated (id qid : Nat) : (!decide (idMatches id qid)) = Translated.c01up_reuseIdMismatch id qid := by
  unfold Translated.c01up_reuseIdMismatch idMatches
  bool_arith

end MosVerif.UpReply
