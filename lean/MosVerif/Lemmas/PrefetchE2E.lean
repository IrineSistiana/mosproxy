/-
  C19 — the scenario model of component prefetch_e2e satisfies its specification for every number of hits.
-/
import MosVerif.Lemmas.PrefetchWave
namespace MosVerif.Prefetch
open MosVerif.Ttl

/-- the cache after the successful refresh stored its answer at 3.8 s -/
def e2eMem3 : Mem :=
  cacheStore e2eParams.clock e2eParams.cfg e2eMem0 0 (some (removeEDNS0 (aRecord 4))) (3800 * msNs) 0 2

/-- what a lookup at `t` finds: (does the window test fire, the TTL served) -/
def look (mem : Mem) (t : Nat) : Option (Bool × Nat) :=
  (cacheGet e2eClock mem 0 t).map fun p =>
    (needPrefetch p.2.stored p.2.expire t, ttlOfHit ⟨p.1, p.2.stored, p.2.expire, p.2.id⟩)

/-- the five lookups of the scenarios and otter's expiration tick of the primed entry, evaluated -/
theorem look_facts :
    look e2eMem0 (3300 * msNs) = some (true, 1) ∧ look e2eMem0 (3550 * msNs) = some (true, 1) ∧
    look e2eMem3 (3950 * msNs) = some (false, 4) ∧
    look e2eMem0 (3700 * msNs) = some (true, 1) ∧ look e2eMem0 (4600 * msNs) = none ∧
    (e2eMem0 0).map (·.expTick) = some 4 := by decide

theorem look_some (mem : Mem) (t : Nat) (b : Bool) (ttl : Nat) (h : look mem t = some (b, ttl)) :
    ∃ sv e, cacheGet e2eClock mem 0 t = some (sv, e) ∧ needPrefetch e.stored e.expire t = b ∧
      ttlOfHit ⟨sv, e.stored, e.expire, e.id⟩ = ttl := by
  unfold look at h
  cases hg : cacheGet e2eClock mem 0 t with
  | none => simp [hg] at h
  | some p =>
    obtain ⟨sv, e⟩ := p
    simp only [hg, Option.map_some, Option.some.injEq, Prod.mk.injEq] at h
    exact ⟨sv, e, rfl, h.1, h.2⟩

theorem look_none (mem : Mem) (t : Nat) (h : look mem t = none) : cacheGet e2eClock mem 0 t = none := by
  unfold look at h
  cases hg : cacheGet e2eClock mem 0 t with
  | none => rfl
  | some p => simp [hg] at h

/-- the results of a wave read off a client list that is known position by position -/
theorem waveResult_of (s : State) (first n : Nat) (hn : 0 < n) (h : Hit)
    (hc : ∀ i, i < n → s.clients[first + i]? = some ⟨0, .responded h⟩) :
    waveResult s first n = (n, ttlOfHit h) := by
  have hl : (s.clients.drop first).take n = List.replicate n ⟨0, .responded h⟩ := by
    apply List.ext_getElem?
    intro i
    by_cases hi : i < n
    · simp [List.getElem?_take, hc i hi, hi]
    · simp [List.getElem?_take, hi]
  unfold waveResult
  simp only [hl]
  have hf : (List.replicate n (⟨0, .responded h⟩ : Client)).filterMap respondedTtl = List.replicate n (ttlOfHit h) := by
    clear hl hc hn
    induction n with
    | zero => rfl
    | succ m ih => simp [List.replicate_succ, respondedTtl, ih]
  rw [hf]
  cases n with
  | zero => omega
  | succ m => simp [List.replicate_succ, commonTtl]

/-- wave 1, for every `n ≥ 1`: all `n` clients answered with TTL 1, exactly one refresh started -/
theorem afterWave1 (n : Nat) (hn : 0 < n) :
    ∃ h1 : Hit, ttlOfHit h1 = 1 ∧
      (e2eAfterWave1 n).mem = e2eMem0 ∧ (e2eAfterWave1 n).nextId = 2 ∧
      (e2eAfterWave1 n).queue = (reserve Queue.empty 0).1 ∧
      (e2eAfterWave1 n).refreshers = [⟨0, 0, .spawned⟩] ∧
      (e2eAfterWave1 n).clients =
        markRange (init e2eMem0 (List.replicate (2 * n + 2) 0) 2).clients 0 n ⟨0, .responded h1⟩ := by
  obtain ⟨l1, -, -, -, -, -⟩ := look_facts
  obtain ⟨sv1, e1, g1, need1, ttl1⟩ := look_some _ _ _ _ l1
  have hs1 := wave_run e2eParams 0 (3300 * msNs) sv1 e1 0 n (init e2eMem0 (List.replicate (2 * n + 2) 0) 2)
      (fun i hi => by rw [Nat.zero_add]; exact init_clients _ _ _ _ (by omega)) g1
  have sp1 : spawns e2eParams (init e2eMem0 (List.replicate (2 * n + 2) 0) 2) 0 e1 (3300 * msNs) = true :=
    spawns_true _ _ _ _ _ need1 rfl
  obtain ⟨q1, r1⟩ := waveState_spawned e2eParams _ 0 (3300 * msNs) sv1 e1 0 n sp1 hn
  have hrun : e2eAfterWave1 n =
      waveState e2eParams (init e2eMem0 (List.replicate (2 * n + 2) 0) 2) 0 (3300 * msNs) sv1 e1 0 n := hs1
  rw [hrun]
  exact ⟨⟨sv1, e1.stored, e1.expire, e1.id⟩, ttl1, rfl, rfl, q1, r1, rfl⟩

theorem base_len (n : Nat) : (init e2eMem0 (List.replicate (2 * n + 2) 0) 2).clients.length = 2 * n + 2 := by
  simp [init]

/-- mode 0 (the refresh succeeds), for every `n ≥ 1`: both waves are answered from the old entry with TTL 1, one
    refresh goroutine in all, and the query after it sees the renewed TTL 4 -/
theorem finalOk (n : Nat) (hn : 0 < n) :
    waveResult (e2eFinalOk n 500) 0 n = (n, 1) ∧ waveResult (e2eFinalOk n 500) n n = (n, 1) ∧
    (e2eFinalOk n 500).refreshers.length = 1 ∧ probeResult (e2eFinalOk n 500) (2 * n) = some (true, 4) := by
  obtain ⟨-, l2, l3, -, -, -⟩ := look_facts
  obtain ⟨sv2, e2, g2, -, ttl2⟩ := look_some _ _ _ _ l2
  obtain ⟨sv3, e3, g3, need3, ttl3⟩ := look_some _ _ _ _ l3
  obtain ⟨h1, ttl1, m1, id1, q1, r1, c1⟩ := afterWave1 n hn
  -- wave 2: the reservation is held, nobody spawns
  have hs2 := wave_run e2eParams 0 (3550 * msNs) sv2 e2 n n (e2eAfterWave1 n)
      (fun i hi => by
        rw [c1, markRange_get_out _ _ _ _ _ (by omega)]
        exact init_clients _ _ _ _ (by omega)) (by rw [m1]; exact g2)
  have sp2 : spawns e2eParams (e2eAfterWave1 n) 0 e2 (3550 * msNs) = false :=
    spawns_false _ _ _ _ _ (.inr (by rw [q1]; exact reserve_fst_self Queue.empty 0 rfl))
  obtain ⟨q2, r2⟩ := waveState_quiet e2eParams (e2eAfterWave1 n) 0 (3550 * msNs) sv2 e2 n n sp2
  generalize hS2 : waveState e2eParams (e2eAfterWave1 n) 0 (3550 * msNs) sv2 e2 n n = S2 at hs2 q2 r2
  have c2 : S2.clients = markRange (e2eAfterWave1 n).clients n n ⟨0, .responded ⟨sv2, e2.stored, e2.expire, e2.id⟩⟩ := by
    rw [← hS2]; rfl
  have m2 : S2.mem = e2eMem0 := by rw [← hS2]; exact m1
  have id2 : S2.nextId = 2 := by rw [← hS2]; exact id1
  rw [r1] at r2
  -- the refresh returns, stores, releases
  have hs3 : run e2eParams S2 [.forward 0 (.reply (aRecord 4)), .store 0 (3800 * msNs) 0, .done 0] =
      { S2 with mem := e2eMem3, nextId := 3, queue := done S2.queue 0, refreshers := [⟨0, 0, .finished⟩] } := by
    rw [refresh_run e2eParams S2 0 ⟨0, 0, .spawned⟩ _ _ 0 (by rw [r2]; rfl) rfl, r2, m2, id2]
    rfl
  generalize hS3 : ({ S2 with mem := e2eMem3, nextId := 3, queue := done S2.queue 0, refreshers := [⟨0, 0, .finished⟩] } : State) = S3 at hs3
  have c3 : S3.clients = S2.clients := by rw [← hS3]
  have m3 : S3.mem = e2eMem3 := by rw [← hS3]
  have r3 : S3.refreshers = [⟨0, 0, .finished⟩] := by rw [← hS3]
  have len1 : (e2eAfterWave1 n).clients.length = 2 * n + 2 := by rw [c1, markRange_length, base_len]
  -- the last query: fresh entry, TTL 4, outside the window
  have cl : S3.clients[2 * n]? = some ⟨0, .start⟩ := by
    rw [c3, c2, markRange_get_out _ _ _ _ _ (by omega), c1, markRange_get_out _ _ _ _ _ (by omega)]
    exact init_clients _ _ _ _ (by omega)
  have hs4 := client_run e2eParams S3 (2 * n) (3950 * msNs) 0 sv3 e3 cl (by rw [m3]; exact g3)
  have sp3 : spawns e2eParams S3 0 e3 (3950 * msNs) = false := spawns_false _ _ _ _ _ (.inl need3)
  rw [sp3] at hs4
  simp only [Bool.false_eq_true, if_false] at hs4
  have hfinal : e2eFinalOk n 500 = { S3 with clients := S3.clients.set (2 * n) ⟨0, .responded ⟨sv3, e3.stored, e3.expire, e3.id⟩⟩ } := by
    unfold e2eFinalOk e2eT1
    simp only
    rw [show (3300 + 500 / 2) * msNs = 3550 * msNs from rfl, show (3300 + 500) * msNs = 3800 * msNs from rfl,
      show (3300 + 500 + 150) * msNs = 3950 * msNs from rfl, hs2, hs3, hs4]
  rw [hfinal]
  have len2 : S2.clients.length = 2 * n + 2 := by rw [c2, markRange_length, len1]
  refine ⟨?_, ?_, ?_, ?_⟩
  · rw [waveResult_of _ 0 n hn h1, ttl1]
    intro i hi
    show (S3.clients.set (2 * n) _)[0 + i]? = _
    rw [List.getElem?_set_ne (by omega), c3, c2, markRange_get_out _ _ _ _ _ (by omega), c1]
    exact markRange_get_in _ _ _ _ _ (by omega) (by rw [base_len]; omega)
  · rw [waveResult_of _ n n hn ⟨sv2, e2.stored, e2.expire, e2.id⟩, ttl2]
    intro i hi
    show (S3.clients.set (2 * n) _)[n + i]? = _
    rw [List.getElem?_set_ne (by omega), c3, c2]
    exact markRange_get_in _ _ _ _ _ (by omega) (by rw [len1]; omega)
  · show S3.refreshers.length = 1
    rw [r3]; rfl
  · unfold probeResult
    show (match (S3.clients.set (2 * n) _)[2 * n]? with | some c => _ | none => none) = _
    rw [List.getElem?_set_self (by rw [c3, len2]; omega)]
    simp [ttl3]

/-- a refresh that ends badly (mode 1: the exchange fails, mode 2: NXDOMAIN): the reservation is released; the
    cache is unchanged when the exchange failed, or when the NXDOMAIN comes while the entry is still alive (before
    tick 4 of the cache clock) -/
theorem bad_refresh (mode : Nat) (hm : mode = 1 ∨ mode = 2) (S : State) (j t : Nat)
    (hr : S.refreshers[j]? = some ⟨0, 0, .spawned⟩) (hmem : S.mem = e2eMem0) :
    ∃ S', run e2eParams S [.forward j (e2eOutcome mode), .store j t 0, .done j] = S' ∧
      ((mode = 1 ∨ e2eClock t < 4) → S'.mem = e2eMem0) ∧ S'.clients = S.clients ∧ S'.queue = done S.queue 0 ∧
      S'.refreshers = S.refreshers.set j ⟨0, 0, .finished⟩ := by
  refine ⟨_, refresh_run e2eParams S j _ (e2eOutcome mode) t 0 hr rfl, ?_, rfl, rfl, rfl⟩
  rcases hm with rfl | rfl
  · exact fun _ => hmem
  · intro h
    rcases h with h | h
    · cases h
    · -- the entry is alive (otter's expiration tick is 4): the set-if-absent store is refused
      have hf := look_facts.2.2.2.2.2
      cases he0 : e2eMem0 0 with
      | none => rw [he0] at hf; cases hf
      | some e0 =>
        rw [he0, Option.map_some, Option.some.injEq] at hf
        show cacheStore e2eParams.clock e2eParams.cfg S.mem 0 (some (removeEDNS0 ⟨3, false, [], [], []⟩)) t 0
          S.nextId = e2eMem0
        rw [hmem]
        exact cacheStore_neg_present _ _ _ _ _ _ _ _ e0 (by decide) he0 (by rw [hf]; exact h)

/-- modes 1 and 2 (the refresh ends badly), for every `n ≥ 1`: wave 1 is answered with TTL 1, the later query
    still gets the old entry (TTL 1) and starts the second refresh goroutine -/
theorem finalBad (mode : Nat) (hm : mode = 1 ∨ mode = 2) (n : Nat) (hn : 0 < n) :
    waveResult (e2eFinalBad mode n 300) 0 n = (n, 1) ∧ (e2eFinalBad mode n 300).refreshers.length = 2 ∧
    probeResult (e2eFinalBad mode n 300) (2 * n) = some (true, 1) := by
  obtain ⟨-, -, -, l4, l5, -⟩ := look_facts
  obtain ⟨sv4, e4, g4, need4, ttl4⟩ := look_some _ _ _ _ l4
  have g5 := look_none _ _ l5
  obtain ⟨h1, ttl1, m1, -, q1, r1, c1⟩ := afterWave1 n hn
  have len1 : (e2eAfterWave1 n).clients.length = 2 * n + 2 := by rw [c1, markRange_length, base_len]
  -- the first refresh ends badly
  obtain ⟨S2, hs2, m2', c2, q2, r2⟩ := bad_refresh mode hm (e2eAfterWave1 n) 0 (3600 * msNs) (by rw [r1]; rfl) m1
  have m2 : S2.mem = e2eMem0 := m2' (Or.inr (by decide))
  rw [r1] at r2
  have q2' : S2.queue 0 = false := by rw [q2]; simp [done]
  -- 100 ms later: still served (TTL 1), and the next refresh starts
  have cl : S2.clients[2 * n]? = some ⟨0, .start⟩ := by
    rw [c2, c1, markRange_get_out _ _ _ _ _ (by omega)]
    exact init_clients _ _ _ _ (by omega)
  have hs3 := client_run e2eParams S2 (2 * n) (3700 * msNs) 0 sv4 e4 cl (by rw [m2]; exact g4)
  have sp3 : spawns e2eParams S2 0 e4 (3700 * msNs) = true := spawns_true _ _ _ _ _ need4 q2'
  rw [sp3] at hs3
  simp only [if_true] at hs3
  generalize hS3 : run e2eParams S2 (clientLabels (2 * n) (3700 * msNs)) = S3 at hs3
  have c3 : S3.clients = S2.clients.set (2 * n) ⟨0, .responded ⟨sv4, e4.stored, e4.expire, e4.id⟩⟩ := by rw [hs3]
  have m3 : S3.mem = e2eMem0 := by rw [hs3]; exact m2
  have r3 : S3.refreshers = [⟨0, 0, .finished⟩, ⟨0, 0, .spawned⟩] := by rw [hs3]; simp [r2, e2eParams]
  -- the second refresh ends the same way
  obtain ⟨S4, hs4, m4', c4, -, r4⟩ := bad_refresh mode hm S3 1 (4000 * msNs) (by rw [r3]; rfl) m3
  rw [r3] at r4
  have len2 : S2.clients.length = 2 * n + 2 := by rw [c2, len1]
  have cw : ∀ i, i < n → S4.clients[0 + i]? = some ⟨0, .responded h1⟩ := by
    intro i hi
    rw [c4, c3, List.getElem?_set_ne (by omega), c2, c1]
    exact markRange_get_in _ _ _ _ _ (by omega) (by rw [base_len]; omega)
  have cp : S4.clients[2 * n]? = some ⟨0, .responded ⟨sv4, e4.stored, e4.expire, e4.id⟩⟩ := by
    rw [c4, c3, List.getElem?_set_self (by rw [len2]; omega)]
  have hrun : run e2eParams (run e2eParams (run e2eParams (e2eAfterWave1 n)
        [.forward 0 (e2eOutcome mode), .store 0 (3600 * msNs) 0, .done 0])
        (clientLabels (2 * n) (3700 * msNs)))
        [.forward 1 (e2eOutcome mode), .store 1 (4000 * msNs) 0, .done 1] = S4 := by
    rw [hs2, hS3, hs4]
  rcases hm with hm | hm
  · -- mode 1: a last query after expiry misses
    subst hm
    have cl5 : S4.clients[2 * n + 1]? = some ⟨0, .start⟩ := by
      rw [c4, c3, List.getElem?_set_ne (by omega), c2, c1, markRange_get_out _ _ _ _ _ (by omega)]
      exact init_clients _ _ _ _ (by omega)
    have m4 : S4.mem = e2eMem0 := m4' (Or.inl rfl)
    have hs5 := client_run_miss e2eParams S4 (2 * n + 1) (4600 * msNs) 0 cl5 (by rw [m4]; exact g5)
    have hfinal : e2eFinalBad 1 n 300 = { S4 with clients := S4.clients.set (2 * n + 1) ⟨0, .missed⟩ } := by
      unfold e2eFinalBad e2eT1
      simp only [if_true]
      rw [show (3300 + 300) * msNs = 3600 * msNs from rfl, show (3300 + 300 + 100) * msNs = 3700 * msNs from rfl,
        show (3300 + 2 * 300 + 100) * msNs = 4000 * msNs from rfl, hrun, hs5]
    rw [hfinal]
    refine ⟨?_, ?_, ?_⟩
    · rw [waveResult_of _ 0 n hn h1, ttl1]
      intro i hi
      show (S4.clients.set (2 * n + 1) _)[0 + i]? = _
      rw [List.getElem?_set_ne (by omega)]; exact cw i hi
    · show S4.refreshers.length = 2
      rw [r4]; rfl
    · unfold probeResult
      show (match (S4.clients.set (2 * n + 1) _)[2 * n]? with | some c => _ | none => none) = _
      rw [List.getElem?_set_ne (by omega), cp]
      simp [ttl4]
  · subst hm
    have hfinal : e2eFinalBad 2 n 300 = S4 := by
      unfold e2eFinalBad e2eT1
      simp only [show (2 : Nat) = 1 ↔ False from by decide, if_false]
      rw [show (3300 + 300) * msNs = 3600 * msNs from rfl, show (3300 + 300 + 100) * msNs = 3700 * msNs from rfl,
        show (3300 + 2 * 300 + 100) * msNs = 4000 * msNs from rfl, hrun]
    rw [hfinal]
    refine ⟨?_, ?_, ?_⟩
    · rw [waveResult_of _ 0 n hn h1 cw, ttl1]
    · rw [r4]; rfl
    · unfold probeResult
      rw [cp]; simp [ttl4]

/-- the scenario model satisfies the specification: every mode, every number `n ≥ 1` of hits per wave (with the
    harness' upstream delays: 500 ms in mode 0, 300 ms in modes 1 and 2) -/
theorem specE2E_model (mode n : Nat) (hm : mode ≤ 2) (hn : 0 < n) :
    specE2E mode n (modelE2E mode n (if mode = 0 then 500 else 300)) = true := by
  have hm3 : mode = 0 ∨ mode = 1 ∨ mode = 2 := by omega
  rcases hm3 with h | h | h
  · subst h
    obtain ⟨w1, w2, r, p⟩ := finalOk n hn
    simp [modelE2E, specE2E, w1, w2, r, p]
  · subst h
    obtain ⟨w1, r, p⟩ := finalBad 1 (Or.inl rfl) n hn
    simp [modelE2E, specE2E, w1, r, p]
  · subst h
    obtain ⟨w1, r, p⟩ := finalBad 2 (Or.inr rfl) n hn
    simp [modelE2E, specE2E, w1, r, p]

end MosVerif.Prefetch
