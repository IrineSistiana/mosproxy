/-
  The upstream query of the request-handling model (Model/Router.lean `reqMsg` / `packReq`) against the
  executable specification's view of it (Model/RouterIO.lean `wantEcs`, `checkForwarded`):

    * lower-casing keeps a name well formed (`nameWF_lowerName`): length octets are ≤ 63, hence not letters;
    * the ECS option the model builds is octet for octet the one the specification expects (`reqData_eq`),
      for client addresses of ANY length (the mask leaves the kept octets untouched);
    * `reqMsg env q` is a well-formed message whenever the question is (`reqMsg_wf`);
    * therefore `packReq` succeeds and its bytes decode back to `reqMsg env q` (`packReq_decodes`),
      by the codec round trip of C02;
    * so the query of a background refresh passes the specification's judgement of a forwarded query
      (`checkForwarded_packReq`).
-/
import MosVerif.Lemmas.CodecWF
import MosVerif.Lemmas.RouterBasic
import MosVerif.Model.RouterIO
namespace MosVerif.Router
open MosVerif MosVerif.Wire MosVerif.RouterIO

theorem lowerByte_small (l : UInt8) (h : l.toNat ≤ 63) : lowerByte l = l := by
  unfold lowerByte
  rw [if_neg (by omega)]

theorem lowerName_append (a b : Name) : lowerName (a ++ b) = lowerName a ++ lowerName b := by
  simp [lowerName]

theorem lowerName_cons (l : UInt8) (a : Name) : lowerName (l :: a) = lowerByte l :: lowerName a := by
  simp [lowerName]

theorem labels_lowerName {n : Name} (h : Labels n) : Labels (lowerName n) := by
  induction h with
  | nil => exact Labels.nil
  | cons l lab rest h0 h63 hl _ ih =>
    rw [lowerName_cons, lowerName_append, lowerByte_small l h63]
    exact Labels.cons l (lowerName lab) (lowerName rest) h0 h63 (by rw [lowerName_length]; exact hl) ih

theorem nameWF_lowerName (n : Name) (h : nameWF n = true) : nameWF (lowerName n) = true := by
  rw [nameWF_iff] at h ⊢
  exact ⟨by rw [lowerName_length]; exact h.1, labels_lowerName h.2⟩

theorem questionWF_lower (q0 : Question) (h : questionWF q0 = true) :
    questionWF ⟨lowerName q0.name, q0.qtype, q0.qclass⟩ = true := by
  simp only [questionWF, Bool.and_eq_true] at h ⊢
  exact ⟨⟨nameWF_lowerName _ h.1.1, h.1.2⟩, h.2⟩

theorem maskBytes_getElem? (b : Bytes) (bits i : Nat) (h : (i + 1) * 8 ≤ bits) : (maskBytes b bits)[i]? = b[i]? := by
  unfold maskBytes
  rw [List.getElem?_map]
  by_cases hi : i < b.length
  · rw [List.getElem?_range hi]
    simp only [Option.map_some, if_pos h, List.getElem?_eq_getElem hi]
  · rw [List.getElem?_eq_none (Nat.le_of_not_lt hi),
      List.getElem?_eq_none (by rw [List.length_range]; exact Nat.le_of_not_lt hi)]
    rfl

theorem maskBytes_take (b : Bytes) (bits k : Nat) (hk : k * 8 ≤ bits) : (maskBytes b bits).take k = b.take k := by
  apply List.ext_getElem?
  intro i
  rw [List.getElem?_take, List.getElem?_take]
  split
  · exact maskBytes_getElem? b bits i (by omega)
  · rfl

/-- the ECS option of an IPv4 client -/
theorem makeECS_v4 {a : Addr} {b : Bytes} (h : a.unmap = .v4 b) :
    makeECS a = some ([0, 8, 0, 7, 0, 1, 24, 0] ++ b.take 3) := by
  -- the prefix is whole octets (3 · 8 ≤ 24), so the mask changes none of the octets kept
  have whole : ecsKeep4 * 8 ≤ ecsMask4 := by decide
  unfold makeECS
  rw [h]
  simp only
  rw [maskBytes_take b ecsMask4 ecsKeep4 whole]
  -- what is left are the constants: code 8, length 7, family 1, /24, scope 0, and 3 octets kept
  rfl

theorem makeECS_v6 {a : Addr} {b : Bytes} (h : a.unmap = .v6 b) :
    makeECS a = some ([0, 8, 0, 11, 0, 2, 56, 0] ++ b.take 7) := by
  have whole : ecsKeep6 * 8 ≤ ecsMask6 := by decide
  unfold makeECS
  rw [h]
  simp only
  rw [maskBytes_take b ecsMask6 ecsKeep6 whole]
  rfl

/-- ★ the option data the model sends is exactly what the specification expects (`wantEcs`).  The guard is written
    as in `C12.ecs_matches_spec`; `reqMsg` has it as `ecsGuard`, which `Bool.and_eq_true` turns into this. -/
theorem reqData_eq (env : Env) :
    (if env.ecs ∧ env.addr.isValid then (makeECS env.addr).getD [] else []) = wantEcs env := by
  unfold wantEcs
  split
  · cases hu : env.addr.unmap with
    | none =>
      unfold makeECS
      rw [hu]
      rfl
    | v4 b =>
      rw [makeECS_v4 hu]
      rfl
    | v6 b =>
      rw [makeECS_v6 hu]
      rfl
  · rfl

/-- at most 8 + 7 octets of option data -/
theorem wantEcs_length (env : Env) : (wantEcs env).length ≤ 15 := by
  unfold wantEcs
  split
  · split
    · simp only [List.length_append, List.length_cons, List.length_nil, List.length_take]
      omega
    · simp only [List.length_append, List.length_cons, List.length_nil, List.length_take]
      omega
    · simp
  · simp

/-- the proxy's own OPT record carrying `d` as its options -/
def ownOpt (d : Bytes) : Resource := ⟨[], typeOPT, 1200, 0, .raw d⟩

theorem udpSize_eq : udpSize = 1200 := rfl

theorem newEDNS0_udp (d : Bytes) : newEDNS0 udpSize d = ownOpt d := by
  rw [udpSize_eq]
  rfl

/-- ★ the upstream query, spelled out in the specification's terms -/
theorem reqMsg_eq (env : Env) (q : Question) :
    reqMsg env q = ⟨{ emptyHdr with rd := true }, [q], [], [], [ownOpt (wantEcs env)]⟩ := by
  unfold reqMsg
  simp only [ecsGuard, Bool.and_eq_true, reqData_eq, newEDNS0_udp]

theorem ownOpt_wf (d : Bytes) (h : d.length ≤ 65535) : resourceWF (ownOpt d) = true := by
  have hn : nameWF [] = true := nameWF_nil
  simp only [resourceWF, ownOpt, hn, rdataWF, Bool.true_and, Bool.and_eq_true, decide_eq_true_eq]
  refine ⟨⟨⟨by decide, by decide⟩, by decide⟩, by decide, h⟩

theorem reqMsg_wf (env : Env) (q : Question) (hq : questionWF q = true) : msgWF (reqMsg env q) = true := by
  rw [reqMsg_eq]
  have ho := ownOpt_wf (wantEcs env) (by have := wantEcs_length env; omega)
  simp only [msgWF, List.all_cons, List.all_nil, hq, ho, Bool.and_true, List.length_cons,
    List.length_nil, Bool.and_eq_true, decide_eq_true_eq]
  refine ⟨⟨⟨⟨by decide, by omega⟩, by omega⟩, by omega⟩, by omega⟩

/-- ★ key sub-lemma: `packReq` never fails on a well-formed question, and what it sends decodes back to
    `reqMsg env q` (C02 round trip, no compression, buffer of `Msg.Len()` octets). -/
theorem packReq_decodes (env : Env) (q : Question) (hq : questionWF q = true) :
    ∃ wire, packReq env q = .ok wire ∧ unpackMsg wire = .ok (reqMsg env q) := by
  obtain ⟨bs, h1, _, _, h4, _⟩ := packMsg_roundtrip (reqMsg env q) false (reqMsg_wf env q hq)
  exact ⟨bs, h1, h4⟩

theorem packReq_ok_decodes (env : Env) (q : Question) (hq : questionWF q = true) (wire : Bytes)
    (h : packReq env q = .ok wire) : unpackMsg wire = .ok (reqMsg env q) := by
  obtain ⟨w, h1, h2⟩ := packReq_decodes env q hq
  rw [h] at h1
  cases h1
  exact h2

/-- ★ refresh path: the query a background refresh sends (`packReq` again, same client address) passes the
    C10/C12 judgement of a forwarded query. -/
theorem checkForwarded_packReq (env : Env) (q : Question) (hq : questionWF q = true) (wire : Bytes)
    (h : packReq env q = .ok wire) : checkForwarded env q wire = "ok" := by
  unfold checkForwarded
  rw [packReq_ok_decodes env q hq wire h, reqMsg_eq]
  -- the decoded query is a literal: each test of `checkForwarded` compares two of its fields and reduces
  simp only [ne_eq, not_true_eq_false, ↓reduceIte, Bool.not_true, Bool.false_eq_true, emptyHdr, or_self, ownOpt]

end MosVerif.Router
