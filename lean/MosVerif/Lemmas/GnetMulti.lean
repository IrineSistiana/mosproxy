/-
  C13 — several connections: a connection's state is a function of its own events only, and each
  connection refines its own reference run.
-/
import MosVerif.Model.GnetMulti
import MosVerif.Lemmas.GnetResp
namespace MosVerif.GnetMulti
open MosVerif.Gnet

theorem proj_cons (k : Nat) (o : MOp) (ops : List MOp) :
    proj k (o :: ops) = if o.k = k then o.op :: proj k ops else proj k ops := by
  by_cases h : o.k = k <;> simp [proj, h]

/-- ★ independence: after ANY interleaving of the events of several connections, the state of
    connection `k` is what its own events alone produce from its own initial state. -/
theorem mrun_proj (dec : Bytes → Bool) (max : Nat) (ops : List MOp) (s : Listener) (k : Nat) :
    mrun dec max ops s k = lrun dec max (proj k ops) (s k) := by
  induction ops generalizing s with
  | nil => rfl
  | cons o ops ih =>
    show mrun dec max ops (mstep dec max s o) k = _
    rw [ih, proj_cons, mstep]
    by_cases h : o.k = k
    · rw [if_pos h, if_pos h.symm]; rfl
    · rw [if_neg h, if_neg fun e => h e.symm]

structure MSim (m : MConn) (r : MRef) : Prop where
  opened : m.opened = r.opened
  gone : m.gone = r.gone
  late : m.late = r.late
  sim : Sim m.c r.r

theorem msim_init : MSim {} {} := ⟨rfl, rfl, rfl, sim_init⟩

/-- related states differ in the connection only -/
theorem MSim.cases {m : MConn} {r : MRef} (hs : MSim m r) :
    ∃ c rr o g l, m = ⟨c, o, g, l⟩ ∧ r = ⟨rr, o, g, l⟩ ∧ Sim c rr := by
  obtain ⟨c, o, g, l⟩ := m
  obtain ⟨rr, o', g', l'⟩ := r
  obtain ⟨rfl, rfl, rfl, h⟩ : o = o' ∧ g = g' ∧ l = l' ∧ Sim c rr := ⟨hs.opened, hs.gone, hs.late, hs.sim⟩
  exact ⟨c, rr, o, g, l, rfl, rfl, h⟩

def lopOk (m : MRef) : LOp → Bool
  | .seg bs => !(m.opened && !m.gone) || opNoEmpty m.r (.seg bs)
  | _ => true

theorem lnoEmpty_cons (dec : Bytes → Bool) (max : Nat) (op : LOp) (ops : List LOp) (m : MRef) :
    lnoEmpty dec max (op :: ops) m = (lopOk m op && lnoEmpty dec max ops (lrefStep dec max m op)) := by
  cases op <;> rfl

/-- Once the flags are known every event either leaves both states alone or is a step of the single
    connection (`sim_step`), or a late completion: a `rel` without the write (`Sim.completion`). -/
theorem msim_step (dec : Bytes → Bool) (max : Nat) (m : MConn) (r : MRef) (op : LOp)
    (hs : MSim m r) (hok : lopOk r op = true) :
    MSim (lstep dec max m op) (lrefStep dec max r op) := by
  obtain ⟨c, rr, o, g, l, rfl, rfl, h⟩ := hs.cases
  cases op with
  | opn =>
    cases o
    · exact ⟨rfl, rfl, rfl, sim_init⟩
    · exact hs
  | seg bs =>
    cases o
    · exact hs
    · cases g
      · exact ⟨rfl, rfl, rfl, sim_step dec max c rr (.seg bs) h hok⟩
      · exact hs
  | cls =>
    cases o
    · exact hs
    · exact ⟨rfl, rfl, rfl, h⟩
  | rel j =>
    cases o
    · exact hs
    · cases g
      · exact ⟨rfl, rfl, rfl, sim_step dec max c rr (.rel j) h rfl⟩
      · show MSim (match c.pending[j]? with | none => _ | some _ => _)
          (match rr.pending[j]? with | none => _ | some _ => _)
        rw [← h.pending]
        cases c.pending[j]? with
        | none => exact hs
        | some _ => exact ⟨rfl, rfl, rfl, h.completion (by rw [h.pending]) h.writes fun e => by rw [e]⟩

theorem msim_run (dec : Bytes → Bool) (max : Nat) (ops : List LOp) (m : MConn) (r : MRef)
    (hs : MSim m r) (hne : lnoEmpty dec max ops r = true) :
    MSim (lrun dec max ops m) (lrefRun dec max ops r) := by
  induction ops generalizing m r with
  | nil => exact hs
  | cons op ops ih =>
    rw [lnoEmpty_cons, Bool.and_eq_true] at hne
    exact ih _ _ (msim_step dec max m r op hs hne.1) hne.2

theorem msim_drain {m : MConn} {r : MRef} (hs : MSim m r) : MSim (mdrain m) (mrefDrain r) := by
  obtain ⟨c, rr, o, g, l, rfl, rfl, h⟩ := hs.cases
  cases g
  · exact ⟨rfl, rfl, rfl, sim_drain h⟩
  · exact ⟨rfl, rfl, congrArg (fun p : List Bytes => l + p.length) h.pending, h.completion rfl h.writes fun e => by rw [e, h.pending]⟩

theorem cobs_of_msim {m : MConn} {r : MRef} (hs : MSim m r) : cobsOf m = cobsOfRef r := by
  rw [cobsOf, cobsOfRef, hs.late, hs.sim.log, hs.sim.writes, hs.sim.closed]

end MosVerif.GnetMulti
