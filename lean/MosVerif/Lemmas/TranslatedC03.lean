/-
  Tie by translation (C03): the "not implemented" predicate of `router.handleReqMsg` (app/router/router.go), the
  size floor of `newEDNS0` (app/router/utils.go) and the client-size computation of the UDP listener
  (app/router/server_udp.go `handleReq`: OPT class, floor 512, cap `maxUdpPayloadSize`) are translated mechanically
  from the current Go source (`Generated/Translated.lean`); the model's `Router.handle`, `Router.newEDNS0` and
  `Listeners.udpClientSize` are proved to compute exactly the translated fragments, for all arguments.
-/
import MosVerif.Generated.Translated
import MosVerif.Lemmas.TranslatedTactics
import MosVerif.Model.Router
import MosVerif.Model.Listeners
namespace MosVerif.Router
open MosVerif MosVerif.Wire

theorem id_pure_c03 {α : Type} (x : α) : (pure x : Id α) = x := rfl

theorem c03_edns0Size_eq (size : Nat) : Translated.c03_edns0Size size = if size < 512 then 512 else size := by
  unfold Translated.c03_edns0Size
  tr_val

/-- the predicate `handle` branches on is the translated `notImpl := hdr.Response || !hdr.RecursionDesired ||
    hdr.OpCode != dnsmsg.OpCode(0) || len(m.Questions) != 1` -/
theorem notImpl_translated (m : Msg) :
    (m.hdr.response || !m.hdr.rd || m.hdr.opcode != 0 || m.questions.length != 1) =
      Translated.c03_notImpl m.hdr.response m.hdr.rd m.hdr.opcode m.questions.length := by
  unfold Translated.c03_notImpl
  cases m.hdr.response <;> cases m.hdr.rd <;> bool_arith

/-- `handle` is the function that branches on the translated predicate -/
theorem handle_translated (env : Env) (m : Msg) :
    handle env m =
      let notImpl := Translated.c03_notImpl m.hdr.response m.hdr.rd m.hdr.opcode m.questions.length
      let (resp, idx, fw) :=
        if notImpl then (makeEmptyRespM m rcodeNotImp, 0, [])
        else
          match m.questions with
          | q0 :: _ =>
            let q : Question := { q0 with name := lowerName q0.name }
            let (resp, idx, fw) := handleReq env q
            let clientEDNS0 := queryHasOptAny m
            let resp := if clientEDNS0 then addOrReplaceOpt resp else removeEDNS0 resp
            (resp, idx, fw)
          | [] => (makeEmptyRespM m rcodeNotImp, 0, [])
      let resp := { resp with hdr := { resp.hdr with id := m.hdr.id, response := true, opcode := m.hdr.opcode, ra := true, rd := m.hdr.rd } }
      ⟨resp, idx, fw⟩ := by
  rw [← notImpl_translated]
  rfl

/-- `newEDNS0`: the class of the OPT record is the translated `if udpSize < 512 { udpSize = 512 }` -/
theorem newEDNS0_translated (size : Nat) (data : Bytes) :
    newEDNS0 size data = ⟨[], typeOPT, Translated.c03_edns0Size size, 0, .raw data⟩ := by
  rw [c03_edns0Size_eq]
  rfl

/-- the UDP listener's client limit is the translated statements `clientUdpSize := 0` … `if clientUdpSize >
    maxUdpPayloadSize { clientUdpSize = maxUdpPayloadSize }` (`optHdr`: whatever `queryOpt(m)` returned) -/
theorem udpClientSize_translated (optHdr : Nat) (opt : Bool) (size : Nat) :
    Listeners.udpClientSize opt size = Translated.c03_udpClientSize optHdr opt size := by
  -- `Nat.min` is the `min` that `omega` knows
  show min (if opt ∧ size ≥ 512 then size else 512) 65507 = _
  unfold Translated.c03_udpClientSize
  cases opt <;> tr_val

end MosVerif.Router
