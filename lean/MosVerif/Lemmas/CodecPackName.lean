/-
  Wire codec (C02), on Lemmas/CodecName: the encoder `packName` against the decoder.
  Table invariant `TableOK`, its preservation, and the name-level round trip through the
  compression table; then `Wrote`, `At` and `Enc`, in whose terms Lemmas/CodecRecord and Lemmas/CodecMsg speak of every larger unit.
-/
import MosVerif.Lemmas.CodecName
namespace MosVerif.Wire

/-- the bytes of `buf` at `off` are `k ++ [0]` -/
def LitAt (buf : Bytes) (off : Nat) (k : Bytes) : Prop :=
  ∃ pre post, buf = pre ++ (k ++ 0 :: post) ∧ pre.length = off

theorem LitAt.append {buf : Bytes} {off : Nat} {k : Bytes} (h : LitAt buf off k) (x : Bytes) :
    LitAt (buf ++ x) off k := by
  obtain ⟨pre, post, rfl, hp⟩ := h
  exact ⟨pre, post ++ x, by simp, hp⟩

theorem LitAt.tail {buf : Bytes} {off : Nat} {l : UInt8} {lab rest : Bytes}
    (h : LitAt buf off (l :: (lab ++ rest))) : LitAt buf (off + 1 + lab.length) rest := by
  obtain ⟨pre, post, rfl, hp⟩ := h
  refine ⟨pre ++ l :: lab, post, by simp, ?_⟩
  simp only [List.length_append, List.length_cons]; omega

/-- Every binding `(k, off)` of the compression table points (within 14 bits) at a literal,
    pointer-free, zero-terminated, well-formed name `k` already in the buffer. -/
def TableOK (buf : Bytes) (t : Table) : Prop :=
  ∀ k off, (k, off) ∈ t → off ≤ 16383 ∧ nameWF k = true ∧ LitAt buf off k

/-- lifted to "compression off" = `none` -/
def TableOK' (buf : Bytes) (tbl : Option Table) : Prop := ∀ t, tbl = some t → TableOK buf t

theorem TableOK.nil (buf : Bytes) : TableOK buf [] := by
  intro k off h; simp at h

theorem TableOK.append {buf : Bytes} {t : Table} (h : TableOK buf t) (x : Bytes) : TableOK (buf ++ x) t := by
  intro k off hm
  obtain ⟨h1, h2, h3⟩ := h k off hm
  exact ⟨h1, h2, h3.append x⟩

theorem TableOK'.append {buf : Bytes} {tbl : Option Table} (h : TableOK' buf tbl) (x : Bytes) :
    TableOK' (buf ++ x) tbl := fun t ht => (h t ht).append x

theorem TableOK'.ofNone (buf : Bytes) : TableOK' buf Option.none := by intro t h; simp at h

theorem TableOK'.init (buf : Bytes) (c : Bool) : TableOK' buf (if c then some [] else Option.none) := by
  intro t h
  cases c with
  | false => cases h
  | true =>
    cases h
    exact TableOK.nil _

theorem TableOK.cons {buf : Bytes} {t : Table} (h : TableOK buf t) (k : Bytes) (off : Nat)
    (h1 : off ≤ 16383) (h2 : nameWF k = true) (h3 : LitAt buf off k) : TableOK buf ((k, off) :: t) := by
  intro k' off' hm
  simp only [List.mem_cons, Prod.mk.injEq] at hm
  rcases hm with ⟨rfl, rfl⟩ | hm
  · exact ⟨h1, h2, h3⟩
  · exact h k' off' hm

theorem Table.find_mem {t : Table} {k : Bytes} {off : Nat} (h : Table.find t k = some off) : (k, off) ∈ t := by
  induction t with
  | nil => simp [Table.find] at h
  | cons hd tl ih =>
    obtain ⟨k', v⟩ := hd
    simp only [Table.find] at h
    split at h
    · rename_i hk
      simp only [Option.some.injEq] at h
      subst hk; subst h; simp
    · exact List.mem_cons_of_mem _ (ih h)

theorem ptrLimit_eq : ptrLimit = 16383 := by decide

theorem registerSuffixes_ok {s : Bytes} (hs : Labels s) :
    ∀ (fuel : Nat) (t : Table) (pos : Nat) (buf : Bytes), s.length ≤ 254 → TableOK buf t → LitAt buf pos s →
      TableOK buf (registerSuffixes fuel t pos s) := by
  induction hs with
  | nil =>
    intro fuel t pos buf _ hT _
    cases fuel <;> exact hT
  | cons l lab rest h0 h63 hl hrest ih =>
    intro fuel t pos buf hlen hT hLit
    cases fuel with
    | zero => simpa [registerSuffixes] using hT
    | succ f =>
      simp only [registerSuffixes]
      rw [List.drop_left' hl]
      simp only [List.length_cons, List.length_append] at hlen
      apply ih f _ _ buf (by omega)
      · split
        · rename_i hpos
          rw [ptrLimit_eq] at hpos
          refine hT.cons _ _ hpos ?_ hLit
          rw [nameWF_iff]
          exact ⟨by simp only [List.length_cons, List.length_append]; omega,
            Labels.cons l lab rest h0 h63 hl hrest⟩
        · exact hT
      · rw [← hl]; exact hLit.tail

theorem packNameLoop_none {s : Bytes} (hs : Labels s) :
    ∀ (fuel : Nat) (acc : Bytes), s.length ≤ fuel → packNameLoop fuel none s acc = .ok (acc ++ s, false) := by
  induction hs with
  | nil => intro fuel acc _; cases fuel <;> simp [packNameLoop]
  | cons l lab rest h0 h63 hl _ ih =>
    intro fuel acc hf
    cases fuel with
    | zero => simp at hf
    | succ f =>
      simp only [List.length_cons, List.length_append] at hf
      have hdrop := List.drop_left' (l₂ := rest) hl
      have htake := List.take_left' (l₂ := rest) hl
      have hcond := label_scans rest h0 h63 hl
      simp only [packNameLoop, hcond, if_false, hdrop, htake, Option.bind]
      rw [ih f _ (by omega)]
      simp

/-- With a table: either no suffix hits (the whole name is written) or the first hitting
    suffix `k` (at a label boundary) is replaced by a pointer. -/
theorem packNameLoop_some {s : Bytes} (hs : Labels s) (t : Table) :
    ∀ (fuel : Nat) (acc : Bytes), s.length ≤ fuel →
      packNameLoop fuel (some t) s acc = .ok (acc ++ s, false) ∨
      ∃ p k off, s = p ++ k ∧ Labels p ∧ Labels k ∧ k ≠ [] ∧ t.find k = some off ∧
        packNameLoop fuel (some t) s acc = .ok (acc ++ p ++ ptrBytes off, true) := by
  induction hs with
  | nil => intro fuel acc _; left; cases fuel <;> simp [packNameLoop]
  | cons l lab rest h0 h63 hl hrest ih =>
    intro fuel acc hf
    cases fuel with
    | zero => simp at hf
    | succ f =>
      simp only [List.length_cons, List.length_append] at hf
      have hdrop := List.drop_left' (l₂ := rest) hl
      have htake := List.take_left' (l₂ := rest) hl
      have hcond := label_scans rest h0 h63 hl
      cases hfind : t.find (l :: (lab ++ rest)) with
      | some off =>
        right
        refine ⟨[], l :: (lab ++ rest), off, by simp, Labels.nil, Labels.cons l lab rest h0 h63 hl hrest,
          by simp, hfind, ?_⟩
        simp only [packNameLoop, hcond, if_false, Option.bind, hfind, ptrBytes]
        simp
      | none =>
        have hstep : packNameLoop (f + 1) (some t) (l :: (lab ++ rest)) acc
            = packNameLoop f (some t) rest (acc ++ [l] ++ lab) := by
          simp only [packNameLoop, hcond, if_false, Option.bind, hfind, hdrop, htake]
        rw [hstep]
        rcases ih f (acc ++ [l] ++ lab) (by omega) with h | ⟨p, k, off, hsplit, hp, hk, hne, hf', hres⟩
        · left; rw [h]; simp
        · right
          refine ⟨l :: (lab ++ p), k, off, by simp [hsplit], ?_, hk, hne, hf', ?_⟩
          · exact Labels.cons l lab p h0 h63 hl hp
          · rw [hres]; simp

/-- What `packName` returns on a well-formed name: a literal (and the suffixes registered), or
    a label prefix and a pointer taken from the table. -/
theorem packName_cases (off : Nat) (tbl : Option Table) (n : Name) (hn : nameWF n = true) :
    (packName off tbl n = .ok (n ++ [0], tbl.map (fun t => registerSuffixes n.length t off n))) ∨
    (∃ t p k o, tbl = some t ∧ n = p ++ k ∧ Labels p ∧ Labels k ∧ k ≠ [] ∧ t.find k = some o ∧
        packName off tbl n = .ok (p ++ ptrBytes o, tbl)) := by
  rw [nameWF_iff] at hn
  obtain ⟨hlen, hL⟩ := hn
  unfold packName
  rw [if_neg (by omega)]
  cases tbl with
  | none =>
    left
    rw [packNameLoop_none hL _ _ (Nat.le_refl _)]
    simp
  | some t =>
    rcases packNameLoop_some hL t n.length [] (Nat.le_refl _) with h | ⟨p, k, o, hsplit, hp, hk, hne, hf, hres⟩
    · left; rw [h]; simp
    · right
      refine ⟨t, p, k, o, rfl, hsplit, hp, hk, hne, hf, ?_⟩
      rw [hres]; simp

/-! ### what one encoding step did

  The proofs about questions, records and sections all have the same two halves.  What was written (`Wrote`):
  the table invariant holds for the longer buffer, compression stays on or off, the length is as advertised;
  this composes along `++` (`Wrote.seq`) and holds of octets that do not touch the table (`Wrote.fixed`).
  What is read back (`Enc.reads`): followed through the decoder with `At`, which keeps the place in the message. -/

/-- `msg` is `pre ++ rest`, and `off` is where `rest` begins -/
structure At (msg : Bytes) (off : Nat) (pre rest : Bytes) : Prop where
  eq : msg = pre ++ rest
  off : off = pre.length

theorem At.step {msg : Bytes} {off : Nat} {pre bs rest : Bytes} (h : At msg off pre (bs ++ rest)) :
    At msg (off + bs.length) (pre ++ bs) rest :=
  ⟨by rw [h.eq, List.append_assoc], by rw [h.off, List.length_append]⟩

/-- `At.step` on a buffer kept as header and body, as the section loops keep it -/
theorem At.step_body {msg : Bytes} {off : Nat} {H body bs rest : Bytes} (h : At msg off (H ++ body) (bs ++ rest)) :
    At msg (off + bs.length) (H ++ (body ++ bs)) rest := by
  rw [← List.append_assoc]
  exact h.step

/-- `At.step` with the length of the piece as the numeral the decoder adds (`step32` likewise) -/
theorem At.step16 {msg : Bytes} {off v : Nat} {pre rest : Bytes} (h : At msg off pre (enc16 v ++ rest)) :
    At msg (off + 2) (pre ++ enc16 v) rest := h.step

theorem At.step32 {msg : Bytes} {off v : Nat} {pre rest : Bytes} (h : At msg off pre (enc32 v ++ rest)) :
    At msg (off + 4) (pre ++ enc32 v) rest := h.step

/-- `bs` was appended to `buf` (table `tbl` ↦ `tbl'`); `len` is the advertised (uncompressed) length. -/
structure Wrote (buf : Bytes) (tbl : Option Table) (len : Nat) (bs : Bytes) (tbl' : Option Table) : Prop where
  /-- the table invariant holds for the extended buffer -/
  table : TableOK' (buf ++ bs) tbl'
  /-- compression stays on/off -/
  mode : tbl'.isSome = tbl.isSome
  /-- never longer than the advertised length -/
  le : bs.length ≤ len
  /-- without compression exactly the advertised length -/
  tight : tbl = none → bs.length = len

theorem Wrote.none_tbl {buf : Bytes} {tbl : Option Table} {len : Nat} {bs : Bytes} {tbl' : Option Table}
    (h : Wrote buf tbl len bs tbl') (hn : tbl = none) : tbl' = none := by
  have := h.mode
  subst hn
  cases tbl' <;> simp_all

/-- octets that are not names leave the table alone -/
theorem Wrote.fixed {buf : Bytes} {tbl : Option Table} (hT : TableOK' buf tbl) (bs : Bytes) :
    Wrote buf tbl bs.length bs tbl :=
  ⟨hT.append bs, rfl, Nat.le_refl _, fun _ => rfl⟩

theorem Wrote.seq {buf : Bytes} {tbl t1 t2 : Option Table} {l1 l2 : Nat} {b1 b2 : Bytes}
    (h1 : Wrote buf tbl l1 b1 t1) (h2 : Wrote (buf ++ b1) t1 l2 b2 t2) : Wrote buf tbl (l1 + l2) (b1 ++ b2) t2 where
  table := by rw [← List.append_assoc]; exact h2.table
  mode := h2.mode.trans h1.mode
  le := by rw [List.length_append]; exact Nat.add_le_add h1.le h2.le
  tight h := by rw [List.length_append, h1.tight h, h2.tight (h1.none_tbl h)]

/-- `Wrote.seq` on a buffer kept as header and body -/
theorem Wrote.seq_body {H body : Bytes} {tbl t1 t2 : Option Table} {l1 l2 : Nat} {b1 b2 : Bytes}
    (h1 : Wrote (H ++ body) tbl l1 b1 t1) (h2 : Wrote (H ++ (body ++ b1)) t1 l2 b2 t2) :
    Wrote (H ++ body) tbl (l1 + l2) (b1 ++ b2) t2 :=
  h1.seq (by rw [List.append_assoc]; exact h2)

theorem Wrote.cast {buf : Bytes} {tbl t1 : Option Table} {l l' : Nat} {bs : Bytes}
    (h : Wrote buf tbl l bs t1) (e : l = l') : Wrote buf tbl l' bs t1 := e ▸ h

theorem Wrote.followed {buf : Bytes} {tbl t1 : Option Table} {l1 : Nat} {b1 : Bytes}
    (h : Wrote buf tbl l1 b1 t1) (x : Bytes) : Wrote buf tbl (l1 + x.length) (b1 ++ x) t1 :=
  h.seq (.fixed h.table x)

/-- `Wrote` together with the decoder `dec` reading `x` back, whatever follows. -/
structure Enc {α : Type} (dec : Bytes → Nat → Res (α × Nat)) (buf : Bytes) (tbl : Option Table) (x : α)
    (len : Nat) (bs : Bytes) (tbl' : Option Table) : Prop extends Wrote buf tbl len bs tbl' where
  /-- decoding at the old end of the buffer yields `x` and the new end, whatever is appended later -/
  reads : ∀ {msg off post}, At msg off buf (bs ++ post) → dec msg off = .ok (x, off + bs.length)

theorem ptrBytes_length (o : Nat) : (ptrBytes o).length = 2 := rfl

/-- ★ `packName` of a well-formed name succeeds, and on every buffer of length `off` that satisfies the
    table invariant it preserves the invariant, writes at most `n.length + 1` octets (exactly that many without compression)
    and decoding at the old end of the buffer yields the name.  (The octets depend on `off` and the table only:
    the buffer comes after them, so that a caller may still choose what stands in front — the RDLENGTH field.) -/
theorem packName_enc (off : Nat) (tbl : Option Table) (n : Name) (hn : nameWF n = true) :
    ∃ bs tbl', packName off tbl n = .ok (bs, tbl') ∧ ∀ buf, off = buf.length → TableOK' buf tbl →
      Enc unpackName buf tbl n (n.length + 1) bs tbl' := by
  have hn' := (nameWF_iff n).1 hn
  rcases packName_cases off tbl n hn with h | ⟨t, p, k, o, ht, hsplit, hp, hk, hne, hfind, h⟩
  · refine ⟨_, _, h, fun buf hoff hT => ⟨⟨?_, ?_, ?_, ?_⟩, ?_⟩⟩
    · intro t' ht'
      cases tbl with
      | none => simp at ht'
      | some t =>
        simp only [Option.map_some, Option.some.injEq] at ht'
        subst ht'
        apply registerSuffixes_ok hn'.2 _ _ _ _ hn'.1 ((hT t rfl).append _)
        exact ⟨buf, [], by simp, hoff.symm⟩
    · cases tbl <;> simp
    · simp
    · intro _; simp
    · intro msg o post a
      have e : msg = buf ++ (n ++ 0 :: post) := by rw [a.eq]; simp
      -- the offsets agree: `(n ++ [0]).length = n.length + 1`
      rw [e, a.off, decode_literal n hn buf post, List.length_append, List.length_singleton, Nat.add_assoc]
  · refine ⟨_, _, h, fun buf hoff hT => ?_⟩
    obtain ⟨ho, hkwf, pre2, post2, hbuf, hpre2⟩ := hT t ht k o (Table.find_mem hfind)
    have hklen : 1 ≤ k.length := by
      cases k with
      | nil => exact absurd rfl hne
      | cons a b => simp
    have hnlen : n.length = p.length + k.length := by rw [hsplit]; simp
    refine ⟨⟨hT.append _, rfl, ?_, ?_⟩, ?_⟩
    · simp only [List.length_append, ptrBytes, List.length_cons, List.length_nil]; omega
    · intro hnone; rw [ht] at hnone; simp at hnone
    · intro msg o' post a
      have hb2 : buf ++ (p ++ ptrBytes o ++ post) = pre2 ++ (k ++ 0 :: (post2 ++ (p ++ ptrBytes o ++ post))) := by
        rw [show buf ++ (p ++ ptrBytes o ++ post) = (pre2 ++ (k ++ 0 :: post2)) ++ (p ++ ptrBytes o ++ post) from by
          rw [← hbuf]]
        simp
      -- the offsets agree: `(p ++ ptrBytes o).length = p.length + 2`
      rw [a.eq, a.off, decode_prefix_pointer p k hp hk (by omega) buf post pre2 _ o ho hb2 hpre2, hsplit,
        List.length_append, ptrBytes_length, Nat.add_assoc]

end MosVerif.Wire
