/-
  C08 — lemmas about `Model/StoreRace`: with the stripe lock taken by BOTH branches of `MemoryCache.Store`, every
  interleaving of a plain store and a set-if-absent store of one key ends like a serial order, and the plain
  (positive) value is what the key holds at the end.  The state space of the model is finite (588 states), the
  schedules are not: inductiveness of the invariant is checked over all states by kernel evaluation and lifted
  to schedules of every length by induction.
-/
import MosVerif.Model.StoreRace
namespace MosVerif.StoreRace

/-- invariant of the code in which both branches lock -/
def Inv (s : St) : Bool :=
  -- the lock is held exactly inside the critical sections
  (decide (s.lock = .plain) == (s.pp == .set || s.pp == .unlock)) &&
  (decide (s.lock = .nx) == (s.pn == .sia1 || s.pn == .get || s.pn == .del || s.pn == .sia2 || s.pn == .unlock)) &&
  -- once the plain store has written, the key holds its value
  (!(s.pp == .unlock || s.pp == .done) || s.slot == .live .p) &&
  -- the remove-and-retry runs only while the plain store has not begun
  (!(s.pn == .del || s.pn == .sia2) || s.pp == .lock)

theorem mem_allTok (t : Tok) : t ∈ allTok := by cases t <;> simp [allTok]
theorem mem_allSlot (s : Slot) : s ∈ allSlot := by
  cases s with
  | absent => simp [allSlot]
  | dead t => cases t <;> simp [allSlot, allTok]
  | live t => cases t <;> simp [allSlot, allTok]
theorem mem_allPcP (p : PcP) : p ∈ allPcP := by cases p <;> simp [allPcP]
theorem mem_allPcN (p : PcN) : p ∈ allPcN := by cases p <;> simp [allPcN]
theorem mem_allHolder (h : Holder) : h ∈ allHolder := by cases h <;> simp [allHolder]

theorem mem_allSt (s : St) : s ∈ allSt := by
  obtain ⟨sl, h, p, n⟩ := s
  simp only [allSt, List.mem_flatMap, List.mem_map]
  exact ⟨sl, mem_allSlot sl, h, mem_allHolder h, p, mem_allPcP p, n, mem_allPcN n, rfl⟩

/-- the whole table, by kernel evaluation -/
theorem inv_inductive_table :
    allSt.all (fun s => !Inv s || (Inv (stepP true s) && Inv (stepN s))) = true := by decide +kernel

theorem inv_step (s : St) (who : Bool) (h : Inv s = true) : Inv (step true s who) = true := by
  have ht := List.all_eq_true.mp inv_inductive_table s (mem_allSt s)
  simp only [h, Bool.not_true, Bool.false_or, Bool.and_eq_true] at ht
  cases who
  · simpa [step] using ht.1
  · simpa [step] using ht.2

theorem inv_init (s0 : Slot) : Inv (init s0) = true := by
  cases s0 with
  | absent => decide
  | dead t => cases t <;> decide
  | live t => cases t <;> decide

/-- every reachable state, schedules of every length -/
theorem inv_run (sched : List Bool) (s : St) (h : Inv s = true) : Inv (run true sched s) = true := by
  induction sched generalizing s with
  | nil => simpa [run] using h
  | cons w ws ih =>
    have := ih (step true s w) (inv_step s w h)
    simpa [run] using this

/-- ★ with the lock, whatever the key held before (nothing, an expired leftover, a live entry) and whatever the
    schedule: when both stores have returned the key holds the plain store's value — the set-if-absent value
    (an error response) has not displaced it. -/
theorem locked_final_is_plain (s0 : Slot) (sched : List Bool)
    (hf : finished (run true sched (init s0)) = true) :
    (run true sched (init s0)).slot = .live .p := by
  have hi := inv_run sched (init s0) (inv_init s0)
  generalize run true sched (init s0) = s at hf hi
  obtain ⟨sl, h, p, n⟩ := s
  simp only [finished, Bool.and_eq_true, beq_iff_eq] at hf
  obtain ⟨rfl, rfl⟩ := hf
  simp only [Inv, Bool.and_eq_true] at hi
  simpa using hi.1.2

/-- ★ serializability: the end state of every schedule is the end state of both serial orders -/
theorem locked_is_serial (s0 : Slot) (sched : List Bool)
    (hf : finished (run true sched (init s0)) = true) :
    (run true sched (init s0)).slot = (serialPN true s0).slot ∧
    (run true sched (init s0)).slot = (serialNP true s0).slot := by
  rw [locked_final_is_plain s0 sched hf]
  cases s0 with
  | absent => decide
  | dead t => cases t <;> decide
  | live t => cases t <;> decide

/-- the serial schedules do finish (the hypothesis of the theorems above is satisfiable) -/
theorem serial_finishes (s0 : Slot) : finished (serialPN true s0) = true ∧ finished (serialNP true s0) = true := by
  cases s0 with
  | absent => decide
  | dead t => cases t <;> decide
  | live t => cases t <;> decide

/-- the round-robin schedule, nine steps of each thread, finishes from every initial slot -/
theorem round_robin_finishes (s0 : Slot) :
    finished (run true [false, true, false, true, false, true, false, true, false, true, false, true,
      false, true, false, true, false, true] (init s0)) = true := by
  cases s0 with
  | absent => decide
  | dead t => cases t <;> decide
  | live t => cases t <;> decide

/-- ★ the lock on the plain branch is what the property rests on: without it there is a schedule, from an
    expired leftover, after which the key holds the refused value although the plain store has completed. -/
theorem unlocked_can_displace :
    ∃ sched, finished (run false sched (init (.dead .init))) = true ∧
      (run false sched (init (.dead .init))).slot = .live .n :=
  ⟨[true, true, true, false, false, false, true, true, true], by decide, by decide⟩

end MosVerif.StoreRace
