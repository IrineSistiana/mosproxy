/-
  C05 — an exhausted connection hands out nothing any more.
-/
import MosVerif.Lemmas.PipelineIds
namespace MosVerif.Pipeline

theorem Move.exhausted {cfg : Cfg} {s s' : State} (m : Move cfg s s') {c : Nat} (hx : (s.conns c).nextQid = 65536) :
    (s'.conns c).nextQid = 65536 ∧ assignedIds c s'.hist = assignedIds c s.hist := by
  refine ⟨?_, (m.ids c).resolve_right fun h => by omega⟩
  cases m with
  | conn conns hn hq hc => exact (hn c).trans hx
  | register e c' k q hpc hk =>
    show (upd s.conns c' k c).nextQid = 65536
    by_cases h : c = c'
    · have := (addQueueC_some hk).1
      rw [← h] at this
      omega
    · rw [upd_other _ _ _ _ h]; exact hx
  | _ => exact hx

theorem exhausted_exec {cfg : Cfg} {s : State} (c : Nat) (hx : (s.conns c).nextQid = 65536) (steps : List Step) :
    ((exec cfg s steps).conns c).nextQid = 65536 ∧ assignedIds c (exec cfg s steps).hist = assignedIds c s.hist :=
  exec_preserves (P := fun t => (t.conns c).nextQid = 65536 ∧ assignedIds c t.hist = assignedIds c s.hist)
    (fun h m => ⟨(m.exhausted h.1).1, (m.exhausted h.1).2.trans h.2⟩) ⟨hx, rfl⟩ steps

end MosVerif.Pipeline
