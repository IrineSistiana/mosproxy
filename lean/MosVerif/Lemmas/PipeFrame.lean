/-
  C05 — whatever the chunking and wherever reads fail, the read loop dispatches a prefix of the
  frames the server sent, and nothing any more after a read error.
-/
import MosVerif.Model.PipeFrame
namespace MosVerif.PipeFrame

theorem stream_append (a b : List Bytes) : stream (a ++ b) = stream a ++ stream b := by
  induction a with
  | nil => rfl
  | cons f fs ih => simp [stream, ih]

/-- reading a frame off a prefix of a frame stream yields the first frame -/
theorem readFrame_of_prefix {buf m rest : Bytes} {fs : List Bytes} (hp : buf <+: stream fs)
    (hr : readFrame buf = some (m, rest)) : ∃ fs', fs = m :: fs' ∧ buf = enc m ++ rest := by
  -- (a buffer of fewer than two bytes yields no frame: those arms need no proof)
  match buf, hr with
  | hi :: lo :: r0, hr =>
    simp only [readFrame] at hr
    split at hr
    · rename_i hle
      cases hr
      cases fs with
      | nil => simp [stream] at hp
      | cons f fs' =>
        simp only [stream, enc, List.cons_append] at hp
        rw [List.cons_prefix_cons] at hp
        obtain ⟨h1, hp⟩ := hp
        rw [List.cons_prefix_cons] at hp
        obtain ⟨h2, hp⟩ := hp
        have hn : hi * 256 + lo = f.length := by
          subst h1; subst h2
          have := Nat.div_add_mod f.length 256
          omega
        obtain ⟨t, ht⟩ := hp
        -- r0 ++ t = f ++ stream fs'
        have htake : r0.take f.length = f := by
          have h3 : (r0 ++ t).take f.length = f := by rw [ht]; simp
          rw [List.take_append_of_le_length (by omega)] at h3
          exact h3
        refine ⟨fs', ?_, ?_⟩
        · rw [hn, htake]
        · rw [hn, htake]
          subst h1; subst h2
          simp only [enc, List.cons_append]
          congr 2
          conv => lhs; rw [← List.take_append_drop f.length r0]
          rw [htake]
    · cases hr

/-- the frames dispatched so far are the first `k` frames sent, and together with the buffer they
    account for exactly the bytes received -/
def Good (frames : List Bytes) (rcvd buf : Bytes) (out : List Bytes) : Prop :=
  ∃ k, out = frames.take k ∧ stream (frames.take k) ++ buf = rcvd

theorem drainFrames_good (frames : List Bytes) (rcvd : Bytes) (hp : rcvd <+: stream frames) (fuel : Nat)
    (buf : Bytes) (out : List Bytes) (h : Good frames rcvd buf out) :
    Good frames rcvd (drainFrames fuel buf out).1 (drainFrames fuel buf out).2 := by
  induction fuel generalizing buf out with
  | zero => exact h
  | succ n ih =>
    simp only [drainFrames]
    split
    · rename_i m rest hr
      apply ih
      obtain ⟨k, h1, h3⟩ := h
      -- the buffer is a prefix of what the frames not yet dispatched make
      have hbp : buf <+: stream (frames.drop k) := by
        rw [← h3, ← List.take_append_drop k frames, stream_append] at hp
        rw [List.take_append_drop] at hp
        exact (List.prefix_append_right_inj _).mp hp
      obtain ⟨fs', hfs, hbuf⟩ := readFrame_of_prefix hbp hr
      have hm : frames[k]? = some m := by
        have : (frames.drop k)[0]? = some m := by rw [hfs]; rfl
        simpa using this
      have htk : frames.take (k + 1) = frames.take k ++ [m] := by
        rw [List.take_add_one, hm]; rfl
      refine ⟨k + 1, ?_, ?_⟩
      · rw [h1, htk]
      · rw [htk, stream_append, ← h3, hbuf]
        simp [stream]
    · exact h

/-- invariant of the loop w.r.t. the bytes received so far -/
def Inv (frames : List Bytes) (rcvd : Bytes) (r : Reader) : Prop :=
  if r.closed then ∃ k, r.out = frames.take k
  else Good frames rcvd r.buf r.out

theorem inv_out_prefix {frames : List Bytes} {rcvd : Bytes} {r : Reader} (h : Inv frames rcvd r) : r.out <+: frames := by
  unfold Inv at h
  split at h
  · obtain ⟨k, hk⟩ := h; rw [hk]; exact List.take_prefix k frames
  · obtain ⟨k, hk, _⟩ := h; rw [hk]; exact List.take_prefix k frames

theorem rstep_inv (frames : List Bytes) (rcvd : Bytes) (r : Reader) (ev : REv)
    (h : Inv frames rcvd r) (hp : rcvd ++ received [ev] <+: stream frames) :
    Inv frames (rcvd ++ received [ev]) (rstep r ev) := by
  cases ev with
  | readErr =>
    unfold Inv at h ⊢
    simp only [rstep, if_true]
    split at h
    · exact h
    · obtain ⟨k, hk, _⟩ := h; exact ⟨k, hk⟩
  | recv chunk =>
    simp only [received, List.append_nil] at hp ⊢
    unfold Inv at h
    by_cases hc : r.closed = true
    · simp only [hc, if_true] at h
      unfold Inv
      simp only [rstep, hc, if_true]
      exact h
    · simp only [hc] at h
      unfold Inv
      simp only [rstep, hc]
      apply drainFrames_good frames _ hp
      obtain ⟨k, h1, h3⟩ := h
      exact ⟨k, h1, by rw [← h3, List.append_assoc]⟩

theorem received_append (a b : List REv) : received (a ++ b) = received a ++ received b := by
  induction a with
  | nil => rfl
  | cons ev t ih => cases ev <;> simp [received, ih]

theorem run_inv (frames : List Bytes) (evs : List REv) (rcvd : Bytes) (r : Reader)
    (h : Inv frames rcvd r) (hp : rcvd ++ received evs <+: stream frames) :
    Inv frames (rcvd ++ received evs) (run r evs) := by
  induction evs generalizing rcvd r with
  | nil => simpa [received, run] using h
  | cons ev t ih =>
    have e1 : rcvd ++ received (ev :: t) = (rcvd ++ received [ev]) ++ received t := by
      rw [List.append_assoc, ← received_append]; rfl
    rw [e1] at hp ⊢
    have hp1 : rcvd ++ received [ev] <+: stream frames := (List.prefix_append _ _).trans hp
    exact ih _ _ (rstep_inv frames rcvd r ev h hp1) hp

/-- a closed reader dispatches nothing any more -/
theorem closed_run (r : Reader) (hc : r.closed = true) (evs : List REv) : (run r evs).out = r.out := by
  induction evs generalizing r with
  | nil => rfl
  | cons ev t ih =>
    cases ev with
    | recv chunk =>
      have : rstep r (.recv chunk) = r := if_pos hc
      rw [run, List.foldl_cons, this]
      exact ih r hc
    | readErr => exact ih (rstep r .readErr) rfl

end MosVerif.PipeFrame
