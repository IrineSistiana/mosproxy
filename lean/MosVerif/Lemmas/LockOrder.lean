/-
  Lemmas about `Model/LockOrder`: with the lock order of the code (`t.m` before `c.m`, the idle timer takes `c.m`
  only) no schedule of the picker, the idle timers, `Close` and a releasing exchange ever reaches a state in which
  somebody is unfinished and nobody can move; with the idle timer calling into the transport under `c.m` there is
  such a schedule.

  Mutual exclusion (`Inv`) is inductive for any programs, by an argument: an acquisition is enabled only on a free
  lock, every other instruction only lets go.  Progress depends on the programs: the state space is finite (945
  vectors of program counters), so "where `Inv` holds somebody can move unless everybody has finished" is checked
  over all states by kernel evaluation, and lifted to schedules of every length by induction.
-/
import MosVerif.Model.LockOrder
namespace MosVerif.LockOrder

/-- how many indices below `n` satisfy `p` -/
def cnt (p : Nat → Bool) (n : Nat) : Nat := ((List.range n).filter p).length

theorem cnt_succ (p : Nat → Bool) (n : Nat) : cnt p (n + 1) = cnt p n + (if p n then 1 else 0) := by
  simp only [cnt, List.range_succ, List.filter_append, List.length_append, List.filter_cons, List.filter_nil]
  split <;> rfl

theorem cnt_congr {p q : Nat → Bool} {n : Nat} (h : ∀ j, j < n → q j = p j) : cnt q n = cnt p n := by
  induction n with
  | zero => rfl
  | succ n ih => rw [cnt_succ, cnt_succ, ih fun j hj => h j (by omega), h n (by omega)]

/-- changing the predicate at one index `i < n` changes the count by that index alone -/
theorem cnt_update {p q : Nat → Bool} {i n : Nat} (hi : i < n) (h : ∀ j, j ≠ i → q j = p j) :
    cnt q n + (if p i then 1 else 0) = cnt p n + (if q i then 1 else 0) := by
  induction n with
  | zero => omega
  | succ n ih =>
    rw [cnt_succ, cnt_succ]
    by_cases hn : i = n
    · subst hn; rw [cnt_congr fun j hj => h j (by omega)]; omega
    · rw [h n (by omega)]; have := ih (by omega); omega

/-! ### mutual exclusion is inductive -/

theorem holders_eq (nested : Bool) (s : St) (l : Lock) :
    holders nested s l = cnt (fun j => holds nested s j l) nThreads := rfl

theorem pcOf_bump (s : St) {i : Nat} (hi : i < nThreads) (j : Nat) :
    pcOf (bump s i) j = if j = i then pcOf s i + 1 else pcOf s j := by
  unfold nThreads at hi
  match i, hi with
  | 0, _ | 1, _ | 2, _ | 3, _ | 4, _ =>
    match j with
    | 0 | 1 | 2 | 3 | 4 | j + 5 => simp [pcOf, bump]

/-- what executing `ins` does to "this thread holds `l`" -/
def Ins.effect (l : Lock) (held : Bool) : Ins → Bool
  | .acq l' => if l' = l then true else held
  | .rel l' => if l' = l then false else held

theorem holdsIn_snoc (done : List Ins) (ins : Ins) (l : Lock) :
    holdsIn (done ++ [ins]) l = ins.effect l (holdsIn done l) := by
  cases ins <;> simp only [holdsIn, Ins.effect, List.foldl_append, List.foldl_cons, List.foldl_nil]

theorem prog_nil (nested : Bool) {i : Nat} (hi : nThreads ≤ i) : prog nested i = [] := by
  unfold nThreads at hi
  match i, hi with
  | i + 5, _ => rfl

theorem inv_iff (nested : Bool) (s : St) :
    Inv nested s = true ↔
      (∀ j, j < nThreads → pcOf s j ≤ (prog nested j).length) ∧ ∀ l, holders nested s l ≤ 1 := by
  simp only [Inv, Bool.and_eq_true, List.all_eq_true, decide_eq_true_eq, List.mem_range, List.mem_cons,
    List.not_mem_nil, or_false]
  exact and_congr_right fun _ => ⟨fun h l => h l (by cases l <;> simp), fun h l _ => h l⟩

/-- a thread can move iff it has a next instruction and, if that is an acquisition, the lock is free -/
theorem enabled_iff (nested : Bool) (s : St) (i : Nat) :
    enabled nested s i = true ↔
      ∃ ins, (prog nested i)[pcOf s i]? = some ins ∧ ∀ l, ins = .acq l → holders nested s l = 0 := by
  unfold enabled
  split
  all_goals
    rename_i h
    simp [h, free]

theorem holds_bump (nested : Bool) (s : St) {i : Nat} (hi : i < nThreads) {ins : Ins}
    (h : (prog nested i)[pcOf s i]? = some ins) (j : Nat) (l : Lock) :
    holds nested (bump s i) j l =
      if j = i then ins.effect l (holds nested s i l) else holds nested s j l := by
  unfold holds
  rw [pcOf_bump s hi]
  split
  · subst j; rw [List.take_add_one, h, Option.toList_some, holdsIn_snoc]
  · rfl

/-- mutual exclusion is inductive whatever the programs are: an acquisition needs the lock free, and nothing
    else makes a thread hold a lock -/
theorem inv_inductive (nested : Bool) (s : St) (i : Nat) (h : Inv nested s = true) :
    Inv nested (step nested s i) = true := by
  unfold step
  split
  next he =>
    obtain ⟨ins, hins, hfree⟩ := (enabled_iff nested s i).mp he
    have hlt := (List.getElem?_eq_some_iff.mp hins).1
    have hi : i < nThreads := Nat.lt_of_not_le fun hge => by simp [prog_nil nested hge] at hlt
    obtain ⟨hpc, hmx⟩ := (inv_iff nested s).mp h
    refine (inv_iff nested _).mpr ⟨fun j hj => ?_, fun l => ?_⟩
    · rw [pcOf_bump s hi]
      have := hpc j hj
      split
      · subst j; omega
      · omega
    · -- the balance of holders of `l`: only thread `i` changes, by the effect of its instruction
      have hu := cnt_update (p := fun j => holds nested s j l) (q := fun j => holds nested (bump s i) j l) hi
        fun j hj => by simp only [holds_bump nested s hi hins, if_neg hj]
      rw [← holders_eq, ← holders_eq] at hu
      have := hmx l
      simp only [holds_bump nested s hi hins, if_true] at hu
      cases ins with
      | acq l' =>
        by_cases hl : l' = l
        · -- acquiring `l`: it was free, so afterwards exactly `i` holds it
          have := hfree l' rfl
          subst hl
          simp only [Ins.effect, if_true] at hu
          omega
        · simp only [Ins.effect, if_neg hl] at hu
          omega
      | rel l' =>
        by_cases hl : l' = l
        · simp only [Ins.effect, hl, if_true, Bool.false_eq_true, if_false, Nat.add_zero] at hu
          omega
        · simp only [Ins.effect, if_neg hl] at hu
          omega
  · exact h

/-! ### the table, and schedules of every length -/

theorem mem_allSt (nested : Bool) (s : St) (h : Inv nested s = true) : s ∈ allSt nested := by
  obtain ⟨a, b, c, d, e⟩ := s
  simp only [Inv, Bool.and_eq_true, List.all_eq_true, decide_eq_true_eq, List.mem_range, nThreads] at h
  have h0 := h.1 0 (by omega)
  have h1 := h.1 1 (by omega)
  have h2 := h.1 2 (by omega)
  have h3 := h.1 3 (by omega)
  have h4 := h.1 4 (by omega)
  simp only [pcOf] at h0 h1 h2 h3 h4
  simp only [allSt, List.mem_flatMap, List.mem_map, List.mem_range]
  exact ⟨a, by omega, b, by omega, c, by omega, d, by omega, e, by omega, rfl⟩

/-- progress, by kernel evaluation over the whole table: where the invariant holds somebody can move unless
    everybody has finished -/
theorem progress_table : (allSt false).all (fun s => !Inv false s || !stuck false s) = true := by
  decide +kernel

/-- the invariant is inductive in the nested variant too (mutual exclusion is not what breaks) -/
theorem table_nested :
    (allSt true).all (fun s => !Inv true s ||
      ((List.range nThreads).all fun i => Inv true (step true s i))) = true := by
  refine List.all_eq_true.mpr fun s _ => ?_
  cases h : Inv true s
  · rfl
  · exact List.all_eq_true.mpr fun i _ => inv_inductive true s i h

theorem inv_step (s : St) (i : Nat) (h : Inv false s = true) : Inv false (step false s i) = true :=
  inv_inductive false s i h

theorem inv_init (nested : Bool) : Inv nested init = true := by cases nested <;> rfl

/-- every reachable state, schedules of every length -/
theorem inv_run (sched : List Nat) (s : St) (h : Inv false s = true) : Inv false (run false sched s) = true := by
  induction sched generalizing s with
  | nil => exact h
  | cons w ws ih => exact ih (step false s w) (inv_step s w h)

/-- ★ no dead-lock: after any schedule, of any length, either every goroutine has returned or one of them can
    take its next step -/
theorem code_never_stuck (sched : List Nat) : stuck false (run false sched init) = false := by
  have hi := inv_run sched init (inv_init false)
  have ht := List.all_eq_true.mp progress_table _ (mem_allSt false _ hi)
  simpa [hi] using ht

/-- twelve rounds of round-robin -/
def roundRobin : List Nat := (List.range 60).map (· % nThreads)

/-- the round-robin schedule finishes (the statement above is not about an unreachable `finished`) -/
theorem round_robin_finishes : finished false (run false roundRobin init) = true := by decide +kernel

/-- ★ the order `t.m → c.m` is what this rests on: if the idle timer takes `t.m` while it holds `c.m`, the picker
    inside `getIdleConn` (holding `t.m`, about to look at Y) and Y's timer (holding `Y.m`, waiting for `t.m`) block
    each other for ever; `Close` and every later exchange then wait for `t.m` too. -/
theorem nested_timer_can_deadlock :
    ∃ sched, stuck true (run true sched init) = true ∧
      enabled true (run true sched init) 3 = false ∧ finished true (run true sched init) = false :=
  ⟨[0, 1, 1, 0, 0, 2, 4, 4], by decide +kernel, by decide +kernel, by decide +kernel⟩

end MosVerif.LockOrder
