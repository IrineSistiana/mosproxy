/-
  Wire codec (C09), on Lemmas/CodecTruncMsg: what a `Run` of `Msg.Pack` on a well-formed message satisfies.
  The retained sub-message is well formed; under a budget `L` the output has at most `max 12 L`
  octets plus the OPT record; nothing is skipped when there is no budget or when the message fits
  it, and then the retained sub-message is the original with the OPT record swap-removed and re-appended.
-/
import MosVerif.Lemmas.CodecTruncMsg
namespace MosVerif.Wire

theorem minSize_eq : minSize = 512 := rfl

theorem effSize_pos_ge {size : Nat} (h : 0 < effSize size) : 512 ≤ effSize size := by
  unfold effSize at *
  rw [minSize_eq] at *
  split
  · omega
  · rename_i hc
    rw [if_neg hc] at h
    omega

theorem effSize_eq_max {size : Nat} (h : 0 < size) : effSize size = max 512 size := by
  unfold effSize
  rw [minSize_eq]
  split <;> omega

theorem limitOf_eq_some {m : Msg} {size L : Nat} (h : limitOf m size = some L) :
    0 < L ∧ L + ((popped m size).1.toList.map resourcePackLen).sum = effSize size := by
  unfold limitOf at h
  split at h
  · split at h
    · rename_i o ho
      split at h
      · cases h
        rw [ho, Option.toList_some, List.map_singleton, List.sum_singleton]
        omega
      · cases h
    · rename_i ho
      cases h
      rw [ho]
      exact ⟨by assumption, rfl⟩
  · cases h

theorem limitOf_eq_none {m : Msg} {size : Nat} (h : limitOf m size = none) :
    effSize size = 0 ∨ ∃ o, (popped m size).1 = some o ∧ effSize size ≤ resourcePackLen o := by
  unfold limitOf at h
  split at h
  · split at h
    · rename_i o ho
      split at h
      · cases h
      · exact .inr ⟨o, ho, by omega⟩
    · cases h
  · exact .inl (by omega)

variable {m : Msg} {c : Bool} {size : Nat}

theorem Run.skipped_of_no_limit (r : Run m c size) (h : limitOf m size = none) : r.skipped = 0 := by
  have h1 := questionsLoop.none_skips_nothing (h ▸ r.questions)
  have h2 := resourcesLoop.none_skips_nothing (h ▸ r.answers)
  have h3 := resourcesLoop.none_skips_nothing (h ▸ r.authorities)
  have h4 := resourcesLoop.none_skips_nothing (h ▸ r.additionals)
  rw [Run.skipped, h1, h2, h3, h4]

/-- if nothing was skipped the retained sub-message is the original, up to what `PopEDNS0` does to the
    additionals: the last record in the OPT record's place, the OPT record last -/
theorem Run.keptMsg_of_skipped_zero (r : Run m c size) (h : r.skipped = 0) :
    keptMsg m c size = { m with additionals := (popped m size).2 ++ (popped m size).1.toList } := by
  have k : r.kq = 0 ∧ r.ka = 0 ∧ r.kn = 0 ∧ r.kx = 0 := by unfold Run.skipped at h; omega
  rw [r.keptMsg_eq, h]
  congr 1
  · rw [show decide (0 > 0) = false from rfl, Bool.or_false]
  · exact questionsLoop.kept_eq_of_none_skipped (k.1 ▸ r.questions)
  · exact resourcesLoop.kept_eq_of_none_skipped (k.2.1 ▸ r.answers)
  · exact resourcesLoop.kept_eq_of_none_skipped (k.2.2.1 ▸ r.authorities)
  · rw [resourcesLoop.kept_eq_of_none_skipped (k.2.2.2 ▸ r.additionals)]

theorem Run.keptMsg_wf (r : Run m c size) (hm : msgWF m = true) : msgWF (keptMsg m c size) = true := by
  obtain ⟨⟨hid, hop, hrc⟩, hq, ha, hn, hx, cq, ca, cn, cx⟩ := msgWF_parts hm
  have hp := (popped_perm m size).subset
  have l1 := questionsLoop.kept_sublist (limitOf m size) m.questions (initState c)
  have l2 := resourcesLoop.kept_sublist (limitOf m size) m.answers r.s1
  have l3 := resourcesLoop.kept_sublist (limitOf m size) m.authorities r.s2
  have l4 := resourcesLoop.kept_sublist (limitOf m size) (popped m size).2 r.s3
  have n4 := Nat.le_trans (Nat.add_le_add_right l4.length_le _) (Nat.le_trans (Nat.le_of_eq (popped_length m size)) cx)
  have hadd : ∀ x ∈ keptR (limitOf m size) (popped m size).2 r.s3 ++ (popped m size).1.toList, resourceWF x = true := by
    intro x hmem
    rcases List.mem_append.1 hmem with hmem | hmem
    · exact hx x (hp (List.mem_append_right _ (l4.subset hmem)))
    · exact hx x (hp (List.mem_append_left _ hmem))
  rw [r.keptMsg_eq]
  exact msgWF_iff.2 ⟨⟨hid, hop, hrc⟩, fun x hx => hq x (l1.subset hx), fun x hx => ha x (l2.subset hx),
    fun x hx => hn x (l3.subset hx), hadd, Nat.le_trans l1.length_le cq, Nat.le_trans l2.length_le ca,
    Nat.le_trans l3.length_le cn, List.length_append ▸ n4⟩

theorem packOpt_within (H : Bytes) (hH : H.length = 12) {o : Option Resource} {s s' : PState}
    (hwf : ∀ x, o = some x → resourceWF x = true) (hT : TableOK' (H ++ s.body) s.tbl) (h : packOpt o s = .ok s') :
    s'.body.length ≤ s.body.length + (o.toList.map resourcePackLen).sum := by
  cases o with
  | none => cases h; exact Nat.le_add_right _ _
  | some o =>
    obtain ⟨bs, tbl, hp, hE⟩ := packResource_enc (H ++ s.body) (12 + s.body.length) (by rw [List.length_append, hH])
      s.tbl o (hwf o rfl) hT
    simp only [packOpt, hp, Res.ok_bind, Res.ok.injEq] at h
    subst h
    rw [Option.toList_some, List.map_singleton, List.sum_singleton, List.length_append]
    exact Nat.add_le_add_left hE.le _

/-- A run on a well-formed message under a budget `L`: the four loops leave the offset at most at
    `max 12 L`, to which the OPT record is added; and if header, questions and records without the OPT
    record fit `L`, nothing is skipped. -/
theorem Run.within_budget (r : Run m c size) (hm : msgWF m = true) {L : Nat} (hL : limitOf m size = some L) :
    r.out.length ≤ max 12 L + ((popped m size).1.toList.map resourcePackLen).sum ∧
    (12 + (m.questions.map questionLen).sum + (m.answers.map resourcePackLen).sum
        + (m.authorities.map resourcePackLen).sum + ((popped m size).2.map resourcePackLen).sum ≤ L →
      r.skipped = 0) := by
  obtain ⟨_, hq, ha, hn, hx, _⟩ := msgWF_parts hm
  have hp := (popped_perm m size).subset
  -- any 12 octets serve as the header here: it is written last and the loops never look at it
  have hH : (hdrBytes 0 0 0 0 0 0).length = 12 := rfl
  obtain ⟨T1, B1, F1⟩ := questionsLoop.within_budget _ hH packQuestion_enc L _ hq (TableOK'.init _ c) (hL ▸ r.questions)
  obtain ⟨T2, B2, F2⟩ := resourcesLoop.within_budget _ hH packResource_enc L _ ha T1 (hL ▸ r.answers)
  obtain ⟨T3, B3, F3⟩ := resourcesLoop.within_budget _ hH packResource_enc L _ hn T2 (hL ▸ r.authorities)
  obtain ⟨T4, B4, F4⟩ := resourcesLoop.within_budget _ hH packResource_enc L _
    (fun x hx' => hx x (hp (List.mem_append_right _ hx'))) T3 (hL ▸ r.additionals)
  have O := packOpt_within _ hH (fun x hx' => hx x (hp (List.mem_append_left _ (Option.mem_toList.2 hx')))) T4 r.opt
  have B := B4 (B3 (B2 (B1 (Nat.le_max_left 12 L))))
  rw [r.out_length]
  refine ⟨by omega, fun hfit => ?_⟩
  obtain ⟨k1, f1⟩ := F1 _ (by simpa only [initState, List.length_nil, Nat.add_zero, Nat.add_assoc] using hfit)
  obtain ⟨k2, f2⟩ := F2 _ f1
  obtain ⟨k3, f3⟩ := F3 _ f2
  obtain ⟨k4, _⟩ := F4 0 f3
  rw [Run.skipped, k1, k2, k3, k4]

end MosVerif.Wire
