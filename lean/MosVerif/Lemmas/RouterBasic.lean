/-
  The request handler of Model/Router.lean, path by path.

  `handleReq` scans the rules with a running index, and what it does depends on the first rule that applies
  and on nothing else: `first_match` says so once, with `outcome` as the function of that rule.  Every
  statement about a single path (no rule, reject, no action, forward) and every statement about all paths
  (the question section, the OPT records, who is contacted) is read off `outcome`, never off `handleReq`.
-/
import MosVerif.Model.Router
namespace MosVerif.Router
open MosVerif.Wire

theorem lowerByte_idem (b : UInt8) : lowerByte (lowerByte b) = lowerByte b := by
  unfold lowerByte
  split
  · apply if_neg
    rw [UInt8.toNat_ofNat']
    omega
  · rfl

theorem lowerName_idem (n : Name) : lowerName (lowerName n) = lowerName n := by
  simp only [lowerName, List.map_map, Function.comp_def, lowerByte_idem]

theorem lowerName_length (n : Name) : (lowerName n).length = n.length := List.length_map _

theorem findRule_rule (qname : Name) (rules : List Rule) (i : Nat) :
    (findRule qname i rules).map (·.2) = rules.find? (fun r => r.applies qname) := by
  induction rules generalizing i with
  | nil => rfl
  | cons r rs ih =>
    rw [findRule, List.find?_cons]
    cases r.applies qname
    · exact ih (i + 1)
    · rfl

theorem findRule_idx (qname : Name) (rules : List Rule) (i : Nat) :
    (findRule qname i rules).map (·.1) = (rules.findIdx? (fun r => r.applies qname)).map (i + ·) := by
  induction rules generalizing i with
  | nil => rfl
  | cons r rs ih =>
    rw [findRule, List.findIdx?_cons]
    cases r.applies qname
    · simp only [Bool.false_eq_true, ↓reduceIte, ih (i + 1), Option.map_map]
      exact congrFun (congrArg Option.map (funext fun j => by simp only [Function.comp]; omega)) _
    · rfl

/-- what `forward` answers once the query went out to upstream `u` -/
def relay (env : Env) (q : Question) (u : Nat) : Msg :=
  match env.ups[u]? with
  | some (.reply resp) => if isRespOfQuestion resp q then stripOpt resp else makeEmptyResp q rcodeServFail
  | _ => makeEmptyResp q rcodeServFail

theorem relay_reply {env : Env} {q : Question} {u : Nat} {resp : Msg} (hup : env.ups[u]? = some (.reply resp))
    (hq : isRespOfQuestion resp q = true) : relay env q u = stripOpt resp := by
  simp only [relay, hup, hq, ↓reduceIte]

theorem relay_fail {env : Env} {q : Question} {u : Nat}
    (hf : ∀ resp, env.ups[u]? = some (.reply resp) → isRespOfQuestion resp q = false) :
    relay env q u = makeEmptyResp q rcodeServFail := by
  unfold relay
  split
  · rw [hf _ ‹_›]
    rfl
  · rfl

/-- response and forwards of `handleReq` as a function of the first applicable rule -/
def outcome (env : Env) (q : Question) : Option Rule → Msg × List (Nat × Bytes)
  | none => (makeEmptyResp q rcodeRefused, [])
  | some r =>
    if r.reject > 0 then (makeEmptyResp q r.reject, [])
    else match r.upstream with
      | none => (makeEmptyResp q rcodeRefused, [])
      | some u =>
        match packReq env q with
        | .ok wire => (relay env q u, [(u, wire)])
        | _ => (makeEmptyResp q rcodeServFail, [])

/-- ★ first match: the first rule, in configured order, whose condition holds decides alone.
    (`first` is a variable so that a caller passes what it knows of the scan: `rfl`, or a hypothesis
    `… = some r` / `… = none`.) -/
theorem first_match (env : Env) (q : Question) {first : Option Rule}
    (h : env.rules.find? (fun r => r.applies q.name) = first) :
    (handleReq env q).1 = (outcome env q first).1 ∧ (handleReq env q).2.2 = (outcome env q first).2 := by
  subst h
  unfold handleReq
  rw [← findRule_rule q.name env.rules 0]
  cases findRule q.name 0 env.rules with
  | none => exact ⟨rfl, rfl⟩
  | some p =>
    simp only [Option.map_some, outcome, isReject, decide_eq_true_eq]
    split
    · exact ⟨rfl, rfl⟩
    · cases p.2.upstream with
      | none => exact ⟨rfl, rfl⟩
      | some u =>
        simp only [relay]
        cases packReq env q with
        | err => exact ⟨rfl, rfl⟩
        | panic => exact ⟨rfl, rfl⟩
        | ok wire =>
          cases env.ups[u]? with
          | none => exact ⟨rfl, rfl⟩
          | some o =>
            cases o with
            | fail => exact ⟨rfl, rfl⟩
            | reply resp =>
              simp only
              split
              · exact ⟨rfl, rfl⟩
              · exact ⟨rfl, rfl⟩

theorem outcome_reject (env : Env) (q : Question) {r : Rule} (hr : r.reject > 0) :
    outcome env q (some r) = (makeEmptyResp q r.reject, []) := by
  simp only [outcome, hr, ↓reduceIte]

theorem outcome_noAction (env : Env) (q : Question) {r : Rule} (hr : r.reject = 0) (hu : r.upstream = none) :
    outcome env q (some r) = (makeEmptyResp q rcodeRefused, []) := by
  simp only [outcome, hr, Nat.lt_irrefl, ↓reduceIte, hu]

theorem outcome_forward (env : Env) (q : Question) {r : Rule} {u : Nat} {wire : Bytes} (hr : r.reject = 0)
    (hu : r.upstream = some u) (hp : packReq env q = .ok wire) :
    outcome env q (some r) = (relay env q u, [(u, wire)]) := by
  simp only [outcome, hr, Nat.lt_irrefl, ↓reduceIte, hu, hp]

/-- whoever is contacted is the deciding rule's upstream, and receives `packReq` of the question -/
theorem outcome_contacts (env : Env) (q : Question) {first : Option Rule} {k : Nat} {wire : Bytes}
    (h : (k, wire) ∈ (outcome env q first).2) :
    ∃ r, first = some r ∧ r.reject = 0 ∧ r.upstream = some k ∧ packReq env q = .ok wire := by
  cases first with
  | none => cases h
  | some r =>
    simp only [outcome] at h
    split at h
    · cases h
    · cases hu : r.upstream with
      | none =>
        rw [hu] at h
        cases h
      | some u =>
        rw [hu] at h
        cases hp : packReq env q with
        | ok w =>
          rw [hp] at h
          cases List.mem_singleton.mp h
          exact ⟨r, rfl, by omega, hu, rfl⟩
        | err =>
          rw [hp] at h
          cases h
        | panic =>
          rw [hp] at h
          cases h

/-- the two kinds of answer `handleReq` gives: an empty response to `q` built by the proxy, or an upstream reply
    that passed the question check, without its OPT records -/
inductive Answer (q : Question) : Msg → Prop
  | empty (rcode : Nat) : Answer q (makeEmptyResp q rcode)
  | relayed (resp : Msg) : isRespOfQuestion resp q = true → Answer q (stripOpt resp)

theorem relay_answer (env : Env) (q : Question) (u : Nat) : Answer q (relay env q u) := by
  unfold relay
  split
  · split
    · exact .relayed _ ‹_›
    · exact .empty _
  · exact .empty _

theorem outcome_answer (env : Env) (q : Question) (first : Option Rule) : Answer q (outcome env q first).1 := by
  unfold outcome
  split
  · exact .empty _
  · split
    · exact .empty _
    · split
      · exact .empty _
      · split
        · exact relay_answer env q _
        · exact .empty _

theorem handleReq_answer (env : Env) (q : Question) : Answer q (handleReq env q).1 := by
  rw [(first_match env q rfl).1]
  exact outcome_answer env q _

theorem Answer.questions {q : Question} {x : Msg} (h : Answer q x) :
    ∃ rq, x.questions = [rq] ∧ lowerName rq.name = lowerName q.name ∧ rq.qtype = q.qtype ∧ rq.qclass = q.qclass := by
  cases h with
  | empty rcode => exact ⟨q, rfl, rfl, rfl, rfl⟩
  | relayed resp hresp =>
    unfold isRespOfQuestion at hresp
    split at hresp
    · rename_i rq hq
      simp only [Bool.and_eq_true, beq_iff_eq] at hresp
      exact ⟨rq, hq, hresp.2, hresp.1.1.2, hresp.1.1.1⟩
    · cases hresp

end MosVerif.Router
