/-
  C08 — the memory backend model (Model/Ttl.lean) over arbitrary histories. Assumed of otter's clock: never ahead
  of real time, less than a tick behind (`ClockOK`). Kept of every node (`EntryOK`): it carries the policy's
  lifetime, its message is not truncated, its expiration tick is at most ⌈expireTime⌉. A hit means the tick has
  not come, so real time is less than one tick of rounding plus one of lag past expireTime: the "2 s".
-/
import MosVerif.Lemmas.Ttl
namespace MosVerif.Ttl

/-- nanoseconds per second = per tick of otter's clock. Instants are `Nat` and count in `G`, durations are `Int`
    and count in `second`, harness times are milliseconds of `msNs` ns: one number, `omega` needs it as a literal -/
abbrev G : Nat := 1000000000

theorem second_eq_G : second = (G : Int) := rfl

theorem G_eq_msNs : G = 1000 * msNs := rfl

/-- What is assumed of otter's clock (`unixtime.Now()`, a counter bumped by a one-second ticker): instants are
    nanoseconds from an arbitrary origin, the clock's own origin lies `off` ns before it; the counter is never
    ahead of real time and less than one tick behind. -/
structure ClockOK (clock : Nat → Nat) (off : Nat) : Prop where
  notAhead : ∀ t, clock t ≤ (t + off) / G
  lag : ∀ t, (t + off) / G ≤ clock t + 1

theorem clockOK_exact (off : Nat) : ClockOK (fun t => (t + off) / G) off :=
  ⟨fun _ => Nat.le_refl _, fun _ => Nat.le_succ _⟩

/-- the harness' clock `histClock` is exact, with its origin half a second before the history's -/
abbrev histOff : Nat := 500 * msNs

theorem clockOK_hist : ClockOK histClock histOff := clockOK_exact _

/-- what is true of every node of the hash map -/
structure EntryOK (cfg : Cfg) (off : Nat) (e : Entry) : Prop where
  /-- expireTime = storedTime + the policy's lifetime for the stored message -/
  life : (e.expire : Int) = e.stored + storeTtl e.msg cfg.maximumTtl
  /-- a truncated message is never stored -/
  notTC : e.msg.tc = false
  /-- otter's expiration tick is at most ⌈expireTime⌉ on its clock -/
  tick : e.expTick * G < e.expire + off + G

def Inv (cfg : Cfg) (off : Nat) (mem : Mem) : Prop := ∀ k e, mem k = some e → EntryOK cfg off e

theorem Mem.set_self (mem : Mem) (k : Nat) (e : Entry) : mem.set k e k = some e := if_pos rfl

theorem Mem.set_ne (mem : Mem) (k k' : Nat) (e : Entry) (h : k' ≠ k) : mem.set k e k' = mem k' := if_neg h

theorem Mem.del_self (mem : Mem) (k : Nat) : mem.del k k = none := if_pos rfl

theorem Mem.del_ne (mem : Mem) (k k' : Nat) (h : k' ≠ k) : mem.del k k' = mem k' := if_neg h

theorem inv_empty (cfg : Cfg) (off : Nat) : Inv cfg off Mem.empty := nofun

theorem inv_del (cfg : Cfg) (off : Nat) (mem : Mem) (k : Nat) (h : Inv cfg off mem) : Inv cfg off (mem.del k) := by
  intro k' e he
  by_cases hk : k' = k
  · rw [hk, Mem.del_self] at he
    cases he
  · rw [Mem.del_ne _ _ _ hk] at he
    exact h k' e he

theorem inv_set (cfg : Cfg) (off : Nat) (mem : Mem) (k : Nat) (e : Entry) (h : Inv cfg off mem)
    (he : EntryOK cfg off e) : Inv cfg off (mem.set k e) := by
  intro k' e' h'
  by_cases hk : k' = k
  · rw [hk, Mem.set_self] at h'
    cases h'
    exact he
  · rw [Mem.set_ne _ _ _ _ hk] at h'
    exact h k' e' h'

/-- otter's getTTL never rounds up by more than one tick -/
theorem otterTtlTicks_le (x : Int) (hx : 0 < x + G) : (otterTtlTicks x : Int) * G < x + G := by
  unfold otterTtlTicks
  simp only [second, u32, G] at hx ⊢
  rw [Int.tdiv_eq_ediv_of_nonneg (by omega)]
  omega

/-- otter's Set / SetIfAbsent at instant `t` of a node that carries the policy's lifetime and expires less than a
    tick before `t` or later: whichever way it goes, the invariant is kept. (The clock is not ahead of `t`, getTTL
    rounds up by less than a tick, the uint32 addition can only make the expiration earlier.) -/
theorem otterSet_inv (clock : Nat → Nat) (off : Nat) (cfg : Cfg) (mem : Mem) (k : Nat) (e : Entry) (t : Nat)
    (nx : Bool) (hclk : ClockOK clock off) (h : Inv cfg off mem)
    (hlife : (e.expire : Int) = e.stored + storeTtl e.msg cfg.maximumTtl) (htc : e.msg.tc = false)
    (ht : t < e.expire + G) :
    Inv cfg off (otterSet mem (clock t) k e ((e.expire : Int) - (t : Int)) nx) := by
  have hnew : EntryOK cfg off { e with expTick := (clock t + otterTtlTicks ((e.expire : Int) - (t : Int))) % u32 } := by
    refine ⟨hlife, htc, ?_⟩
    have ha : clock t * G ≤ t + off :=
      Nat.le_trans (Nat.mul_le_mul_right _ (hclk.notAhead t)) (Nat.div_mul_le_self _ _)
    have hb := otterTtlTicks_le ((e.expire : Int) - (t : Int)) (by omega)
    generalize otterTtlTicks _ = b at hb
    generalize clock t = a at ha
    have hr : (a + b) % u32 ≤ a + b := Nat.mod_le _ _
    generalize (a + b) % u32 = r at hr
    simp only [G] at ha hb ⊢
    omega
  unfold otterSet
  simp only
  split
  · split
    · split
      · exact inv_set _ _ _ _ _ h hnew
      · exact h
    · exact inv_set _ _ _ _ _ h hnew
  · exact inv_set _ _ _ _ _ h hnew

theorem store_some (b : Bool) (m : Msg) (cap : Int) (c : StoreCall) (h : store b (some m) cap = some c) :
    b = true ∧ m.tc = false ∧ c.msg = m ∧ c.ttl = storeTtl m cap ∧ c.setNX = (m.rcode != 0) := by
  cases b with
  | false => simp [store] at h
  | true =>
    cases htc : m.tc with
    | true => simp [store, htc] at h
    | false =>
      have hc : c = ⟨m, storeTtl m cap, m.rcode != 0⟩ := by simpa [store, htc] using h.symm
      subst hc
      exact ⟨rfl, rfl, rfl, rfl, rfl⟩

theorem cacheStore_none (clock : Nat → Nat) (cfg : Cfg) (mem : Mem) (k now delay id : Nat) :
    cacheStore clock cfg mem k none now delay id = mem := by
  cases hb : cfg.hasBackend <;> simp [cacheStore, store, hb]

/-- the node cacheCtl.Store creates satisfies the invariant (the Store call is not stalled for a second or more
    between `time.Now()` and the backend's clock read) -/
theorem cacheStore_inv (clock : Nat → Nat) (off : Nat) (cfg : Cfg) (mem : Mem) (k : Nat) (resp : Option Msg)
    (now delay id : Nat) (hclk : ClockOK clock off) (hcap : 0 < cfg.maximumTtl) (hd : delay < G)
    (h : Inv cfg off mem) : Inv cfg off (cacheStore clock cfg mem k resp now delay id) := by
  cases resp with
  | none => rw [cacheStore_none]; exact h
  | some m =>
    unfold cacheStore
    cases hs : store cfg.hasBackend (some m) cfg.maximumTtl with
    | none => exact h
    | some c =>
      obtain ⟨-, htc, hmsg, httl, -⟩ := store_some _ _ _ _ hs
      have hpos := (storeTtl_pos m cfg.maximumTtl hcap).1
      have hexp : ((((now : Int) + c.ttl).toNat : Nat) : Int) = now + c.ttl := by
        apply Int.toNat_of_nonneg; omega
      have := otterSet_inv clock off cfg mem k ⟨now, ((now : Int) + c.ttl).toNat, 0, c.msg, id⟩ (now + delay) c.setNX
        hclk h (by rw [hexp, httl, hmsg]) (by rw [hmsg]; exact htc) (by simp only [G] at hd ⊢; omega)
      rw [hexp] at this
      exact this

/-- an error response (rcode ≠ 0) is stored set-if-absent: if the key has a live node (not expired on the cache
    clock at the time of the Store), Store changes nothing -/
theorem cacheStore_neg_present (clock : Nat → Nat) (cfg : Cfg) (mem : Mem) (k : Nat) (m : Msg)
    (now delay id : Nat) (e : Entry) (hneg : m.rcode ≠ 0) (hpres : mem k = some e)
    (hlive : clock (now + delay) < e.expTick) :
    cacheStore clock cfg mem k (some m) now delay id = mem := by
  unfold cacheStore
  cases hs : store cfg.hasBackend (some m) cfg.maximumTtl with
  | none => rfl
  | some c =>
    have hc := store_some _ _ _ _ hs
    have hnx : c.setNX = true := by rw [hc.2.2.2.2]; simp [hneg]
    have hx : ¬ e.expTick ≤ clock (now + delay) := by omega
    simp [otterSet, hnx, hpres, hx]

/-- a positive response (rcode 0, not truncated) is stored with Set and replaces whatever is there -/
theorem cacheStore_pos (clock : Nat → Nat) (cfg : Cfg) (mem : Mem) (k : Nat) (m : Msg) (now delay id : Nat)
    (hb : cfg.hasBackend = true) (htc : m.tc = false) (hpos : m.rcode = 0) :
    ∃ e, cacheStore clock cfg mem k (some m) now delay id k = some e ∧ e.msg = m ∧ e.id = id ∧ e.stored = now := by
  have hs : store cfg.hasBackend (some m) cfg.maximumTtl = some ⟨m, storeTtl m cfg.maximumTtl, false⟩ := by
    simp [store, hb, htc, hpos]
  -- Set, not SetIfAbsent: the new node goes in whatever the key held
  simp only [cacheStore, hs, otterSet, Bool.false_eq_true, if_false]
  exact ⟨_, Mem.set_self _ _ _, rfl, rfl, rfl⟩

theorem cacheGet_some (clock : Nat → Nat) (mem : Mem) (k now : Nat) (served : Msg) (e : Entry)
    (h : cacheGet clock mem k now = some (served, e)) :
    mem k = some e ∧ clock now < e.expTick ∧ served = subtractTTL e.msg (elapsedDelta (now - e.stored)) := by
  unfold cacheGet otterGet at h
  cases hm : mem k with
  | none => simp [hm] at h
  | some e' =>
    simp only [hm] at h
    by_cases hx : e'.expTick ≤ clock now
    · simp [hx] at h
    · simp only [hx, if_false, Option.some.injEq, Prod.mk.injEq] at h
      obtain ⟨h1, h2⟩ := h
      subst h2
      exact ⟨rfl, by omega, h1.symm⟩

/-- a miss on a key that has a node: the node is expired -/
theorem cacheGet_none (clock : Nat → Nat) (mem : Mem) (k now : Nat) (e : Entry)
    (h : cacheGet clock mem k now = none) (he : mem k = some e) : e.expTick ≤ clock now := by
  unfold cacheGet otterGet at h
  rw [he] at h
  by_cases hx : e.expTick ≤ clock now
  · exact hx
  · simp [hx] at h

/-- a hit on a clock that is at most `lag` ticks behind happens less than `lag + 1` ticks after the node's
    expireTime -/
theorem hit_within (clock : Nat → Nat) (off : Nat) (cfg : Cfg) (e : Entry) (now lag : Nat)
    (hlag : (now + off) / G ≤ clock now + lag) (he : EntryOK cfg off e) (hlive : clock now < e.expTick) :
    now < e.expire + (lag + 1) * G := by
  have h2 := he.tick
  simp only [G] at hlag h2 ⊢
  omega

theorem hit_before_expiry (clock : Nat → Nat) (off : Nat) (cfg : Cfg) (e : Entry) (now : Nat)
    (hclk : ClockOK clock off) (he : EntryOK cfg off e) (hlive : clock now < e.expTick) :
    now < e.expire + 2 * G :=
  hit_within clock off cfg e now 1 (hclk.lag now) he hlive

theorem handleQuery_inv (clock : Nat → Nat) (off : Nat) (cfg : Cfg) (mem : Mem) (k : Nat) (up : Upstream)
    (now delay id : Nat) (hclk : ClockOK clock off) (hcap : 0 < cfg.maximumTtl) (hd : delay < G)
    (h : Inv cfg off mem) : Inv cfg off (handleQuery clock cfg mem k up now delay id).1 := by
  unfold handleQuery
  cases hg : cacheGet clock mem k now with
  | some p => obtain ⟨served, e⟩ := p; simpa using h
  | none =>
    cases up with
    | err => simpa using h
    | reply m => simpa using cacheStore_inv clock off cfg mem k _ now delay id hclk hcap hd h

/-- the Store calls of a step are not stalled for a second or more -/
def Step.prompt : Step → Prop
  | .store _ _ _ d => d < G
  | .query _ _ _ d => d < G
  | _ => True

theorem step_inv (clock : Nat → Nat) (off : Nat) (cfg : Cfg) (mem : Mem) (id : Nat) (s : Step)
    (hclk : ClockOK clock off) (hcap : 0 < cfg.maximumTtl) (hp : s.prompt) (h : Inv cfg off mem) :
    Inv cfg off (step clock cfg mem id s).1 := by
  cases s with
  | store k resp t delay => exact cacheStore_inv clock off cfg mem k resp t delay id hclk hcap hp h
  | get k t =>
    cases hg : cacheGet clock mem k t with
    | none => simpa [step, hg] using h
    | some p => obtain ⟨served, e⟩ := p; simpa [step, hg] using h
  | query k up t delay =>
    unfold step
    exact handleQuery_inv clock off cfg mem k up t delay id hclk hcap hp h
  | evict k => exact inv_del _ _ _ _ h

/-- what a single observation guarantees -/
def ObsOK (cfg : Cfg) (off : Nat) : Step → Obs → Prop
  | .get _ t, .hit e served =>
    EntryOK cfg off e ∧ t < e.expire + 2 * G ∧ served = subtractTTL e.msg (elapsedDelta (t - e.stored))
  | .get _ _, .miss => True
  | .query _ _ t _, .q (.cached id served) =>
    ∃ e, e.id = id ∧ EntryOK cfg off e ∧ t < e.expire + 2 * G ∧
      served = popEDNS0 (subtractTTL e.msg (elapsedDelta (t - e.stored)))
  | .query _ (.reply m) _ _, .q (.upstream _ m') => m' = removeEDNS0 m
  | .query _ .err _ _, .q .failed => True
  | .store _ _ _ _, .none => True
  | .evict _, .none => True
  | _, _ => False

theorem step_obs (clock : Nat → Nat) (off : Nat) (cfg : Cfg) (mem : Mem) (id : Nat) (s : Step)
    (hclk : ClockOK clock off) (h : Inv cfg off mem) : ObsOK cfg off s (step clock cfg mem id s).2 := by
  cases s with
  | store k resp t delay => simp [step, ObsOK]
  | get k t =>
    cases hg : cacheGet clock mem k t with
    | none => simp [step, hg, ObsOK]
    | some p =>
      obtain ⟨served, e⟩ := p
      obtain ⟨hm, hl, hs⟩ := cacheGet_some _ _ _ _ _ _ hg
      have he := h k e hm
      simp only [step, hg, ObsOK]
      exact ⟨he, hit_before_expiry clock off cfg e t hclk he hl, hs⟩
  | query k up t delay =>
    cases hg : cacheGet clock mem k t with
    | some p =>
      obtain ⟨served, e⟩ := p
      obtain ⟨hm, hl, hs⟩ := cacheGet_some _ _ _ _ _ _ hg
      have he := h k e hm
      simp only [step, handleQuery, hg, ObsOK]
      exact ⟨e, rfl, he, hit_before_expiry clock off cfg e t hclk he hl, by rw [hs]⟩
    | none =>
      cases up with
      | err => simp [step, handleQuery, hg, ObsOK]
      | reply m => simp [step, handleQuery, hg, ObsOK]
  | evict k => simp [step, ObsOK]

def AllObsOK (cfg : Cfg) (off : Nat) : List Step → List Obs → Prop
  | [], [] => True
  | s :: ss, o :: os => ObsOK cfg off s o ∧ AllObsOK cfg off ss os
  | _, _ => False

theorem run_sound (clock : Nat → Nat) (off : Nat) (cfg : Cfg) (hclk : ClockOK clock off) (hcap : 0 < cfg.maximumTtl)
    (steps : List Step) : ∀ (mem : Mem) (id : Nat), (∀ s ∈ steps, s.prompt) → Inv cfg off mem →
    Inv cfg off (runFrom clock cfg mem id steps).1 ∧ AllObsOK cfg off steps (runFrom clock cfg mem id steps).2 := by
  induction steps with
  | nil => intro mem id _ h; exact ⟨h, trivial⟩
  | cons s rest ih =>
    intro mem id hp h
    have hs := step_inv clock off cfg mem id s hclk hcap (hp s (by simp)) h
    have ho := step_obs clock off cfg mem id s hclk h
    have := ih (step clock cfg mem id s).1 (id + 1) (fun x hx => hp x (by simp [hx])) hs
    simp only [runFrom]
    exact ⟨this.1, ho, this.2⟩

end MosVerif.Ttl
