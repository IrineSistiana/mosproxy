/-
  Wire codec (C02), rests on Model/Pack.lean only: big-endian primitives, the label structure of names
  (`Labels`, an inductive reading of what `NameScanner` accepts), `scanName` / `nameWF` facts.
-/
import MosVerif.Model.Pack
namespace MosVerif.Wire

theorem u8_ofNat_toNat (x : Nat) (h : x < 256) : (UInt8.ofNat x).toNat = x := by
  simp; omega

theorem be16_lt (a b : UInt8) : be16 a b < 65536 := by
  have := a.toNat_lt
  have := b.toNat_lt
  unfold be16
  omega

theorem be32_lt (a b c d : UInt8) : be32 a b c d < 4294967296 := by
  have := a.toNat_lt
  have := b.toNat_lt
  have := c.toNat_lt
  have := d.toNat_lt
  unfold be32
  omega

/-! Big-endian is base 256: an octet pushed in at the low end comes back as remainder and leaves the rest as
    quotient (`shift_div`, `shift_mod`); the other way round the digits of `v` recompose by `Nat.div_add_mod'`. -/

theorem u8_digit (x : Nat) : (UInt8.ofNat (x % 256)).toNat = x % 256 :=
  u8_ofNat_toNat _ (Nat.mod_lt _ (by decide))

theorem shift_div (x : Nat) (b : UInt8) : (x * 256 + b.toNat) / 256 = x := by
  have := b.toNat_lt
  omega

theorem shift_mod (x : Nat) (b : UInt8) : (x * 256 + b.toNat) % 256 = b.toNat := by
  have := b.toNat_lt
  omega

theorem be16_enc16 (v : Nat) (h : v < 65536) :
    be16 (UInt8.ofNat (v / 256 % 256)) (UInt8.ofNat (v % 256)) = v := by
  unfold be16
  rw [u8_digit, u8_digit, Nat.mod_eq_of_lt (a := v / 256) (by omega), Nat.div_add_mod']

theorem enc16_be16 (a b : UInt8) : enc16 (be16 a b) = [a, b] := by
  unfold enc16 be16
  rw [shift_div, shift_mod, Nat.mod_eq_of_lt a.toNat_lt, UInt8.ofNat_toNat, UInt8.ofNat_toNat]

theorem be32_enc32 (v : Nat) (h : v < 4294967296) :
    be32 (UInt8.ofNat (v / 16777216 % 256)) (UInt8.ofNat (v / 65536 % 256))
      (UInt8.ofNat (v / 256 % 256)) (UInt8.ofNat (v % 256)) = v := by
  unfold be32
  rw [u8_digit, u8_digit, u8_digit, u8_digit, show (16777216 : Nat) = 256 * 256 * 256 from rfl,
    show (65536 : Nat) = 256 * 256 from rfl, ← Nat.div_div_eq_div_mul, ← Nat.div_div_eq_div_mul,
    Nat.mod_eq_of_lt (a := v / 256 / 256 / 256) (by omega), Nat.div_add_mod', Nat.div_add_mod', Nat.div_add_mod']

theorem enc32_be32 (a b c d : UInt8) : enc32 (be32 a b c d) = [a, b, c, d] := by
  unfold enc32 be32
  rw [show (16777216 : Nat) = 256 * 256 * 256 from rfl, show (65536 : Nat) = 256 * 256 from rfl]
  simp only [← Nat.div_div_eq_div_mul, shift_div, shift_mod, Nat.mod_eq_of_lt a.toNat_lt, UInt8.ofNat_toNat]

@[simp] theorem enc16_length (v : Nat) : (enc16 v).length = 2 := rfl
@[simp] theorem enc32_length (v : Nat) : (enc32 v).length = 4 := rfl

/-- `Labels s`: `s` is a sequence of labels `len :: octets` with `1 ≤ len ≤ 63`
    (what `NameScanner` walks through without error). -/
inductive Labels : Bytes → Prop
  | nil : Labels []
  | cons (l : UInt8) (lab rest : Bytes) :
      l.toNat ≠ 0 → l.toNat ≤ 63 → lab.length = l.toNat → Labels rest → Labels (l :: (lab ++ rest))

theorem Labels.append {a b : Bytes} (ha : Labels a) (hb : Labels b) : Labels (a ++ b) := by
  induction ha with
  | nil => simpa using hb
  | cons l lab rest h0 h63 hl _ ih =>
    have : l :: (lab ++ rest) ++ b = l :: (lab ++ (rest ++ b)) := by simp
    rw [this]
    exact Labels.cons l lab _ h0 h63 hl ih

theorem Labels.single (l : UInt8) (lab : Bytes) (h0 : l.toNat ≠ 0) (h63 : l.toNat ≤ 63)
    (hl : lab.length = l.toNat) : Labels (l :: lab) := by
  have := Labels.cons l lab [] h0 h63 hl Labels.nil
  simpa using this

/-- the test of `NameScanner` (and of the loop of `Name.pack`) passes on a label, whatever follows it -/
theorem label_scans {l : UInt8} {lab : Bytes} (rest : Bytes) (h0 : l.toNat ≠ 0) (h63 : l.toNat ≤ 63)
    (hl : lab.length = l.toNat) : ¬ (l.toNat = 0 ∨ l.toNat > 63 ∨ (lab ++ rest).length < l.toNat) := by
  rw [List.length_append]
  omega

theorem scanLabelsAux_isSome_of_labels {s : Bytes} (hs : Labels s) :
    ∀ fuel, s.length ≤ fuel → (scanLabelsAux fuel s).isSome = true := by
  induction hs with
  | nil => intro fuel _; cases fuel <;> simp [scanLabelsAux]
  | cons l lab rest h0 h63 hl _ ih =>
    intro fuel hf
    cases fuel with
    | zero => simp at hf
    | succ f =>
      simp only [List.length_cons, List.length_append] at hf
      have := ih f (by omega)
      simp only [scanLabelsAux, label_scans rest h0 h63 hl, if_false, List.drop_left' hl]
      cases h : scanLabelsAux f rest with
      | none => simp [h] at this
      | some ls => simp

theorem labels_of_scanLabelsAux_isSome :
    ∀ fuel (s : Bytes), (scanLabelsAux fuel s).isSome = true → Labels s := by
  intro fuel
  induction fuel with
  | zero =>
    intro s h
    cases s with
    | nil => exact Labels.nil
    | cons a t => simp [scanLabelsAux] at h
  | succ f ih =>
    intro s h
    cases s with
    | nil => exact Labels.nil
    | cons l rest =>
      simp only [scanLabelsAux] at h
      split at h
      · simp at h
      · rename_i hc
        have hrec : (scanLabelsAux f (rest.drop l.toNat)).isSome = true := by
          cases h2 : scanLabelsAux f (rest.drop l.toNat) with
          | none => simp [h2] at h
          | some ls => simp
        have hl := ih _ hrec
        have : l :: rest = l :: (rest.take l.toNat ++ rest.drop l.toNat) := by simp
        rw [this]
        refine Labels.cons l _ _ (by omega) (by omega) ?_ hl
        simp only [List.length_take]; omega

theorem nameWF_iff (n : Name) : nameWF n = true ↔ n.length ≤ 254 ∧ Labels n := by
  unfold nameWF scanName
  constructor
  · intro h
    split at h
    · simp at h
    · exact ⟨by omega, labels_of_scanLabelsAux_isSome _ _ h⟩
  · intro ⟨hl, hs⟩
    rw [if_neg (by omega)]
    exact scanLabelsAux_isSome_of_labels hs _ (Nat.le_refl _)

theorem nameWF_nil : nameWF [] = true := by
  rw [nameWF_iff]; exact ⟨by simp, Labels.nil⟩

theorem namePackLen_of_wf {n : Name} (h : nameWF n = true) : namePackLen n = n.length + 1 := by
  rw [nameWF_iff] at h
  unfold namePackLen
  rw [if_neg (by omega)]

theorem namePackLen_le (n : Name) : namePackLen n ≤ 255 := by
  unfold namePackLen; split <;> omega

end MosVerif.Wire
