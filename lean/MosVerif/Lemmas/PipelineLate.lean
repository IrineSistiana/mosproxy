/-
  C05 — a reply that arrives when no exchange waits under its (connection, wire id) is never
  received by anybody. Rests on both invariants (Lemmas/PipelineDeliver.lean).
-/
import MosVerif.Lemmas.PipelineDeliver
import MosVerif.Lemmas.PipelineShapes
namespace MosVerif.Pipeline

/-- the reply event with index `k` can never be received any more. The second clause speaks only of channels held by
    a registered or waiting exchange: a channel whose owner has left may hold stamp `k` for ever, nobody receives from it. -/
def Dormant (k : Nat) (s : State) : Prop :=
  (∀ e, (e, k) ∉ s.taken) ∧
  (∀ e c q ch p, (s.pcs e = .registered c q ch ∨ s.pcs e = .waiting c q ch) → s.chans ch ≠ .full p k) ∧
  k < s.hist.length

theorem Dormant.move {cfg : Cfg} {s s' : State} {k : Nat} (h : Dormant k s) (m : Move cfg s s') : Dormant k s' := by
  obtain ⟨d1, d2, d3⟩ := h
  -- the exchange that moves is looked at afresh, the others hold what they held
  have d2' : ∀ {e pc} {chans' : Nat → Slot}, (∀ {ch p}, chans' ch = .full p k → s.chans ch = .full p k) →
      (∀ c q ch p, pc = .registered c q ch ∨ pc = .waiting c q ch → chans' ch ≠ .full p k) →
      ∀ x c q ch p, upd s.pcs e pc x = .registered c q ch ∨ upd s.pcs e pc x = .waiting c q ch →
        chans' ch ≠ .full p k := by
    intro e pc chans' hch he x c q ch p hp hf
    by_cases hx : x = e
    · rw [hx, upd_same] at hp; exact he c q ch p hp hf
    · rw [upd_other _ _ _ _ hx] at hp; exact d2 x c q ch p hp (hch hf)
  have gone : ∀ {pc : Pc} {chans' : Nat → Slot}, (∀ c q ch, pc ≠ .registered c q ch) → (∀ c q ch, pc ≠ .waiting c q ch) →
      ∀ c q ch (p : Nat), pc = .registered c q ch ∨ pc = .waiting c q ch → chans' ch ≠ .full p k :=
    fun h1 h2 c q ch _ hp => hp.elim (fun hp => absurd hp (h1 c q ch)) (fun hp => absurd hp (h2 c q ch))
  cases m with
  | conn conns hn hq hc => exact ⟨d1, d2, d3⟩
  | register e c k' q hpc hk =>
    refine ⟨d1, d2' upd_empty_full fun c' q' ch' p' hp hf => ?_, Nat.lt_succ_of_lt d3⟩
    have : ch' = s.nchan := by rcases hp with hp | hp <;> cases hp <;> rfl
    have hf' : upd s.chans s.nchan .empty ch' = .full p' k := hf
    rw [this, upd_same] at hf'
    cases hf'
  | sent e c q ch hpc =>
    refine ⟨d1, d2' id fun c' q' ch' p' hp => ?_, Nat.lt_succ_of_lt d3⟩
    rcases hp with hp | hp <;> cases hp
    exact d2 e c q ch p' (.inl hpc)
  | abandon e c q ch hpc => exact ⟨d1, d2' id (gone nofun nofun), d3⟩
  | discard c i p => exact ⟨d1, d2, Nat.lt_succ_of_lt d3⟩
  | deliver c i p ch hq hch =>
    refine ⟨d1, fun x c' q' ch' p' hp hf => ?_, Nat.lt_succ_of_lt d3⟩
    have hf' : upd s.chans ch (.full p s.hist.length) ch' = .full p' k := hf
    by_cases hc : ch' = ch
    · rw [hc, upd_same] at hf'
      cases hf'
      exact Nat.lt_irrefl _ d3
    · rw [upd_other _ _ _ _ hc] at hf'
      exact d2 x c' q' ch' p' hp hf'
  | take e c q ch p k' hpc hch =>
    refine ⟨fun x hm => ?_, d2' upd_empty_full (gone nofun nofun), d3⟩
    rcases List.mem_cons.mp hm with h1 | h1
    · cases h1; exact d2 e c q ch p (.inr hpc) hch
    · exact d1 x h1
  | retire e c q hpc => exact ⟨d1, d2' id (gone nofun nofun), d3⟩
  | giveUp e hpc => exact ⟨d1, d2' id (gone nofun nofun), Nat.lt_succ_of_lt d3⟩
  | «return» e c q p hpc => exact ⟨d1, d2' id (gone nofun nofun), Nat.lt_succ_of_lt d3⟩

theorem dormant_exec {cfg : Cfg} {s : State} {k : Nat} (h : Dormant k s) (steps : List Step) :
    Dormant k (exec cfg s steps) :=
  exec_preserves (fun h m => h.move m) h steps

/-- a reply for `(c, id)` that arrives while nobody is registered or waiting under `(c, id)`
    is dormant from the start -/
theorem dormant_of_no_waiter {cfg : Cfg} {s : State} (hi : Inv cfg s) (hg : GInv cfg s) (c id p : Nat)
    (hno : ∀ e, Ev.assign e c id ∈ s.hist → ∀ ch, s.pcs e ≠ .registered c id ch ∧ s.pcs e ≠ .waiting c id ch) :
    Dormant s.hist.length (step cfg s (.srvReply c id p)) := by
  have t1 : ∀ e, (e, s.hist.length) ∉ s.taken := fun e hm => Nat.lt_irrefl _ (hg.tk_st hm)
  have t2 : ∀ e c' q ch p', (s.pcs e = .registered c' q ch ∨ s.pcs e = .waiting c' q ch) →
      s.chans ch ≠ .full p' s.hist.length := fun e c' q ch p' _ hf => Nat.lt_irrefl _ (hg.ch_st hf)
  have hlen : (Ev.reply c id p :: s.hist).length = s.hist.length + 1 := rfl
  simp only [step]
  split
  · exact ⟨t1, t2, by simp only [hlen]; omega⟩
  · rename_i ch hq
    split
    · refine ⟨t1, ?_, by simp only [hlen]; omega⟩
      intro e c' q' ch' p' hp hf
      by_cases hch : ch' = ch
      · subst hch
        obtain ⟨h1, h2⟩ := hi.own c id ch' e c' q' hq hp
        subst h1; subst h2
        rcases hp with hp | hp
        · exact (hno e (curAssign_mem (hi.cur_reg e c' q' ch' hp)) ch').1 hp
        · exact (hno e (curAssign_mem (hi.cur_wait e c' q' ch' hp)) ch').2 hp
      · simp only [upd_other _ _ _ _ hch] at hf
        exact t2 e c' q' ch' p' hp hf
    · exact ⟨t1, t2, by simp only [hlen]; omega⟩

end MosVerif.Pipeline
