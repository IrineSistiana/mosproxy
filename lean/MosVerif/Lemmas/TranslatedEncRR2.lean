/-
  Tie by translation (C02/C09): the packers of rr.go whose RDATA holds names (CNAME/NS/PTR, MX, SRV, SOA).  They write
  the record header with RDLENGTH 0, keep `dataLenPlaceholder := msg[off-2 : off]` (a WINDOW of the buffer), pack the
  RDATA and back-patch `putUint16(dataLenPlaceholder, uint16(off)-uint16(dataStartOff))`.  The model produces RDATA
  first and prefixes its length; `backpatch` is the bridge.  Every theorem: `packResourceBuf … = Translated.<T>_pack …`
  for all buffers, offsets, tables and field values.  `header.pack` closes the file.
  A fact about the model alone proved here: `writeAt_not_fit`.
-/
import MosVerif.Lemmas.TranslatedEncRR
namespace MosVerif.Wire
open MosVerif

theorem enc16_length (v : Nat) : (enc16 v).length = 2 := rfl

/-- the RDLENGTH back-patch: the header was written with length 0 at `off0` (ending at `o1`), the RDATA `rd` behind
    it; patching the two octets in front of `o1` with `v` gives the buffer in which header, `v` and RDATA were
    written in one go -/
theorem backpatch (msg : Bytes) (off0 : Nat) (fixed rd m1 : Bytes) (o1 : Nat) (m2 : Bytes) (o2 v : Nat)
    (h1 : writeAt msg off0 (fixed ++ enc16 0) = .ok (m1, o1)) (h2 : writeAt m1 o1 rd = .ok (m2, o2)) :
    ∃ m', (GoSem.natOfInt (((o1 : Nat) : Int) - ((2 : Nat) : Int)) >>= fun lo =>
            GoSem.slice m2 lo o1 >>= fun t => Translated.putUint16 t v >>= fun w => pure (GoSem.splice m2 lo w)) = .ok m' ∧
          GoSem.slice m1 (o1 - 2) o1 ≠ .panic ∧
          writeAt msg off0 (fixed ++ enc16 v ++ rd) = .ok (m', o2) := by
  obtain ⟨hl1, ho1, hf1⟩ := writeAt_ok_length _ _ _ _ _ h1
  obtain ⟨hl2, ho2, hf2⟩ := writeAt_ok_length _ _ _ _ _ h2
  have hfl : (fixed ++ enc16 0).length = fixed.length + 2 := by simp [enc16_length]
  obtain ⟨p, m, r, rfl, rfl, hm⟩ := split3 msg off0 _ hf1
  rw [writeAt_split p m r _ hm.symm] at h1
  simp only [Res.ok.injEq, Prod.mk.injEq] at h1
  obtain ⟨rfl, _⟩ := h1
  have hr : rd.length ≤ r.length := by
    simp only [List.length_append] at hf2 hl1 ⊢
    omega
  obtain ⟨r1, r2, rfl, hr1⟩ : ∃ r1 r2, r = r1 ++ r2 ∧ r1.length = rd.length :=
    ⟨r.take rd.length, r.drop rd.length, by simp, by simp; omega⟩
  have e1 : p ++ (fixed ++ enc16 0 ++ (r1 ++ r2)) = (p ++ (fixed ++ enc16 0)) ++ (r1 ++ r2) := by simp
  have e2 : o1 = (p ++ (fixed ++ enc16 0)).length := by simp [ho1, hfl] <;> omega
  rw [e1, e2, writeAt_split (p ++ (fixed ++ enc16 0)) r1 r2 rd hr1.symm] at h2
  simp only [Res.ok.injEq, Prod.mk.injEq] at h2
  obtain ⟨rfl, _⟩ := h2
  have hnat : GoSem.natOfInt (((o1 : Nat) : Int) - ((2 : Nat) : Int)) = .ok (o1 - 2) := natOfInt_sub o1 2 (by omega)
  have hlo : o1 - 2 = (p ++ fixed).length := by simp [ho1, hfl] <;> omega
  have hshape : p ++ (fixed ++ enc16 0) ++ (rd ++ r2) = (p ++ fixed) ++ (enc16 0 ++ (rd ++ r2)) := by simp
  have hsl : GoSem.slice ((p ++ fixed) ++ (enc16 0 ++ (rd ++ r2))) (p ++ fixed).length o1 = .ok (enc16 0) := by
    unfold GoSem.slice
    have hb : (p ++ fixed).length ≤ o1 ∧ o1 ≤ ((p ++ fixed) ++ (enc16 0 ++ (rd ++ r2))).length := by
      simp [ho1, hfl, enc16_length] <;> omega
    have ho : o1 = (p ++ fixed).length + (enc16 0).length := by simp [ho1, hfl, enc16_length] <;> omega
    rw [if_pos hb, ho, List.take_length_add_append, List.drop_left]
    simp
  refine ⟨(p ++ fixed) ++ (enc16 v ++ (rd ++ r2)), ?_, ?_, ?_⟩
  · rw [hnat]
    simp only [Res.bind_ok', hshape, hlo, hsl]
    simp only [Translated.putUint16, GoSem.putUint16, enc16, Res.bind_ok', Res.pure_eq, GoSem.splice, List.take_left,
      u8_ofNat_mod]
    congr 1
    have e : p ++ fixed ++ ([UInt8.ofNat (0 / 256), UInt8.ofNat 0] ++ (rd ++ r2)) =
        (p ++ fixed ++ [UInt8.ofNat (0 / 256), UInt8.ofNat 0]) ++ (rd ++ r2) := by simp
    have e' : (p ++ fixed).length + [UInt8.ofNat (v / 256), UInt8.ofNat v].length =
        (p ++ fixed ++ [UInt8.ofNat (0 / 256), UInt8.ofNat 0]).length := by simp <;> omega
    rw [e, e', List.drop_left]
    simp
  · have hshape1 : p ++ (fixed ++ enc16 0 ++ (r1 ++ r2)) = (p ++ fixed) ++ (enc16 0 ++ (r1 ++ r2)) := by simp
    rw [hshape1, hlo]
    unfold GoSem.slice
    have hb : (p ++ fixed).length ≤ o1 ∧ o1 ≤ ((p ++ fixed) ++ (enc16 0 ++ (r1 ++ r2))).length := by
      simp [ho1, hfl, enc16_length] <;> omega
    rw [if_pos hb]
    simp
  · have e3 : p ++ (m ++ (r1 ++ r2)) = p ++ ((m ++ r1) ++ r2) := by simp
    rw [e3, writeAt_split p (m ++ r1) r2 _ (by simp [enc16_length, hm, hfl, hr1]; omega)]
    simp [ho2, ho1, enc16_length, hfl]
    omega

theorem writeAt_not_fit {b : Bytes} {off : Nat} {bs : Bytes} (h : writeAt b off bs = .err) :
    ¬ off + bs.length ≤ b.length := by
  intro hle
  unfold writeAt at h
  rw [if_pos hle] at h
  cases h

/-- the shape shared by `NAMEResource.pack`, `MX.pack`, `SRV.pack`, `SOA.pack`: header with RDLENGTH 0, the window
    in front of the RDATA, the RDATA (`rdGo`, tied to the model's `rdModel`), the back-patch — against the model's
    `packResource` shape (RDATA produced for its start offset, prefixed by its length) -/
theorem rr_backpatch (name : Name) (ty cls ttl : Nat) (msg : Bytes) (off0 : Nat) (tbl : Option Table)
    (rdModel : Nat → Option Table → Res (Bytes × Option Table))
    (rdGo : Bytes → Nat → Option Table → Res (Bytes × Option Table × Nat))
    (hrd : ∀ m o t, rdGo m o t = writeRes m o (rdModel o t)) (hnp : ∀ o t, rdModel o t ≠ .panic) :
    writeRes msg off0 (packName off0 tbl name >>= fun r =>
        rdModel (off0 + (r.1 ++ enc16 ty ++ enc16 cls ++ enc32 ttl).length + 2) r.2 >>= fun d =>
          .ok (r.1 ++ enc16 ty ++ enc16 cls ++ enc32 ttl ++ enc16 (d.1.length % 65536) ++ d.1, d.2)) =
      (Translated.ResourceHdr_pack name ty cls ttl msg off0 tbl 0 >>= fun h =>
        GoSem.natOfInt (((h.2.2 : Nat) : Int) - ((2 : Nat) : Int)) >>= fun lo =>
        GoSem.slice h.1 lo h.2.2 >>= fun _ =>
        rdGo h.1 h.2.2 h.2.1 >>= fun d =>
        GoSem.slice d.1 lo h.2.2 >>= fun t =>
        Translated.putUint16 t (((d.2.2 % 65536) + 65536 - (h.2.2 % 65536)) % 65536) >>= fun w =>
        pure (GoSem.splice d.1 lo w, d.2.1, d.2.2)) := by
  rw [ResourceHdr_pack_tied]
  cases hp : packName off0 tbl name with
  | err => rfl
  | panic => rfl
  | ok r =>
    obtain ⟨nb, t1⟩ := r
    simp only [Res.bind_ok']
    generalize hfx : nb ++ enc16 ty ++ enc16 cls ++ enc32 ttl = fixed
    rw [writeRes_ok]
    cases hw1 : writeAt msg off0 (fixed ++ enc16 0) with
    | panic => exact absurd hw1 (writeAt_ne_panic _ _ _)
    | err =>
      -- the header does not fit: nor does the model's header with the RDATA behind it
      cases hm : rdModel (off0 + fixed.length + 2) t1 with
      | panic => exact absurd hm (hnp _ _)
      | err => rfl
      | ok d =>
        simp only [Res.bind_ok', Res.bind_err', writeRes]
        have := writeAt_not_fit hw1
        rw [writeAt_err]
        simp only [List.length_append, enc16_length] at this ⊢
        omega
    | ok w1 =>
      obtain ⟨m1, o1⟩ := w1
      obtain ⟨hl1, ho1, hf1⟩ := writeAt_ok_length _ _ _ _ _ hw1
      simp only [List.length_append, enc16_length] at ho1 hf1
      have ho1' : off0 + fixed.length + 2 = o1 := by omega
      obtain ⟨x1, hx1⟩ : ∃ x, GoSem.slice m1 (o1 - 2) o1 = .ok x :=
        ⟨_, if_pos (by omega : o1 - 2 ≤ o1 ∧ o1 ≤ m1.length)⟩
      simp only [Res.bind_ok', natOfInt_sub o1 2 (by omega), hx1, hrd, ho1']
      cases hm : rdModel o1 t1 with
      | panic => exact absurd hm (hnp _ _)
      | err => rfl
      | ok d =>
        obtain ⟨rd, t2⟩ := d
        simp only [Res.bind_ok', writeRes_ok]
        cases hw2 : writeAt m1 o1 rd with
        | panic => exact absurd hw2 (writeAt_ne_panic _ _ _)
        | err =>
          -- the RDATA does not fit behind the header: nor does the whole
          have := writeAt_not_fit hw2
          rw [writeAt_err]
          · rfl
          · simp only [List.length_append, enc16_length]
            omega
        | ok w2 =>
          obtain ⟨m2, o2⟩ := w2
          obtain ⟨_, ho2, _⟩ := writeAt_ok_length _ _ _ _ _ hw2
          have hv : ((o2 % 65536) + 65536 - (o1 % 65536)) % 65536 = rd.length % 65536 := by omega
          obtain ⟨m', hpatch, _, hwhole⟩ := backpatch msg off0 fixed rd m1 o1 m2 o2 (rd.length % 65536) hw1 hw2
          rw [natOfInt_sub o1 2 (by omega)] at hpatch
          have := congrArg (· >>= fun m => (pure (m, t2, o2) : Res (Bytes × Option Table × Nat))) hpatch
          simp only [Res.bind_assoc', Res.bind_ok', Res.pure_eq] at this
          simp only [Res.bind_ok', hwhole, hv]
          exact this.symm

/-- `NAMEResource.pack` (CNAME, NS, PTR): the RDATA is a name, compressed with the same table -/
theorem NAME_pack_tied (msg : Bytes) (off : Nat) (tbl : Option Table) (name : Name) (ty cls ttl : Nat) (n : Name) :
    packResourceBuf msg off tbl ⟨name, ty, cls, ttl, .name n⟩ =
      Translated.NAMEResource_pack name ty cls ttl n msg off tbl := by
  have h := rr_backpatch name ty cls ttl msg off tbl (fun o t => packName o t n)
    (fun m o t => Translated.Name_pack n m o t) (fun m o t => (Name_pack_translated n m o t).symm)
    (fun o t => packName_ne_panic o t n)
  unfold packResourceBuf packResource Translated.NAMEResource_pack
  simp only [packRData]
  exact h

/-- fixed octets, then a name: the Go writers in sequence are the model's "name packed for the offset behind the
    fixed octets, prefixed by them" -/
theorem pre_name (pre : Bytes) (n : Name) (m : Bytes) (o : Nat) (t : Option Table) :
    (writeAt m o pre >>= fun w => Translated.Name_pack n w.1 w.2 t) =
      writeRes m o (packName (o + pre.length) t n >>= fun r => .ok (pre ++ r.1, r.2)) := by
  cases hw : writeAt m o pre with
  | panic => exact absurd hw (writeAt_ne_panic _ _ _)
  | err =>
    simp only [Res.bind_err']
    cases hp : packName (o + pre.length) t n with
    | panic => exact absurd hp (packName_ne_panic _ _ _)
    | err => rfl
    | ok r => simp only [Res.bind_ok', writeRes_ok, writeAt_append, hw, Res.bind_err']
  | ok w =>
    obtain ⟨m', o'⟩ := w
    obtain ⟨_, ho, _⟩ := writeAt_ok_length _ _ _ _ _ hw
    subst ho
    simp only [Res.bind_ok']
    rw [← Name_pack_translated n m' (o + pre.length) t]
    unfold packNameBuf
    cases hp : packName (o + pre.length) t n with
    | panic => rfl
    | err => rfl
    | ok r =>
      obtain ⟨nb, t'⟩ := r
      simp only [Res.bind_ok', writeRes_ok, writeAt_append, hw]

theorem pre_name_ne_panic (pre : Bytes) (n : Name) (o : Nat) (t : Option Table) :
    (packName (o + pre.length) t n >>= fun r => (.ok (pre ++ r.1, r.2) : Res (Bytes × Option Table))) ≠ .panic := by
  cases hp : packName (o + pre.length) t n with
  | panic => exact absurd hp (packName_ne_panic _ _ _)
  | err => simp
  | ok r => simp

theorem MX_pack_tied (msg : Bytes) (off : Nat) (tbl : Option Table) (name : Name) (ty cls ttl pref : Nat) (n : Name) :
    packResourceBuf msg off tbl ⟨name, ty, cls, ttl, .mx pref n⟩ =
      Translated.MX_pack name ty cls ttl pref n msg off tbl := by
  have h := rr_backpatch name ty cls ttl msg off tbl
    (fun o t => packName (o + (enc16 pref).length) t n >>= fun r => .ok (enc16 pref ++ r.1, r.2))
    (fun m o t => writeAt m o (enc16 pref) >>= fun w => Translated.Name_pack n w.1 w.2 t)
    (fun m o t => pre_name (enc16 pref) n m o t) (fun o t => pre_name_ne_panic (enc16 pref) n o t)
  unfold packResourceBuf packResource Translated.MX_pack
  simp only [packRData]
  refine h.trans ?_
  simp only [Res.bind_assoc', packUint16_translated]

/-- `SRV.pack` (the target is compressed like every other name, as the Go code does) -/
theorem SRV_pack_tied (msg : Bytes) (off : Nat) (tbl : Option Table) (name : Name) (ty cls ttl prio weight port : Nat)
    (n : Name) :
    packResourceBuf msg off tbl ⟨name, ty, cls, ttl, .srv prio weight port n⟩ =
      Translated.SRV_pack name ty cls ttl prio weight port n msg off tbl := by
  have h := rr_backpatch name ty cls ttl msg off tbl
    (fun o t => packName (o + (enc16 prio ++ enc16 weight ++ enc16 port).length) t n >>= fun r =>
      .ok (enc16 prio ++ enc16 weight ++ enc16 port ++ r.1, r.2))
    (fun m o t => writeAt m o (enc16 prio ++ enc16 weight ++ enc16 port) >>= fun w => Translated.Name_pack n w.1 w.2 t)
    (fun m o t => pre_name _ n m o t) (fun o t => pre_name_ne_panic _ n o t)
  unfold packResourceBuf packResource Translated.SRV_pack
  simp only [packRData]
  refine h.trans ?_
  simp only [writeAt_append, Res.bind_assoc', packUint16_translated]

/-- the RDATA of an SOA record in the model: two names (the second packed for the offset behind the first), then
    fixed octets -/
def soaModel (ns mbox : Name) (tail : Bytes) (o : Nat) (t : Option Table) : Res (Bytes × Option Table) :=
  packName o t ns >>= fun r1 => packName (o + r1.1.length) r1.2 mbox >>= fun r2 => .ok (r1.1 ++ r2.1 ++ tail, r2.2)

theorem soaModel_ne_panic (ns mbox : Name) (tail : Bytes) (o : Nat) (t : Option Table) :
    soaModel ns mbox tail o t ≠ .panic := by
  unfold soaModel
  cases h1 : packName o t ns with
  | panic => exact absurd h1 (packName_ne_panic _ _ _)
  | err => simp
  | ok r1 =>
    simp only [Res.bind_ok']
    cases h2 : packName (o + r1.1.length) r1.2 mbox with
    | panic => exact absurd h2 (packName_ne_panic _ _ _)
    | err => simp
    | ok r2 => simp

theorem soa_rd (ns mbox : Name) (tail m : Bytes) (o : Nat) (t : Option Table) :
    (Translated.Name_pack ns m o t >>= fun a => Translated.Name_pack mbox a.1 a.2.2 a.2.1 >>= fun b =>
        writeAt b.1 b.2.2 tail >>= fun w => (.ok (w.1, b.2.1, w.2) : Res (Bytes × Option Table × Nat))) =
      writeRes m o (soaModel ns mbox tail o t) := by
  unfold soaModel
  rw [← Name_pack_translated ns m o t]
  unfold packNameBuf
  cases h1 : packName o t ns with
  | panic => rfl
  | err => rfl
  | ok r1 =>
    obtain ⟨b1, t1⟩ := r1
    simp only [Res.bind_ok', writeRes_ok]
    cases hw : writeAt m o b1 with
    | panic => exact absurd hw (writeAt_ne_panic _ _ _)
    | err =>
      simp only [Res.bind_err']
      cases h2 : packName (o + b1.length) t1 mbox with
      | panic => exact absurd h2 (packName_ne_panic _ _ _)
      | err => rfl
      | ok r2 => simp only [Res.bind_ok', writeRes_ok, writeAt_append, hw, Res.bind_err']
    | ok w =>
      obtain ⟨m1, o1⟩ := w
      obtain ⟨_, ho, _⟩ := writeAt_ok_length _ _ _ _ _ hw
      subst ho
      simp only [Res.bind_ok']
      rw [← Name_pack_translated mbox m1 (o + b1.length) t1]
      unfold packNameBuf
      cases h2 : packName (o + b1.length) t1 mbox with
      | panic => rfl
      | err => rfl
      | ok r2 =>
        obtain ⟨b2, t2⟩ := r2
        simp only [Res.bind_ok', writeRes_ok, writeAt_append, hw, Res.bind_assoc']

theorem SOA_pack_tied (msg : Bytes) (off : Nat) (tbl : Option Table) (name : Name) (ty cls ttl : Nat) (ns mbox : Name)
    (serial refresh retry expire minttl : Nat) :
    packResourceBuf msg off tbl ⟨name, ty, cls, ttl, .soa ns mbox serial refresh retry expire minttl⟩ =
      Translated.SOA_pack name ty cls ttl ns mbox serial refresh retry expire minttl msg off tbl := by
  have h := rr_backpatch name ty cls ttl msg off tbl
    (soaModel ns mbox (enc32 serial ++ enc32 refresh ++ enc32 retry ++ enc32 expire ++ enc32 minttl))
    (fun m o t => Translated.Name_pack ns m o t >>= fun a => Translated.Name_pack mbox a.1 a.2.2 a.2.1 >>= fun b =>
        writeAt b.1 b.2.2 (enc32 serial ++ enc32 refresh ++ enc32 retry ++ enc32 expire ++ enc32 minttl) >>= fun w =>
          .ok (w.1, b.2.1, w.2))
    (fun m o t => soa_rd ns mbox _ m o t) (fun o t => soaModel_ne_panic ns mbox _ o t)
  unfold packResourceBuf packResource Translated.SOA_pack
  simp only [packRData]
  refine Eq.trans ?_ (h.trans ?_)
  · unfold soaModel
    congr 1
    cases packName off tbl name with
    | panic => rfl
    | err => rfl
    | ok r =>
      simp only [Res.bind_ok', Res.bind_assoc', List.append_assoc]
  · simp only [writeAt_append, Res.bind_assoc', packUint32_translated, Res.bind_ok']

/-- one 16-bit field written through its window `b[lo:hi]` is the model's `writeAt` of `enc16 v`; what follows (`f` in
    the model, `g` in the translation) sees a buffer of the same length -/
theorem put16_step {α : Type} {b : Bytes} {lo hi v : Nat} {f : Bytes × Nat → Res α} {g : Bytes → Res α}
    (hhi : hi = lo + 2) (h : hi ≤ b.length)
    (hfg : ∀ b', b'.length = b.length → GoSem.splice b lo (enc16 v) = b' → f (b', hi) = g (enc16 v)) :
    (writeAt b lo (enc16 v) >>= f) = (GoSem.slice b lo hi >>= fun t => Translated.putUint16 t v >>= g) := by
  subst hhi
  obtain ⟨p, m, r, rfl, rfl, hm⟩ := split3 b lo 2 h
  match m, hm with
  | [a, c], _ =>
    have hs : GoSem.slice (p ++ ([a, c] ++ r)) p.length (p.length + 2) = .ok [a, c] := slice_window p [a, c] r
    rw [writeAt_split p [a, c] r (enc16 v) rfl, hs]
    refine (hfg _ (by simp only [List.length_append]; rfl) (splice_window p [a, c] r (enc16 v) rfl)).trans ?_
    simp only [Res.bind_ok', Translated.putUint16, GoSem.putUint16, Res.pure_eq, enc16, u8_ofNat_mod]

/-- `header.pack` (called last by `Msg.Pack`, on `b[:12]`): id, flag word and the four section counts, big-endian,
    over the first twelve octets — the model's header prefix `enc16 id ++ enc16 bits ++ enc16 counts…`; the `8` is the
    offset Go's `header.pack` returns -/
theorem header_pack_translated (id bits q a n x : Nat) (msg : Bytes) :
    (writeAt msg 0 (enc16 id ++ enc16 bits ++ enc16 q ++ enc16 a ++ enc16 n ++ enc16 x) >>= fun w =>
        (.ok (w.1, 8) : Res (Bytes × Nat))) =
      Translated.header_pack id bits q a n x msg := by
  unfold Translated.header_pack
  by_cases h : msg.length < 12
  · rw [writeAt_err _ _ _ (by simp only [List.length_append, enc16_length]; omega)]
    simp only [GoSem.len, h, decide_true, if_true, Res.bind_err']
  · simp only [GoSem.len, h, decide_false, Bool.false_eq_true, if_false, writeAt_append, Res.bind_assoc']
    refine put16_step rfl (by omega) fun b1 l1 e1 => ?_
    simp only [e1]
    refine put16_step rfl (by omega) fun b2 l2 e2 => ?_
    simp only [e2]
    refine put16_step rfl (by omega) fun b3 l3 e3 => ?_
    simp only [e3]
    refine put16_step rfl (by omega) fun b4 l4 e4 => ?_
    simp only [e4]
    refine put16_step rfl (by omega) fun b5 l5 e5 => ?_
    simp only [e5]
    refine put16_step rfl (by omega) fun b6 l6 e6 => ?_
    simp only [e6]
    rfl

end MosVerif.Wire
