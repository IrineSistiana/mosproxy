/-
  Wire codec (C02), on Lemmas/CodecRecord and Lemmas/CodecHeader: the section loops of `Msg.Pack` against the
  count-driven loops of `Msg.Unpack`, the message header, and the round trip of a whole message without size limit
  (`packMsg_roundtrip`).  The two loops are the two instances of `SectionLoop`; what Lemmas/CodecTrunc*.lean prove
  of the size-limited loops (C09) rests on the same structure.
-/
import MosVerif.Lemmas.CodecRecord
import MosVerif.Lemmas.CodecHeader
namespace MosVerif.Wire

/-- the `size > 0 && off+len > size` test of the loops -/
def skips (limit : Option Nat) (off len : Nat) : Bool :=
  match limit with
  | some size => decide (off + len > size)
  | none => false

/-- the questions a (possibly limited) loop retains, in order — when the loop succeeds: where the packer fails the
    loop has no result, the value `[q]` there is arbitrary and no lemma looks at it (`keptR` likewise) -/
def keptQ (limit : Option Nat) : List Question → PState → List Question
  | [], _ => []
  | q :: qs, s =>
    if skips limit (12 + s.body.length) (questionLen q) then keptQ limit qs s
    else match packQuestion (12 + s.body.length) s.tbl q with
      | .ok (bs, tbl) => q :: keptQ limit qs ⟨s.body ++ bs, tbl⟩
      | _ => [q]

/-- the records a (possibly limited) loop retains, in order -/
def keptR (limit : Option Nat) : List Resource → PState → List Resource
  | [], _ => []
  | r :: rs, s =>
    if skips limit (12 + s.body.length) (resourcePackLen r) then keptR limit rs s
    else match packResource (12 + s.body.length) s.tbl r with
      | .ok (bs, tbl) => r :: keptR limit rs ⟨s.body ++ bs, tbl⟩
      | _ => [r]

theorem skips_none (off len : Nat) : skips none off len = false := rfl

theorem skips_some (L off len : Nat) : skips (some L) off len = true ↔ L < off + len := decide_eq_true_iff

/-- `loop` is a section loop of `Msg.Pack` for elements of length `len` packed by `pack`, and `kept`
    is the sub-list it retains. -/
structure SectionLoop {α : Type} (len : α → Nat) (pack : Nat → Option Table → α → Res (Bytes × Option Table))
    (loop : Option Nat → List α → PState → Res (PState × Nat))
    (kept : Option Nat → List α → PState → List α) : Prop where
  loop_nil : ∀ limit s, loop limit [] s = .ok (s, 0)
  loop_cons : ∀ limit x xs s, loop limit (x :: xs) s =
    if skips limit (12 + s.body.length) (len x) then loop limit xs s >>= fun p => .ok (p.1, p.2 + 1)
    else pack (12 + s.body.length) s.tbl x >>= fun p => loop limit xs ⟨s.body ++ p.1, p.2⟩
  kept_nil : ∀ limit s, kept limit [] s = []
  kept_cons : ∀ limit x xs s, kept limit (x :: xs) s =
    if skips limit (12 + s.body.length) (len x) then kept limit xs s
    else match pack (12 + s.body.length) s.tbl x with
      | .ok (bs, tbl) => x :: kept limit xs ⟨s.body ++ bs, tbl⟩
      | _ => [x]

theorem questionsLoop : SectionLoop questionLen packQuestion packQuestionsLoop keptQ where
  loop_nil _ _ := rfl
  loop_cons limit q qs s := by
    cases limit with
    | none => rfl
    | some size => simp only [packQuestionsLoop, skips, decide_eq_true_eq]
  kept_nil _ _ := rfl
  kept_cons _ _ _ _ := rfl

theorem resourcesLoop : SectionLoop resourcePackLen packResource packResourcesLoop keptR where
  loop_nil _ _ := rfl
  loop_cons limit r rs s := by
    cases limit with
    | none => rfl
    | some size => simp only [packResourcesLoop, skips, decide_eq_true_eq]
  kept_nil _ _ := rfl
  kept_cons _ _ _ _ := rfl

variable {α : Type} {len : α → Nat} {pack : Nat → Option Table → α → Res (Bytes × Option Table)}
  {loop : Option Nat → List α → PState → Res (PState × Nat)} {kept : Option Nat → List α → PState → List α}

theorem SectionLoop.loop_cons_none (h : SectionLoop len pack loop kept) (x : α) (xs : List α) (s : PState) :
    loop none (x :: xs) s = pack (12 + s.body.length) s.tbl x >>= fun p => loop none xs ⟨s.body ++ p.1, p.2⟩ := by
  rw [h.loop_cons, skips_none]
  rfl

theorem SectionLoop.body_prefix (h : SectionLoop len pack loop kept) (limit : Option Nat) (xs : List α) :
    ∀ {s s' : PState} {k : Nat}, loop limit xs s = .ok (s', k) → ∃ bs, s'.body = s.body ++ bs := by
  induction xs with
  | nil =>
    intro s s' k hl
    rw [h.loop_nil] at hl
    cases hl
    exact ⟨[], (List.append_nil _).symm⟩
  | cons x xs ih =>
    intro s s' k hl
    rw [h.loop_cons] at hl
    split at hl
    · obtain ⟨⟨s1, k1⟩, h1, h2⟩ := Res.bind_eq_ok hl
      cases h2
      exact ih h1
    · obtain ⟨⟨b1, t1⟩, _, h2⟩ := Res.bind_eq_ok hl
      obtain ⟨b2, e⟩ := ih h2
      exact ⟨b1 ++ b2, by rw [e, List.append_assoc]⟩

theorem packQuestionsLoop_body_prefix (limit : Option Nat) (qs : List Question) :
    ∀ (s s' : PState) (k : Nat), packQuestionsLoop limit qs s = .ok (s', k) → ∃ bs, s'.body = s.body ++ bs :=
  fun _ _ _ => questionsLoop.body_prefix limit qs

/-- An unlimited loop over well-formed elements, whose packer is as `packQuestion_enc` and `packResource_enc` say
    (`hpack`), against the count-driven decoder `decs` of the section (`H` stands for the 12 header octets). -/
theorem SectionLoop.none_enc (h : SectionLoop len pack loop kept) {wf : α → Bool}
    {dec : Bytes → Nat → Res (α × Nat)} {decs : Nat → Bytes → Nat → Res (List α × Nat)}
    (decs_zero : ∀ msg off, decs 0 msg off = .ok ([], off))
    (decs_succ : ∀ n msg off, decs (n + 1) msg off =
      (dec msg off >>= fun p => decs n msg p.2 >>= fun q => .ok (p.1 :: q.1, q.2)))
    (H : Bytes) (hH : H.length = 12)
    (hpack : ∀ buf off, off = buf.length → ∀ tbl x, wf x = true → TableOK' buf tbl →
      ∃ bs tbl', pack off tbl x = .ok (bs, tbl') ∧ Enc dec buf tbl x (len x) bs tbl')
    (xs : List α) :
    ∀ (body : Bytes) (tbl : Option Table), (∀ x ∈ xs, wf x = true) → TableOK' (H ++ body) tbl →
    ∃ bs tbl', loop none xs ⟨body, tbl⟩ = .ok (⟨body ++ bs, tbl'⟩, 0) ∧
      Enc (decs xs.length) (H ++ body) tbl xs ((xs.map len).sum) bs tbl' := by
  induction xs with
  | nil =>
    intro body tbl _ hT
    exact ⟨[], tbl, by rw [h.loop_nil, List.append_nil], Wrote.fixed hT [], fun _ => decs_zero _ _⟩
  | cons x xs ih =>
    intro body tbl hx hT
    obtain ⟨b1, t1, hp1, hE1⟩ := hpack (H ++ body) (12 + body.length)
      (by rw [List.length_append, hH]) tbl x (hx x List.mem_cons_self) hT
    obtain ⟨b2, t2, hp2, hE2⟩ := ih (body ++ b1) t1 (fun y hy => hx y (List.mem_cons_of_mem _ hy))
      (by rw [← List.append_assoc]; exact hE1.table)
    refine ⟨b1 ++ b2, t2, ?_, hE1.toWrote.seq_body hE2.toWrote, ?_⟩
    · rw [h.loop_cons_none]
      simp only [hp1, Res.ok_bind, hp2, List.append_assoc]
    · intro msg o post a
      rw [List.append_assoc] at a
      have r2 := hE2.reads a.step_body
      simp only [List.length_cons, decs_succ, hE1.reads a, r2, Res.ok_bind, List.length_append, Nat.add_assoc]

/-- the count-driven decoders of `Msg.Unpack`, as functions of the count -/
abbrev decQuestions (n : Nat) : Bytes → Nat → Res (List Question × Nat) := fun msg off => unpackQuestions msg n off
abbrev decResources (n : Nat) : Bytes → Nat → Res (List Resource × Nat) := fun msg off => unpackResources msg n off

theorem packQuestionsLoop_none_enc (H : Bytes) (hH : H.length = 12) (qs : List Question) :
    ∀ (body : Bytes) (tbl : Option Table), (∀ q ∈ qs, questionWF q = true) → TableOK' (H ++ body) tbl →
    ∃ bs tbl', packQuestionsLoop none qs ⟨body, tbl⟩ = .ok (⟨body ++ bs, tbl'⟩, 0) ∧
      Enc (decQuestions qs.length) (H ++ body) tbl qs ((qs.map questionLen).sum) bs tbl' :=
  questionsLoop.none_enc (decs := decQuestions) (fun _ _ => rfl) (fun _ _ _ => rfl) H hH packQuestion_enc qs

theorem packResourcesLoop_none_enc (H : Bytes) (hH : H.length = 12) (rs : List Resource) :
    ∀ (body : Bytes) (tbl : Option Table), (∀ r ∈ rs, resourceWF r = true) → TableOK' (H ++ body) tbl →
    ∃ bs tbl', packResourcesLoop none rs ⟨body, tbl⟩ = .ok (⟨body ++ bs, tbl'⟩, 0) ∧
      Enc (decResources rs.length) (H ++ body) tbl rs ((rs.map resourcePackLen).sum) bs tbl' :=
  resourcesLoop.none_enc (decs := decResources) (fun _ _ => rfl) (fun _ _ _ => rfl) H hH packResource_enc rs

theorem packResourcesLoop_none_raw (rs : List Resource) :
    ∀ (body : Bytes) (tbl : Option Table) (bs : Bytes) (tbl' : Option Table) (k : Nat),
    packResourcesLoop none rs ⟨body, tbl⟩ = .ok (⟨body ++ bs, tbl'⟩, k) →
    ∀ r ∈ rs, ∀ d, r.rdata = .raw d → ∃ pre post, bs = pre ++ (enc16 (d.length % 65536) ++ d ++ post) := by
  induction rs with
  | nil => intro _ _ _ _ _ _ r hr; cases hr
  | cons r0 rs ih =>
    intro body tbl bs tbl' k h r hr d hd
    simp only [packResourcesLoop] at h
    obtain ⟨⟨b1, t1⟩, h1, h⟩ := Res.bind_eq_ok h
    obtain ⟨b2, hb2⟩ := resourcesLoop.body_prefix none rs h
    simp only [List.append_assoc, List.append_cancel_left_eq] at hb2
    subst hb2
    rw [← List.append_assoc] at h
    rcases List.mem_cons.mp hr with rfl | hr
    · obtain ⟨front, hf⟩ := packResource_raw_verbatim _ _ r d hd b1 t1 h1
      exact ⟨front, b2, by rw [hf]; simp⟩
    · obtain ⟨pre, post, e⟩ := ih _ _ _ _ _ h r hr d hd
      exact ⟨b1 ++ pre, post, by rw [e]; simp⟩

/-- the header `Msg.Pack` writes -/
def hdrBytes (id bits qn an nn xn : Nat) : Bytes :=
  enc16 id ++ enc16 bits ++ enc16 qn ++ enc16 an ++ enc16 nn ++ enc16 xn

theorem hdrBytes_length (id bits qn an nn xn : Nat) : (hdrBytes id bits qn an nn xn).length = 12 := rfl

theorem unpackMsg_hdr (msg rest : Bytes) (id bits qn an nn xn : Nat)
    (hid : id < 65536) (hbits : bits < 65536) (hqn : qn < 65536) (han : an < 65536) (hnn : nn < 65536)
    (hxn : xn < 65536) (hmsg : msg = hdrBytes id bits qn an nn xn ++ rest) :
    unpackMsg msg = (do
      let (qs, off) ← unpackQuestions msg qn 12
      let (an', off) ← unpackResources msg an off
      let (ns, off) ← unpackResources msg nn off
      let (ar, _) ← unpackResources msg xn off
      .ok ⟨headerOfBits id bits, qs, an', ns, ar⟩) := by
  subst hmsg
  simp only [unpackMsg, hdrBytes, enc16, List.cons_append, List.nil_append, sliceFrom_ok (Nat.zero_le _), List.drop_zero,
    Res.ok_bind, be16_enc16 _ hid, be16_enc16 _ hbits, be16_enc16 _ hqn, be16_enc16 _ han, be16_enc16 _ hnn,
    be16_enc16 _ hxn]

/-- the limit after the floor (`if size > 0 && size < 512 { size = 512 }`) -/
def effSize (size : Nat) : Nat := if size > 0 ∧ size < minSize then minSize else size

/-- `(edns0Opt, m.Additionals after PopEDNS0)`; nothing is popped when there is no limit -/
def popped (m : Msg) (size : Nat) : Option Resource × List Resource :=
  if effSize size > 0 then popEDNS0 m.additionals else (none, m.additionals)

/-- the budget the loops compare against: `size - edns0Opt.packLen()`, `none` = no limit -/
def limitOf (m : Msg) (size : Nat) : Option Nat :=
  if effSize size > 0 then
    match (popped m size).1 with
    | some o => if effSize size > resourcePackLen o then some (effSize size - resourcePackLen o) else none
    | none => some (effSize size)
  else none

def initState (c : Bool) : PState := ⟨[], if c then some [] else none⟩

/-- what `Msg.Pack` returns when the loops skipped `kq`, `ka`, `kn`, `kx` elements and wrote `body`:
    the header (TC or-ed in iff something was skipped, counts reduced) and the body -/
def msgBytes (m : Msg) (kq ka kn kx : Nat) (body : Bytes) : Bytes :=
  hdrBytes m.hdr.id
    (if kq + ka + kn + kx > 0 then Nat.lor (bitsOfHeader m.hdr) headerBitTC else bitsOfHeader m.hdr)
    (m.questions.length - kq) (m.answers.length - ka) (m.authorities.length - kn) (m.additionals.length - kx) ++ body

/-- `Msg.Pack` spelled out with the helpers above -/
theorem packMsg_unfold (m : Msg) (c : Bool) (size cap : Nat) :
    packMsg m c size cap =
      if m.questions.length > 65535 ∨ m.answers.length > 65535 ∨ m.authorities.length > 65535
          ∨ m.additionals.length > 65535 then .err
      else if cap < 12 then .err
      else
        packQuestionsLoop (limitOf m size) m.questions (initState c) >>= fun p1 =>
        packResourcesLoop (limitOf m size) m.answers p1.1 >>= fun p2 =>
        packResourcesLoop (limitOf m size) m.authorities p2.1 >>= fun p3 =>
        packResourcesLoop (limitOf m size) (popped m size).2 p3.1 >>= fun p4 =>
        packOpt (popped m size).1 p4.1 >>= fun s5 =>
        if (msgBytes m p1.2 p2.2 p3.2 p4.2 s5.body).length > cap then .err
        else .ok (msgBytes m p1.2 p2.2 p3.2 p4.2 s5.body) :=
  rfl

theorem limitOf_zero (m : Msg) : limitOf m 0 = none := rfl

theorem popped_zero (m : Msg) : popped m 0 = (none, m.additionals) := rfl

/-- `msgWF` as a flat conjunction, the form in which it is taken apart and put together -/
abbrev msgParts (m : Msg) : Prop :=
  (m.hdr.id < 65536 ∧ m.hdr.opcode < 16 ∧ m.hdr.rcode < 16) ∧
  (∀ q ∈ m.questions, questionWF q = true) ∧ (∀ r ∈ m.answers, resourceWF r = true) ∧
  (∀ r ∈ m.authorities, resourceWF r = true) ∧ (∀ r ∈ m.additionals, resourceWF r = true) ∧
  m.questions.length ≤ 65535 ∧ m.answers.length ≤ 65535 ∧ m.authorities.length ≤ 65535 ∧
  m.additionals.length ≤ 65535

theorem msgWF_iff {m : Msg} : msgWF m = true ↔ msgParts m := by
  simp only [msgWF, headerWF, u16, Bool.and_eq_true, decide_eq_true_eq, List.all_eq_true]
  constructor
  · rintro ⟨⟨⟨⟨⟨⟨⟨⟨⟨⟨h1, h2⟩, h3⟩, hq⟩, ha⟩, hn⟩, hx⟩, cq⟩, ca⟩, cn⟩, cx⟩
    exact ⟨⟨h1, h2, h3⟩, hq, ha, hn, hx, cq, ca, cn, cx⟩
  · rintro ⟨⟨h1, h2, h3⟩, hq, ha, hn, hx, cq, ca, cn, cx⟩
    exact ⟨⟨⟨⟨⟨⟨⟨⟨⟨⟨h1, h2⟩, h3⟩, hq⟩, ha⟩, hn⟩, hx⟩, cq⟩, ca⟩, cn⟩, cx⟩

theorem msgWF_parts {m : Msg} (hm : msgWF m = true) : msgParts m := msgWF_iff.1 hm

/-- Core of C02: packing a well-formed message without a size limit into a buffer of `Msg.Len`
    octets succeeds; the output is never longer than `Msg.Len` (exactly `Msg.Len` without
    compression) and decodes to the same message; RDATA of uninterpreted types stands in it verbatim behind its
    length, and its first four octets are the id and the flag word. -/
theorem packMsg_roundtrip (m : Msg) (c : Bool) (hm : msgWF m = true) :
    ∃ bs, packMsg m c 0 (msgLen m) = .ok bs ∧ bs.length ≤ msgLen m ∧
      (c = false → bs.length = msgLen m) ∧ unpackMsg bs = .ok m ∧
      (∀ r d, (r ∈ m.answers ∨ r ∈ m.authorities ∨ r ∈ m.additionals) → r.rdata = .raw d →
        ∃ pre post, bs = pre ++ (enc16 d.length ++ d ++ post)) ∧
      bs.take 4 = enc16 m.hdr.id ++ enc16 (bitsOfHeader m.hdr) := by
  obtain ⟨⟨hid, hop, hrc⟩, hq, ha, hn, hx, cq, ca, cn, cx⟩ := msgWF_parts hm
  let H := hdrBytes m.hdr.id (bitsOfHeader m.hdr) m.questions.length m.answers.length
    m.authorities.length m.additionals.length
  have hH : H.length = 12 := rfl
  obtain ⟨b1, t1, hp1, hE1⟩ := packQuestionsLoop_none_enc H hH m.questions [] (if c then some [] else none) hq
    (TableOK'.init _ c)
  obtain ⟨b2, t2, hp2, hE2⟩ := packResourcesLoop_none_enc H hH m.answers ([] ++ b1) t1 ha
    (by rw [← List.append_assoc]; exact hE1.table)
  obtain ⟨b3, t3, hp3, hE3⟩ := packResourcesLoop_none_enc H hH m.authorities ([] ++ b1 ++ b2) t2 hn
    (by rw [← List.append_assoc]; exact hE2.table)
  obtain ⟨b4, t4, hp4, hE4⟩ := packResourcesLoop_none_enc H hH m.additionals ([] ++ b1 ++ b2 ++ b3) t3 hx
    (by rw [← List.append_assoc]; exact hE3.table)
  -- the loops start from the empty body, hence `[] ++ b1 ++ …` and `H ++ []`; the four sections as one piece of output
  have W := hE1.toWrote.seq_body (hE2.toWrote.seq_body (hE3.toWrote.seq_body hE4.toWrote))
  have hle := W.le
  simp only [List.length_append] at hle
  refine ⟨H ++ ([] ++ b1 ++ b2 ++ b3 ++ b4), ?_, ?_, ?_, ?_, ?_, by simp [H, hdrBytes, enc16]⟩
  · have hcnt : ¬ (m.questions.length > 65535 ∨ m.answers.length > 65535 ∨ m.authorities.length > 65535
        ∨ m.additionals.length > 65535) := by omega
    have hcap : ¬ msgLen m < 12 := by
      unfold msgLen
      omega
    have hfit : ¬ (H ++ ([] ++ b1 ++ b2 ++ b3 ++ b4)).length > msgLen m := by
      simp only [List.length_append, hH, List.length_nil]
      unfold msgLen
      omega
    -- no limit: no OPT record is set aside, nothing is skipped, and the header is `H`
    rw [packMsg_unfold, if_neg hcnt, if_neg hcap, limitOf_zero, popped_zero]
    simp only [initState, hp1, hp2, hp3, hp4, Res.ok_bind, packOpt]
    exact if_neg hfit
  · simp only [List.length_append, hH, List.length_nil]
    unfold msgLen; omega
  · intro hc
    have hex := W.tight (by rw [hc]; rfl)
    simp only [List.length_append] at hex
    simp only [List.length_append, hH, List.length_nil]
    unfold msgLen; omega
  · have hbits := bitsOfHeader_lt m.hdr
    rw [unpackMsg_hdr (H ++ ([] ++ b1 ++ b2 ++ b3 ++ b4)) ([] ++ b1 ++ b2 ++ b3 ++ b4) m.hdr.id (bitsOfHeader m.hdr)
      m.questions.length m.answers.length m.authorities.length m.additionals.length hid hbits
      (by omega) (by omega) (by omega) (by omega) rfl]
    have a1 : At (H ++ ([] ++ b1 ++ b2 ++ b3 ++ b4)) 12 (H ++ []) (b1 ++ (b2 ++ (b3 ++ (b4 ++ [])))) :=
      ⟨by simp only [List.append_assoc, List.append_nil, List.nil_append], by rw [List.append_nil, hH]⟩
    have a2 := a1.step_body
    have a3 := a2.step_body
    have a4 := a3.step_body
    have r1 := hE1.reads a1
    have r2 := hE2.reads a2
    have r3 := hE3.reads a3
    have r4 := hE4.reads a4
    simp only [decQuestions, decResources] at r1 r2 r3 r4
    simp only [r1, r2, r3, r4, Res.ok_bind]
    rw [headerOfBits_bitsOfHeader m.hdr hop hrc]
  · intro r d hr hd
    have hdl : d.length % 65536 = d.length := by
      have hwf := hr.elim (ha r) fun h => h.elim (hn r) (hx r)
      simp only [resourceWF, Bool.and_eq_true, hd, rdataWF, decide_eq_true_eq] at hwf
      exact Nat.mod_eq_of_lt (Nat.lt_succ_of_le hwf.2.2)
    rcases hr with hr | hr | hr
    · obtain ⟨pre, post, e⟩ := packResourcesLoop_none_raw _ _ _ _ _ _ hp2 r hr d hd
      exact ⟨H ++ ([] ++ b1) ++ pre, post ++ b3 ++ b4, by rw [e, hdl]; simp⟩
    · obtain ⟨pre, post, e⟩ := packResourcesLoop_none_raw _ _ _ _ _ _ hp3 r hr d hd
      exact ⟨H ++ ([] ++ b1 ++ b2) ++ pre, post ++ b4, by rw [e, hdl]; simp⟩
    · obtain ⟨pre, post, e⟩ := packResourcesLoop_none_raw _ _ _ _ _ _ hp4 r hr d hd
      exact ⟨H ++ ([] ++ b1 ++ b2 ++ b3) ++ pre, post, by rw [e, hdl]; simp⟩

end MosVerif.Wire
