/-
  The request-handling model satisfies its own executable specification (RouterIO.spec).

  `handle` is `fixHdr m (optFix m x)` for an answer `x` of `handleReq` (or the NOTIMP response).  `spec` first
  asks about header, question section and OPT records of the response: `RespOK`, which holds of every `Answer`
  after the two fix-ups.  Then it asks who was contacted with what, which is read off `outcome` by cases on the
  deciding rule, and what the forwarded bytes decode to, which is the round trip of RouterSpecReq.
-/
import MosVerif.Lemmas.RouterSpecReq
import MosVerif.Lemmas.OptPop
namespace MosVerif.Router
open MosVerif MosVerif.Wire MosVerif.RouterIO

/-- the header fix-up at the end of `handleReqMsg` -/
def fixHdr (m resp : Msg) : Msg :=
  { resp with hdr := { resp.hdr with id := m.hdr.id, response := true, opcode := m.hdr.opcode, ra := true, rd := m.hdr.rd } }

/-- the EDNS0 fix-up of `handleReqMsg` -/
def optFix (m resp : Msg) : Msg :=
  if queryHasOptAny m then addOrReplaceOpt resp else removeEDNS0 resp

/-- the NOTIMP predicate of `handleReqMsg` -/
def notImpl (m : Msg) : Bool := m.hdr.response || !m.hdr.rd || m.hdr.opcode != 0 || m.questions.length != 1

/-- the question `handleReqMsg` hands to `handleReq`: a copy with a lower-cased name -/
def lowerQ (q0 : Question) : Question := ⟨lowerName q0.name, q0.qtype, q0.qclass⟩

@[simp] theorem fixHdr_questions (m x : Msg) : (fixHdr m x).questions = x.questions := rfl
@[simp] theorem fixHdr_answers (m x : Msg) : (fixHdr m x).answers = x.answers := rfl
@[simp] theorem fixHdr_authorities (m x : Msg) : (fixHdr m x).authorities = x.authorities := rfl
@[simp] theorem fixHdr_additionals (m x : Msg) : (fixHdr m x).additionals = x.additionals := rfl
@[simp] theorem fixHdr_rcode (m x : Msg) : (fixHdr m x).hdr.rcode = x.hdr.rcode := rfl

/-- `handle`, with its pieces named -/
theorem handle_eq (env : Env) (m : Msg) :
    handle env m =
      let t : Msg × Nat × List (Nat × Bytes) :=
        if notImpl m then (makeEmptyRespM m rcodeNotImp, 0, [])
        else match m.questions with
          | q0 :: _ => (optFix m (handleReq env (lowerQ q0)).1, (handleReq env (lowerQ q0)).2)
          | [] => (makeEmptyRespM m rcodeNotImp, 0, [])
      ⟨fixHdr m t.1, t.2.1, t.2.2⟩ := by
  -- true by unfolding alone; the elaborator sees that much faster once the two tests are decided
  unfold handle notImpl
  generalize (m.hdr.response || !m.hdr.rd || m.hdr.opcode != 0 || m.questions.length != 1) = b
  cases b with
  | true => rfl
  | false =>
    cases m.questions with
    | nil => rfl
    | cons q0 rest => rfl

theorem handle_notImpl (env : Env) (m : Msg) (h : notImpl m = true) :
    (handle env m).resp = fixHdr m (makeEmptyRespM m rcodeNotImp) ∧ (handle env m).forwards = [] := by
  rw [handle_eq, h]
  exact ⟨rfl, rfl⟩

theorem handle_impl (env : Env) (m : Msg) (q0 : Question) (h : notImpl m = false) (hq : m.questions = [q0]) :
    (handle env m).resp = fixHdr m (optFix m (handleReq env (lowerQ q0)).1) ∧
    (handle env m).forwards = (handleReq env (lowerQ q0)).2.2 := by
  rw [handle_eq, h, hq]
  exact ⟨rfl, rfl⟩

theorem notImpl_eq_false (m : Msg) :
    notImpl m = false ↔ m.hdr.response = false ∧ m.hdr.rd = true ∧ m.hdr.opcode = 0 ∧ m.questions.length = 1 := by
  simp only [notImpl, Bool.or_eq_false_iff, Bool.not_eq_false', bne_eq_false_iff_eq, and_assoc]

theorem notImpl_single {m : Msg} {q0 : Question} (hq : m.questions = [q0])
    (hs : m.hdr.response = false ∧ m.hdr.rd = true ∧ m.hdr.opcode = 0) : notImpl m = false :=
  (notImpl_eq_false m).mpr ⟨hs.1, hs.2.1, hs.2.2, congrArg List.length hq⟩

/-- the specification's "supported" flag is the negation of the model's NOTIMP predicate -/
theorem supported_eq (m : Msg) :
    (!m.hdr.response && m.hdr.rd && m.hdr.opcode == 0 && m.questions.length == 1) = !notImpl m := by
  simp only [notImpl, bne, Bool.not_or, Bool.not_not]

/-- the specification's "the query contained an OPT record" is the model's `queryOpt(m) != nil` -/
theorem queryAny_eq (m : Msg) :
    (m.answers ++ m.authorities ++ m.additionals).any (fun r => r.rtype == typeOPT) = queryHasOptAny m := by
  rw [queryHasOptAny, List.any_append, List.any_append, Bool.or_comm, Bool.or_comm (m.answers.any _), ← Bool.or_assoc]

/-- the facts about a response that the C03-header, C03-question and C12-client-OPT checks of `spec` ask for -/
structure RespOK (m : Msg) (q0 : Question) (r : Msg) : Prop where
  id : r.hdr.id = m.hdr.id
  opcode : r.hdr.opcode = m.hdr.opcode
  response : r.hdr.response = true
  ra : r.hdr.ra = true
  rd : r.hdr.rd = m.hdr.rd
  questions : r.questions = [] ∨ ∃ rq, r.questions = [rq] ∧ lowerName rq.name = lowerName q0.name ∧
    rq.qtype = q0.qtype ∧ rq.qclass = q0.qclass
  optCount : optCount r = if queryHasOptAny m then 1 else 0
  optContent : queryHasOptAny m = true →
    r.additionals.filter (fun x => x.rtype == typeOPT) = [newEDNS0 1200 []]

theorem optCount_parts (r : Msg) :
    optCount r = countOpt r.answers + countOpt r.authorities + countOpt r.additionals := by
  simp only [optCount, List.filter_append, List.length_append, countOpt_eq_length_filter]

theorem countOpt_eq_zero (rs : List Resource) : countOpt rs = 0 ↔ rs.filter (fun x => x.rtype == typeOPT) = [] := by
  rw [countOpt_eq_length_filter, List.length_eq_zero_iff]

theorem removeOpt_noOpt (rs : List Resource) : countOpt (removeOpt rs) = 0 := by
  rw [countOpt, List.countP_eq_zero]
  intro r hr hopt
  have hne : (r.rtype != typeOPT) = true := (List.mem_filter.mp hr).2
  rw [bne, ← isOptB_eq, hopt] at hne
  cases hne

theorem stripOpt_noOpt (x : Msg) : optCount (stripOpt x) = 0 := by
  simp only [optCount_parts, stripOpt, removeOpt_noOpt]

/-- what `handleReq` returns carries no OPT record in any section: a locally built empty response, or an
    upstream reply after `dnsmsg.RemoveEDNS0` -/
theorem Answer.noOpt {q : Question} {x : Msg} (h : Answer q x) : optCount x = 0 := by
  cases h with
  | empty rcode => rfl
  | relayed resp _ => exact stripOpt_noOpt resp

/-- the EDNS0 fix-up touches the additional section only: one OPT record goes, the proxy's own is attached iff
    the query had one -/
theorem optFix_eq (m x : Msg) :
    optFix m x = { x with additionals :=
      (popEDNS0 x.additionals).2 ++ if queryHasOptAny m then [newEDNS0 udpSize []] else [] } := by
  unfold optFix
  split
  · rfl
  · rw [List.append_nil]
    rfl

theorem countOpt_append (a b : List Resource) : countOpt (a ++ b) = countOpt a + countOpt b :=
  List.countP_append

/-- the EDNS0 fix-up leaves exactly the proxy's own OPT (query with an OPT somewhere) or none (query without),
    given a response without OPT records -/
theorem optFix_opt (m x : Msg) (hx : optCount x = 0) :
    optCount (optFix m x) = (if queryHasOptAny m then 1 else 0) ∧
    (queryHasOptAny m = true →
      (optFix m x).additionals.filter (fun r => r.rtype == typeOPT) = [newEDNS0 1200 []]) := by
  rw [optCount_parts] at hx
  have hpop : countOpt (popEDNS0 x.additionals).2 = 0 := by
    rw [countOpt_pop]
    omega
  have hown : countOpt [newEDNS0 udpSize []] = 1 := rfl
  rw [optFix_eq, optCount_parts]
  constructor
  · show countOpt x.answers + countOpt x.authorities + countOpt (_ ++ _) = _
    rw [countOpt_append, hpop]
    split
    · omega
    · have hnone : countOpt ([] : List Resource) = 0 := rfl
      omega
  · intro ho
    show List.filter _ (_ ++ _) = _
    rw [if_pos ho, List.filter_append, (countOpt_eq_zero _).mp hpop, udpSize_eq]
    rfl

theorem respOK_fix (m : Msg) (q0 : Question) (x : Msg) (hx : Answer (lowerQ q0) x) :
    RespOK m q0 (fixHdr m (optFix m x)) := by
  obtain ⟨h1, h2⟩ := optFix_opt m x hx.noOpt
  obtain ⟨rq, hq, hname, htype, hclass⟩ := hx.questions
  exact {
    id := rfl, opcode := rfl, response := rfl, ra := rfl, rd := rfl
    questions := .inr ⟨rq, by rw [optFix_eq]; exact hq, hname.trans (lowerName_idem _), htype, hclass⟩
    optCount := h1
    optContent := h2 }

/-- ★ supported queries, hypotheses restricted to the path the query takes (`ru` is the deciding rule) -/
theorem spec_model_supported (env : Env) (m : Msg) (q0 : Question) (hn : notImpl m = false) (hq : m.questions = [q0])
    (hwf : ∀ ru u, env.rules.find? (fun r => r.applies (lowerName q0.name)) = some ru → ru.reject = 0 →
      ru.upstream = some u → questionWF q0 = true)
    (hrej : ∀ ru, env.rules.find? (fun r => r.applies (lowerName q0.name)) = some ru → ru.reject < 16) :
    spec env m ⟨(handle env m).resp, (handle env m).forwards⟩ = "ok" := by
  generalize hfirst : env.rules.find? (fun r => r.applies (lowerName q0.name)) = first at hwf hrej
  obtain ⟨h1, h2⟩ := handle_impl env m q0 hn hq
  obtain ⟨f1, f2⟩ := first_match env (lowerQ q0) hfirst
  rw [h1, h2, f1, f2]
  have hx := outcome_answer env (lowerQ q0) first
  have h := respOK_fix m q0 _ hx
  -- the guard of `spec`'s "viol:C12:opt-content", negated, in the shape `if_neg` takes
  have hcont : ¬ (queryHasOptAny m = true ∧ ¬ List.filter _ (fixHdr m _).additionals = [newEDNS0 1200 []]) :=
    fun ⟨a, b⟩ => b (h.optContent a)
  obtain ⟨rq, hrq, hname, (htype : _ = q0.qtype), (hclass : _ = q0.qclass)⟩ := hx.questions
  have hname : lowerName rq.name = lowerName q0.name := hname.trans (lowerName_idem q0.name)
  have hrq : (fixHdr m (optFix m (outcome env (lowerQ q0) first).1)).questions = [rq] := by
    rw [optFix_eq]
    exact hrq
  -- the header, question and client-OPT checks
  unfold spec
  simp only [supported_eq, hn, queryAny_eq]
  simp only [hq, hfirst,
    h.id, h.opcode, h.response, h.ra, h.rd,                      -- C03: the five header checks
    hrq, hname, htype, hclass, List.length_cons, List.length_nil, Nat.zero_add, gt_iff_lt, Nat.lt_irrefl, BEq.rfl,
    Bool.and_self,                                               -- C03: one question, the one asked
    h.optCount, if_neg hcont,                                    -- C12: OPT towards the client
    ne_eq, not_true_eq_false, ↓reduceIte, Bool.not_true, Bool.false_eq_true, Bool.not_false]
  -- the routing checks, by cases on the deciding rule; the fix-ups leave rcode, answers and authorities alone
  simp only [optFix_eq, fixHdr_rcode, fixHdr_answers, fixHdr_authorities]
  cases first with
  | none => rfl
  | some ru =>
    by_cases hr : ru.reject > 0
    · rw [outcome_reject env _ hr]
      simp only [hr, ↓reduceIte, List.isEmpty_nil, Bool.not_true, Bool.false_eq_true, makeEmptyResp,
        Nat.mod_eq_of_lt (hrej ru rfl), not_true_eq_false]
    · have hr0 : ru.reject = 0 := Nat.eq_zero_of_not_pos hr
      cases hu : ru.upstream with
      | none =>
        rw [outcome_noAction env _ hr0 hu]
        simp only [hr, ↓reduceIte, hu]
        rfl
      | some u =>
        obtain ⟨wire, hp, hdec⟩ := packReq_decodes env (lowerQ q0) (questionWF_lower q0 (hwf ru u rfl hr0 hu))
        rw [outcome_forward env _ hr0 hu hp]
        simp only [hr, ↓reduceIte, hu, not_true_eq_false]
        -- the forwarded bytes decode to `reqMsg`
        rw [hdec, reqMsg_eq]
        simp only [lowerQ, ownOpt, emptyHdr, wantEcs, not_true_eq_false, ↓reduceIte, Bool.not_true, Bool.false_eq_true,
          or_self, List.isEmpty_nil]
        -- what was relayed is what the upstream sent, minus OPT; anything else is SERVFAIL
        split
        · rename_i um hup
          split
          · rename_i hum
            simp only [relay_reply hup hum, stripOpt, removeOpt, relayed, not_true_eq_false, ↓reduceIte, or_self]
          · rename_i hum
            simp only [relay_fail fun resp h => by rw [hup] at h; cases h; exact Bool.eq_false_iff.mpr hum]
            rfl
        · rename_i hno
          simp only [relay_fail fun resp h => absurd h (hno resp)]
          rfl

theorem spec_model_notImpl (env : Env) (m : Msg) (hn : notImpl m = true) :
    spec env m ⟨(handle env m).resp, (handle env m).forwards⟩ = "ok" := by
  obtain ⟨h1, h2⟩ := handle_notImpl env m hn
  rw [h1, h2]
  unfold spec
  -- the response is a literal but for its question section: header, NOTIMP, no forward, no OPT
  simp only [supported_eq, hn, fixHdr, makeEmptyRespM, optCount, ne_eq, not_true_eq_false, ↓reduceIte, Bool.not_true,
    Bool.false_eq_true, Bool.not_false, List.isEmpty_nil, List.append_nil, List.filter_nil, List.length_nil,
    Nat.lt_irrefl, false_and]
  -- the question section is `m.questions.take 1`
  cases m.questions with
  | nil => rfl
  | cons q0 rest =>
    simp only [List.take_succ_cons, List.take_zero, List.length_cons, List.length_nil, Nat.zero_add, gt_iff_lt,
      Nat.lt_irrefl, ↓reduceIte, BEq.rfl, Bool.and_self, Bool.not_true, Bool.false_eq_true]

/-- ★★ The model satisfies its own executable specification: for every environment and every query whose
    questions are well formed, with reject codes that fit the 4-bit RCODE field, `spec` judges the model's answer and forwards "ok". -/
theorem spec_model (env : Env) (m : Msg)
    (hq : ∀ q ∈ m.questions, questionWF q = true)
    (hrej : ∀ ru ∈ env.rules, ru.reject < 16) :
    spec env m ⟨(handle env m).resp, (handle env m).forwards⟩ = "ok" := by
  cases hn : notImpl m with
  | true => exact spec_model_notImpl env m hn
  | false =>
    obtain ⟨q0, hq0⟩ := List.length_eq_one_iff.mp ((notImpl_eq_false m).mp hn).2.2.2
    exact spec_model_supported env m q0 hn hq0
      (fun _ _ _ _ _ => hq q0 (by rw [hq0]; exact List.mem_singleton.mpr rfl))
      (fun ru hf => hrej ru (List.mem_of_find?_eq_some hf))

/-- … in particular for a query the decoder accepted -/
theorem spec_model_wf (env : Env) (m : Msg) (hm : msgWF m = true) (hrej : ∀ ru ∈ env.rules, ru.reject < 16) :
    spec env m ⟨(handle env m).resp, (handle env m).forwards⟩ = "ok" :=
  spec_model env m (msgWF_parts hm).2.1 hrej

end MosVerif.Router
